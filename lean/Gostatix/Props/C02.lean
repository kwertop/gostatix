/-
  C02 — the cuckoo filter never loses a live element.
  In-memory filter (`BucketMem.ops emp`, namespace `Gostatix.Cuckoo.Mem`) and, at the end of the file,
  the Redis-backed filter (`BucketRedis.ops emp`, namespace `Gostatix.Cuckoo.Redis`); arbitrary
  fingerprint type `F` with empty value `emp`.
  An element is given by its positions `(fp, i1, i2)` with `fp ≠ emp`, `i1 < n`, `i2 = alt i1 fp`.
  The alternate-bucket map `alt` is a parameter; the theorems that involve the eviction loop need
    `hInv : ∀ j f, j < n → alt j f < n ∧ alt (alt j f) f = j`
  which holds for the code's `alt j f = (j ^^^ H f) % n` when `n` is a power of two
  (`C02_alt_involutive_pow2`) and fails otherwise (`C02_alt_not_involutive_npow2`).
  The random choices (`side`, `slots`) are universally quantified.
  `kc alt c j f` = number of copies of `f` stored in the candidate pair `{j, alt j f}`.
  Helper lemmas: `Gostatix/Proofs/Cuckoo*.lean`.
-/
import Gostatix.Proofs.CuckooMem
import Gostatix.Proofs.CuckooRedis
namespace Gostatix.Cuckoo.Mem

/-- For a power-of-two number of buckets the XOR-mod alternate bucket is an in-range involution. -/
theorem C02_alt_involutive_pow2 {F : Type} (H : F → Nat) (k : Nat) :
    ∀ j f, j < 2^k → altOf H (2^k) j f < 2^k ∧ altOf H (2^k) (altOf H (2^k) j f) f = j := by
  intro j f hj
  unfold altOf
  refine ⟨Nat.mod_lt _ (Nat.two_pow_pos k), ?_⟩
  rw [Nat.xor_mod_two_pow, Nat.mod_mod, Nat.xor_mod_two_pow]
  rw [Nat.xor_assoc, Nat.xor_self, Nat.xor_zero, Nat.mod_eq_of_lt hj]

/-- For `n = 5` it is not: bucket 3 with hash 6 goes to bucket 0 and comes back to bucket 1. -/
theorem C02_alt_not_involutive_npow2 :
    ¬ (∀ j f, j < 5 → altOf (fun x : Nat => x) 5 j f < 5 ∧
        altOf (fun x : Nat => x) 5 (altOf (fun x : Nat => x) 5 j f) f = j) := by
  intro h
  have := (h 3 6 (by decide)).2
  revert this
  decide

section
variable {F : Type} [DecidableEq F] [Inhabited (BucketMem F)]

theorem C02_lookup_iff_kc (emp : F) (alt : Nat → F → Nat) (c : Cuckoo (BucketMem F)) (fp : F) (i1 : Nat) :
    lookup (BucketMem.ops emp) c fp i1 (alt i1 fp) = true ↔ 0 < kc alt c i1 fp :=
  lookup_iff_kc (BucketMem.lawful emp) alt c fp i1

/-- **A successful insert stores its element and moves nothing out of its orbit.** For every
    choice of `side` and `slots` (`< bsize`), in either mode: the orbit count of the inserted key
    grows by one and every other orbit count is unchanged. -/
theorem C02_insert_ok_stored (emp : F) (alt : Nat → F → Nat) (c : Cuckoo (BucketMem F))
    (fp : F) (i1 : Nat) (d side : Bool) (slots : List Nat) (c' : Cuckoo (BucketMem F))
    (hwf : WF emp c) (hInv : ∀ j f, j < c.n → alt j f < c.n ∧ alt (alt j f) f = j)
    (hb : 0 < c.bsize) (hfp : fp ≠ emp) (hi1 : i1 < c.n) (hsl : ∀ x ∈ slots, x < c.bsize)
    (h : insert (BucketMem.ops emp) alt c fp i1 (alt i1 fp) d side slots = .ok c') :
    ∀ j g, j < c.n → g ≠ emp →
      kc alt c' j g = kc alt c j g + (if g = fp ∧ (j = i1 ∨ j = alt i1 fp) then 1 else 0) :=
  insert_ok_kc (BucketMem.lawful emp) alt c fp i1 d side slots c' ((wf_iff emp c).mp hwf) hInv hb hfp
    hi1 hsl h

/-- After a successful insert the element is found. -/
theorem C02_insert_then_lookup (emp : F) (alt : Nat → F → Nat) (c : Cuckoo (BucketMem F))
    (fp : F) (i1 : Nat) (d side : Bool) (slots : List Nat) (c' : Cuckoo (BucketMem F))
    (hwf : WF emp c) (hInv : ∀ j f, j < c.n → alt j f < c.n ∧ alt (alt j f) f = j)
    (hb : 0 < c.bsize) (hfp : fp ≠ emp) (hi1 : i1 < c.n) (hsl : ∀ x ∈ slots, x < c.bsize)
    (h : insert (BucketMem.ops emp) alt c fp i1 (alt i1 fp) d side slots = .ok c') :
    lookup (BucketMem.ops emp) c' fp i1 (alt i1 fp) = true :=
  (insert_ok_lookup (BucketMem.lawful emp) alt c fp i1 d side slots c' ((wf_iff emp c).mp hwf) hInv hb hfp
    hi1 hsl h fp i1 hfp hi1).mpr (Or.inr ⟨rfl, Or.inl rfl⟩)

/-- Every element that was found before a successful insert is still found after it, whatever
    the eviction loop moved. -/
theorem C02_insert_preserves_lookup (emp : F) (alt : Nat → F → Nat) (c : Cuckoo (BucketMem F))
    (fp : F) (i1 : Nat) (d side : Bool) (slots : List Nat) (c' : Cuckoo (BucketMem F))
    (hwf : WF emp c) (hInv : ∀ j f, j < c.n → alt j f < c.n ∧ alt (alt j f) f = j)
    (hb : 0 < c.bsize) (hfp : fp ≠ emp) (hi1 : i1 < c.n) (hsl : ∀ x ∈ slots, x < c.bsize)
    (h : insert (BucketMem.ops emp) alt c fp i1 (alt i1 fp) d side slots = .ok c')
    (g : F) (j : Nat) (hg : g ≠ emp) (hj : j < c.n)
    (hl : lookup (BucketMem.ops emp) c g j (alt j g) = true) :
    lookup (BucketMem.ops emp) c' g j (alt j g) = true :=
  (insert_ok_lookup (BucketMem.lawful emp) alt c fp i1 d side slots c' ((wf_iff emp c).mp hwf) hInv hb hfp
    hi1 hsl h g j hg hj).mpr (Or.inl hl)

/-- A failed non-destructive insert changes nothing, so nothing is lost (see C14). -/
theorem C02_failed_insert_preserves_lookup (emp : F) (alt : Nat → F → Nat) (c : Cuckoo (BucketMem F))
    (fp : F) (i1 i2 : Nat) (side : Bool) (slots : List Nat) (c' : Cuckoo (BucketMem F))
    (h : insert (BucketMem.ops emp) alt c fp i1 i2 false side slots = .full c')
    (g : F) (j1 j2 : Nat) :
    lookup (BucketMem.ops emp) c' g j1 j2 = lookup (BucketMem.ops emp) c g j1 j2 := by
  rw [insert_full_nondestructive (BucketMem.lawful emp) alt c fp i1 i2 side slots c' h]

/-- **No kick, any `n`** (no involution hypothesis, any `alt`, any `i2`): if one of the two
    candidate buckets has room, the insert succeeds, only adds `fp` to that bucket, the element is
    found, and every lookup (for any pair of positions) that was true stays true. -/
theorem C02_no_kick_any_n_partial (emp : F) (alt : Nat → F → Nat) (c : Cuckoo (BucketMem F))
    (fp : F) (i1 i2 : Nat) (d side : Bool) (slots : List Nat)
    (hwf : WF emp c) (hfp : fp ≠ emp) (hi1 : i1 < c.n) (hi2 : i2 < c.n)
    (hfree : (bucketAt c.buckets i1).isFree = true ∨ (bucketAt c.buckets i2).isFree = true) :
    ∃ c' j0, insert (BucketMem.ops emp) alt c fp i1 i2 d side slots = .ok c' ∧ (j0 = i1 ∨ j0 = i2) ∧
      (∀ j g, g ≠ emp → cnt c' j g = cnt c j g + (if j = j0 ∧ g = fp then 1 else 0)) ∧
      lookup (BucketMem.ops emp) c' fp i1 i2 = true ∧
      (∀ g k1 k2, g ≠ emp → lookup (BucketMem.ops emp) c g k1 k2 = true →
        lookup (BucketMem.ops emp) c' g k1 k2 = true) :=
  insert_nokick (BucketMem.lawful emp) alt c fp i1 i2 d side slots ((wf_iff emp c).mp hwf) hfp hi1 hi2 hfree

/-- **Effect of `Remove`.** If it returns true, the orbit count of exactly the removed key drops
    by one (every other orbit count is unchanged); if it returns false the state is unchanged. -/
theorem C02_remove_effect (emp : F) (alt : Nat → F → Nat) (c : Cuckoo (BucketMem F)) (fp : F) (i1 : Nat)
    (hwf : WF emp c) (hInv : ∀ j f, j < c.n → alt j f < c.n ∧ alt (alt j f) f = j)
    (hfp : fp ≠ emp) (hi1 : i1 < c.n) :
    ((remove (BucketMem.ops emp) c fp i1 (alt i1 fp)).2 = true →
      ∀ j g, j < c.n → g ≠ emp →
        kc alt (remove (BucketMem.ops emp) c fp i1 (alt i1 fp)).1 j g
          + (if g = fp ∧ (j = i1 ∨ j = alt i1 fp) then 1 else 0) = kc alt c j g) ∧
    ((remove (BucketMem.ops emp) c fp i1 (alt i1 fp)).2 = false →
      (remove (BucketMem.ops emp) c fp i1 (alt i1 fp)).1 = c) :=
  remove_effect (BucketMem.lawful emp) alt c fp i1 ((wf_iff emp c).mp hwf) hInv hfp hi1

/-- **Live count.** Run any history of inserts (with their choices), removes and lookups of valid
    elements from the new filter; if no destructive insert failed, then for every key
    (fingerprint `g`, orbit of bucket `j`) the number of stored copies in the orbit is exactly
    #successful inserts − #successful removes of elements with that key. -/
theorem C02_live_count_exact_partial (emp : F) (alt : Nat → F → Nat) (n bsize fpl retries : Nat)
    (h : List (COp F)) (hInv : ∀ j f, j < n → alt j f < n ∧ alt (alt j f) f = j) (hb : 0 < bsize)
    (hv : ∀ op ∈ h, ValidOp emp n bsize op)
    (hsafe : NoDestructiveFail (BucketMem.ops emp) alt (empty emp n bsize fpl retries) h)
    (g : F) (j : Nat) (hg : g ≠ emp) (hj : j < n) :
    kc alt (run (BucketMem.ops emp) alt (empty emp n bsize fpl retries) h) j g
      + okRemoves (BucketMem.ops emp) alt (keySel alt g j) (empty emp n bsize fpl retries) h
      = okInserts (BucketMem.ops emp) alt (keySel alt g j) (empty emp n bsize fpl retries) h :=
  live_count_exact (BucketMem.lawful emp) alt n bsize hInv hb _ h (empty_inv emp n bsize fpl retries) hv
    hsafe (empty_cnt emp n bsize fpl retries) g j hg hj

/-- **No false negative** (histories in which no destructive insert fails): an element whose key
    was successfully inserted more often than successfully removed is found. -/
theorem C02_no_false_negative_partial (emp : F) (alt : Nat → F → Nat) (n bsize fpl retries : Nat)
    (h : List (COp F)) (hInv : ∀ j f, j < n → alt j f < n ∧ alt (alt j f) f = j) (hb : 0 < bsize)
    (hv : ∀ op ∈ h, ValidOp emp n bsize op)
    (hsafe : NoDestructiveFail (BucketMem.ops emp) alt (empty emp n bsize fpl retries) h)
    (g : F) (j : Nat) (hg : g ≠ emp) (hj : j < n)
    (hlive : okRemoves (BucketMem.ops emp) alt (keySel alt g j) (empty emp n bsize fpl retries) h
           < okInserts (BucketMem.ops emp) alt (keySel alt g j) (empty emp n bsize fpl retries) h) :
    lookup (BucketMem.ops emp) (run (BucketMem.ops emp) alt (empty emp n bsize fpl retries) h)
      g j (alt j g) = true :=
  no_false_negative_of_live (BucketMem.lawful emp) alt n bsize hInv hb _ h (empty_inv emp n bsize fpl retries) hv
    hsafe (empty_cnt emp n bsize fpl retries) g j hg hj hlive

/-- **No false negative** for the non-destructive API: in ANY history whose inserts are all
    non-destructive (they may fail, with any choices), an element whose key was successfully
    inserted more often than successfully removed is found. -/
theorem C02_no_false_negative (emp : F) (alt : Nat → F → Nat) (n bsize fpl retries : Nat)
    (h : List (COp F)) (hInv : ∀ j f, j < n → alt j f < n ∧ alt (alt j f) f = j) (hb : 0 < bsize)
    (hv : ∀ op ∈ h, ValidOp emp n bsize op) (hnd : NonDestructive h)
    (g : F) (j : Nat) (hg : g ≠ emp) (hj : j < n)
    (hlive : okRemoves (BucketMem.ops emp) alt (keySel alt g j) (empty emp n bsize fpl retries) h
           < okInserts (BucketMem.ops emp) alt (keySel alt g j) (empty emp n bsize fpl retries) h) :
    lookup (BucketMem.ops emp) (run (BucketMem.ops emp) alt (empty emp n bsize fpl retries) h)
      g j (alt j g) = true :=
  C02_no_false_negative_partial emp alt n bsize fpl retries h hInv hb hv
    (noDestructiveFail_of_nonDestructive alt _ h hnd) g j hg hj hlive

end

/-! ### the restriction is needed; non-vacuity -/

/-- The restriction "no destructive insert fails" cannot be dropped: with `n = 2` (a power of two,
    so `alt` is an involution), one slot per bucket and 2 retries, a failing destructive insert of
    `9` displaces the live element `7` (inserted once, never removed), which is then reported
    absent. -/
theorem C02_destructive_failure_can_lose :
    let alt : Nat → Nat → Nat := fun j f => (j ^^^ f) % 2
    let c0 : Cuckoo (BucketMem Nat) := empty 0 2 1 0 2
    let h : List (COp Nat) :=
      [.insert 5 0 false true [0, 0], .insert 7 1 false true [0, 0], .insert 9 0 true true [0, 0]]
    okInserts (BucketMem.ops 0) alt (keySel alt 7 1) c0 h = 1 ∧
    okRemoves (BucketMem.ops 0) alt (keySel alt 7 1) c0 h = 0 ∧
    lookup (BucketMem.ops 0) (run (BucketMem.ops 0) alt c0 h) 7 1 (alt 1 7) = false := by
  decide +kernel

/-- The hypothesis `hInv` cannot be dropped either: with `n = 5` buckets (not a power of two) three
    successful non-destructive inserts lose a live element.  `8` goes to bucket 3; `6` (candidates
    3 and 0) goes to bucket 0; inserting `3` (candidates 0 and 3, both full) kicks `6` out of bucket 0
    into bucket `(0 ^^^ 6) % 5 = 1`, which is not one of its candidate buckets: `6` is reported absent. -/
theorem C02_npow2_kick_loses_element :
    let alt : Nat → Nat → Nat := fun j f => (j ^^^ f) % 5
    let c0 : Cuckoo (BucketMem Nat) := empty 0 5 1 0 3
    let h : List (COp Nat) :=
      [.insert 8 3 false true [0], .insert 6 3 false true [0], .insert 3 0 false true [0]]
    okInserts (BucketMem.ops 0) alt allSel c0 h = 3 ∧
    lookup (BucketMem.ops 0) (run (BucketMem.ops 0) alt c0 h) 6 3 (alt 3 6) = false := by
  decide +kernel

/-- a filter with 4 buckets of one slot: `5` in bucket 0, `6` in bucket 1 -/
def exKick : Cuckoo (BucketMem Nat) :=
  ⟨4, 1, 0, 3, [⟨1, [5], 1⟩, ⟨1, [6], 1⟩, ⟨1, [0], 0⟩, ⟨1, [0], 0⟩], 2⟩

/-- non-vacuity: inserting `9` (candidate buckets 0 and 1, both full) succeeds through two kicks:
    `9` evicts `5` from bucket 0, `5` evicts `6` from bucket 1, `6` lands in its alternate bucket 3 -/
example : insert (BucketMem.ops 0) (fun j f => (j ^^^ f) % 4) exKick 9 0 ((0 ^^^ 9) % 4) false true [0, 0, 0]
    = .ok ⟨4, 1, 0, 3, [⟨1, [9], 1⟩, ⟨1, [5], 1⟩, ⟨1, [0], 0⟩, ⟨1, [6], 1⟩], 3⟩ := by decide +kernel

example : WF 0 exKick := by decide +kernel

/-- the hypothesis `hInv` is satisfiable for the model's `altOf` -/
example : ∀ j f, j < 4 → altOf (fun x : Nat => x) 4 j f < 4 ∧
    altOf (fun x : Nat => x) 4 (altOf (fun x : Nat => x) 4 j f) f = j :=
  C02_alt_involutive_pow2 (fun x : Nat => x) 2

/-- a history with a kick, a failed non-destructive insert and a remove; all live elements found -/
example :
    let alt : Nat → Nat → Nat := fun j f => (j ^^^ f) % 4
    let c := run (BucketMem.ops 0) alt (empty 0 4 1 0 3)
      [.insert 5 0 false true [0], .insert 6 1 false true [0], .insert 9 0 false true [0, 0, 0],
       .insert 13 0 false false [0, 0, 0], .remove 5 0, .lookup 9 0]
    lookup (BucketMem.ops 0) c 9 0 (alt 0 9) = true ∧ lookup (BucketMem.ops 0) c 6 1 (alt 1 6) = true ∧
    lookup (BucketMem.ops 0) c 5 0 (alt 0 5) = false ∧ c.length = 2 := by decide +kernel

end Gostatix.Cuckoo.Mem

/-! ## the same theorems for the Redis-backed filter (`BucketRedis.ops emp`) -/
namespace Gostatix.Cuckoo.Redis

section
variable {F : Type} [DecidableEq F] [Inhabited (BucketRedis F)]

theorem C02_lookup_iff_kc (emp : F) (alt : Nat → F → Nat) (c : Cuckoo (BucketRedis F)) (fp : F) (i1 : Nat) :
    lookup (BucketRedis.ops emp) c fp i1 (alt i1 fp) = true ↔ 0 < kc alt c i1 fp :=
  lookup_iff_kc (BucketRedis.lawful emp) alt c fp i1

theorem C02_insert_ok_stored (emp : F) (alt : Nat → F → Nat) (c : Cuckoo (BucketRedis F))
    (fp : F) (i1 : Nat) (d side : Bool) (slots : List Nat) (c' : Cuckoo (BucketRedis F))
    (hwf : WF emp c) (hInv : ∀ j f, j < c.n → alt j f < c.n ∧ alt (alt j f) f = j)
    (hb : 0 < c.bsize) (hfp : fp ≠ emp) (hi1 : i1 < c.n) (hsl : ∀ x ∈ slots, x < c.bsize)
    (h : insert (BucketRedis.ops emp) alt c fp i1 (alt i1 fp) d side slots = .ok c') :
    ∀ j g, j < c.n → g ≠ emp →
      kc alt c' j g = kc alt c j g + (if g = fp ∧ (j = i1 ∨ j = alt i1 fp) then 1 else 0) :=
  insert_ok_kc (BucketRedis.lawful emp) alt c fp i1 d side slots c' ((wf_iff emp c).mp hwf) hInv hb hfp
    hi1 hsl h

theorem C02_insert_then_lookup (emp : F) (alt : Nat → F → Nat) (c : Cuckoo (BucketRedis F))
    (fp : F) (i1 : Nat) (d side : Bool) (slots : List Nat) (c' : Cuckoo (BucketRedis F))
    (hwf : WF emp c) (hInv : ∀ j f, j < c.n → alt j f < c.n ∧ alt (alt j f) f = j)
    (hb : 0 < c.bsize) (hfp : fp ≠ emp) (hi1 : i1 < c.n) (hsl : ∀ x ∈ slots, x < c.bsize)
    (h : insert (BucketRedis.ops emp) alt c fp i1 (alt i1 fp) d side slots = .ok c') :
    lookup (BucketRedis.ops emp) c' fp i1 (alt i1 fp) = true :=
  (insert_ok_lookup (BucketRedis.lawful emp) alt c fp i1 d side slots c' ((wf_iff emp c).mp hwf) hInv hb hfp
    hi1 hsl h fp i1 hfp hi1).mpr (Or.inr ⟨rfl, Or.inl rfl⟩)

theorem C02_insert_preserves_lookup (emp : F) (alt : Nat → F → Nat) (c : Cuckoo (BucketRedis F))
    (fp : F) (i1 : Nat) (d side : Bool) (slots : List Nat) (c' : Cuckoo (BucketRedis F))
    (hwf : WF emp c) (hInv : ∀ j f, j < c.n → alt j f < c.n ∧ alt (alt j f) f = j)
    (hb : 0 < c.bsize) (hfp : fp ≠ emp) (hi1 : i1 < c.n) (hsl : ∀ x ∈ slots, x < c.bsize)
    (h : insert (BucketRedis.ops emp) alt c fp i1 (alt i1 fp) d side slots = .ok c')
    (g : F) (j : Nat) (hg : g ≠ emp) (hj : j < c.n)
    (hl : lookup (BucketRedis.ops emp) c g j (alt j g) = true) :
    lookup (BucketRedis.ops emp) c' g j (alt j g) = true :=
  (insert_ok_lookup (BucketRedis.lawful emp) alt c fp i1 d side slots c' ((wf_iff emp c).mp hwf) hInv hb hfp
    hi1 hsl h g j hg hj).mpr (Or.inl hl)

theorem C02_failed_insert_preserves_lookup (emp : F) (alt : Nat → F → Nat) (c : Cuckoo (BucketRedis F))
    (fp : F) (i1 i2 : Nat) (side : Bool) (slots : List Nat) (c' : Cuckoo (BucketRedis F))
    (h : insert (BucketRedis.ops emp) alt c fp i1 i2 false side slots = .full c')
    (g : F) (j1 j2 : Nat) :
    lookup (BucketRedis.ops emp) c' g j1 j2 = lookup (BucketRedis.ops emp) c g j1 j2 := by
  rw [insert_full_nondestructive (BucketRedis.lawful emp) alt c fp i1 i2 side slots c' h]

theorem C02_no_kick_any_n_partial (emp : F) (alt : Nat → F → Nat) (c : Cuckoo (BucketRedis F))
    (fp : F) (i1 i2 : Nat) (d side : Bool) (slots : List Nat)
    (hwf : WF emp c) (hfp : fp ≠ emp) (hi1 : i1 < c.n) (hi2 : i2 < c.n)
    (hfree : (bucketAt c.buckets i1).isFree = true ∨ (bucketAt c.buckets i2).isFree = true) :
    ∃ c' j0, insert (BucketRedis.ops emp) alt c fp i1 i2 d side slots = .ok c' ∧ (j0 = i1 ∨ j0 = i2) ∧
      (∀ j g, g ≠ emp → cnt c' j g = cnt c j g + (if j = j0 ∧ g = fp then 1 else 0)) ∧
      lookup (BucketRedis.ops emp) c' fp i1 i2 = true ∧
      (∀ g k1 k2, g ≠ emp → lookup (BucketRedis.ops emp) c g k1 k2 = true →
        lookup (BucketRedis.ops emp) c' g k1 k2 = true) :=
  insert_nokick (BucketRedis.lawful emp) alt c fp i1 i2 d side slots ((wf_iff emp c).mp hwf) hfp hi1 hi2 hfree

theorem C02_remove_effect (emp : F) (alt : Nat → F → Nat) (c : Cuckoo (BucketRedis F)) (fp : F) (i1 : Nat)
    (hwf : WF emp c) (hInv : ∀ j f, j < c.n → alt j f < c.n ∧ alt (alt j f) f = j)
    (hfp : fp ≠ emp) (hi1 : i1 < c.n) :
    ((remove (BucketRedis.ops emp) c fp i1 (alt i1 fp)).2 = true →
      ∀ j g, j < c.n → g ≠ emp →
        kc alt (remove (BucketRedis.ops emp) c fp i1 (alt i1 fp)).1 j g
          + (if g = fp ∧ (j = i1 ∨ j = alt i1 fp) then 1 else 0) = kc alt c j g) ∧
    ((remove (BucketRedis.ops emp) c fp i1 (alt i1 fp)).2 = false →
      (remove (BucketRedis.ops emp) c fp i1 (alt i1 fp)).1 = c) :=
  remove_effect (BucketRedis.lawful emp) alt c fp i1 ((wf_iff emp c).mp hwf) hInv hfp hi1

theorem C02_live_count_exact_partial (emp : F) (alt : Nat → F → Nat) (n bsize fpl retries : Nat)
    (h : List (COp F)) (hInv : ∀ j f, j < n → alt j f < n ∧ alt (alt j f) f = j) (hb : 0 < bsize)
    (hv : ∀ op ∈ h, ValidOp emp n bsize op)
    (hsafe : NoDestructiveFail (BucketRedis.ops emp) alt ((empty n bsize fpl retries : Cuckoo (BucketRedis F))) h)
    (g : F) (j : Nat) (hg : g ≠ emp) (hj : j < n) :
    kc alt (run (BucketRedis.ops emp) alt ((empty n bsize fpl retries : Cuckoo (BucketRedis F))) h) j g
      + okRemoves (BucketRedis.ops emp) alt (keySel alt g j) ((empty n bsize fpl retries : Cuckoo (BucketRedis F))) h
      = okInserts (BucketRedis.ops emp) alt (keySel alt g j) ((empty n bsize fpl retries : Cuckoo (BucketRedis F))) h :=
  live_count_exact (BucketRedis.lawful emp) alt n bsize hInv hb _ h (empty_inv emp n bsize fpl retries) hv
    hsafe (fun j g hj _ => empty_cnt n bsize fpl retries j g hj) g j hg hj

theorem C02_no_false_negative_partial (emp : F) (alt : Nat → F → Nat) (n bsize fpl retries : Nat)
    (h : List (COp F)) (hInv : ∀ j f, j < n → alt j f < n ∧ alt (alt j f) f = j) (hb : 0 < bsize)
    (hv : ∀ op ∈ h, ValidOp emp n bsize op)
    (hsafe : NoDestructiveFail (BucketRedis.ops emp) alt ((empty n bsize fpl retries : Cuckoo (BucketRedis F))) h)
    (g : F) (j : Nat) (hg : g ≠ emp) (hj : j < n)
    (hlive : okRemoves (BucketRedis.ops emp) alt (keySel alt g j) ((empty n bsize fpl retries : Cuckoo (BucketRedis F))) h
           < okInserts (BucketRedis.ops emp) alt (keySel alt g j) ((empty n bsize fpl retries : Cuckoo (BucketRedis F))) h) :
    lookup (BucketRedis.ops emp) (run (BucketRedis.ops emp) alt ((empty n bsize fpl retries : Cuckoo (BucketRedis F))) h)
      g j (alt j g) = true :=
  no_false_negative_of_live (BucketRedis.lawful emp) alt n bsize hInv hb _ h (empty_inv emp n bsize fpl retries) hv
    hsafe (fun j g hj _ => empty_cnt n bsize fpl retries j g hj) g j hg hj hlive

theorem C02_no_false_negative (emp : F) (alt : Nat → F → Nat) (n bsize fpl retries : Nat)
    (h : List (COp F)) (hInv : ∀ j f, j < n → alt j f < n ∧ alt (alt j f) f = j) (hb : 0 < bsize)
    (hv : ∀ op ∈ h, ValidOp emp n bsize op) (hnd : NonDestructive h)
    (g : F) (j : Nat) (hg : g ≠ emp) (hj : j < n)
    (hlive : okRemoves (BucketRedis.ops emp) alt (keySel alt g j) ((empty n bsize fpl retries : Cuckoo (BucketRedis F))) h
           < okInserts (BucketRedis.ops emp) alt (keySel alt g j) ((empty n bsize fpl retries : Cuckoo (BucketRedis F))) h) :
    lookup (BucketRedis.ops emp) (run (BucketRedis.ops emp) alt ((empty n bsize fpl retries : Cuckoo (BucketRedis F))) h)
      g j (alt j g) = true :=
  C02_no_false_negative_partial emp alt n bsize fpl retries h hInv hb hv
    (noDestructiveFail_of_nonDestructive alt _ h hnd) g j hg hj hlive

end

/-! ### non-vacuity (Redis): the same two-kick insert as for the in-memory filter -/

example : insert (BucketRedis.ops 0) (fun j f => (j ^^^ f) % 4)
    (⟨4, 1, 0, 3, [⟨1, [5], 1⟩, ⟨1, [6], 1⟩, ⟨1, [], 0⟩, ⟨1, [], 0⟩], 2⟩ : Cuckoo (BucketRedis Nat))
    9 0 ((0 ^^^ 9) % 4) false true [0, 0, 0]
    = .ok ⟨4, 1, 0, 3, [⟨1, [9], 1⟩, ⟨1, [5], 1⟩, ⟨1, [], 0⟩, ⟨1, [6], 1⟩], 3⟩ := by decide +kernel

end Gostatix.Cuckoo.Redis
