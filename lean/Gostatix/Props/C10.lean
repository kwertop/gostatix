/-
  C10 — JSON Export / Import round trip.

  "For every reachable state of every structure, importing the bytes produced by Export into a
   fresh instance yields a structure with the same parameters that answers every query
   identically (including Length and reported counts), compares Equal to the original, and
   behaves identically under further updates.  For the Redis-backed variants this holds when
   importing under new keys, and the original is left untouched."

  Model: Model/Json.lean (`encoding/json` itself is trusted).  Lemmas: Proofs/Json.lean.

  Shape of the statements.  In memory the imported state is EQUAL to the exported one (the overwritten
  instance `t` is arbitrary).  For Redis the imported handle is the exporter's up to the key names, and its
  *view* — the pure model that every operation of the handle reads and writes — equals the exporter's view
  in the store after the import.  Every query and update of the models is a function of that state/view, so
  equal states answer and evolve identically; one such corollary (`…_queries`) is spelled out per structure.

  Where the code does not round-trip a state the statement carries the missing hypothesis and is called
  `…_partial`, with a `…_counterexample` (a concrete witness, or one parametric in the offending name or limit).
-/
import Gostatix.Proofs.Json
namespace Gostatix.Json

/-- Every field `Import` assigns is restored; `BitSetMem.size` is recomputed as `set.Len()`. -/
theorem C10_roundtrip_bloomMem (s t : BloomMem) :
    BloomMem.importDoc s.exportDoc t = { s with bsSize := s.bits.length } := rfl

/-- `BitSetMem.size = set.Len()` holds for every filter built by a constructor from a non-empty bitset. -/
theorem C10_roundtrip_bloomMem_exact (s t : BloomMem) (h : s.bsSize = s.bits.length) :
    BloomMem.importDoc s.exportDoc t = s := by
  rw [C10_roundtrip_bloomMem, ← h]

/-- parameters and bit vector are all that `Lookup`, `Insert`, `Equals`, `BloomPositiveRate` read -/
theorem C10_bloomMem_queries (s t : BloomMem) :
    (BloomMem.importDoc s.exportDoc t).toModel = s.toModel ∧
    (∀ ps, (BloomMem.importDoc s.exportDoc t).toModel.lookup ps = s.toModel.lookup ps) ∧
    (∀ (E : Type) (probes : E → List Nat) (ops : List (BloomOp E)),
      Bloom.run probes (BloomMem.importDoc s.exportDoc t).toModel ops = Bloom.run probes s.toModel ops) :=
  ⟨rfl, fun _ => rfl, fun _ _ _ => rfl⟩

example :
    let s : BloomMem := ⟨8, 3, 8, [true, false, false, true, false, true, false, false]⟩
    let t : BloomMem := ⟨64, 1, 64, List.replicate 64 false⟩
    BloomMem.importDoc s.exportDoc t = s ∧ s.toModel.lookup [0, 3, 5] = true := by decide +kernel

/-- `util.ConvertByteToLittleEndianByte` is an involution -/
theorem C10_bloom_redis_revByte : ∀ b : UInt8, revByte (revByte b) = b := by
  intro b
  unfold revByte
  rw [UInt8.toNat_ofNat', revNat_invol b.toNat (UInt8.toNat_lt b), UInt8.ofNat_toNat]

/-- `BitSetRedis.marshal` followed by `BitSetRedis.unmarshal` (the bytes handed to / received from base64) -/
theorem C10_bloom_redis_codec (size : Nat) (hs : size < 2 ^ 64) (v : Bytes) :
    unmarshalRedis (marshalRedis size v) = some (size, v) := by
  have hl := Codec.length_encU64 size
  rw [unmarshalRedis, marshalRedis, if_neg (by rw [List.length_append, hl]; omega), List.take_left' hl,
    List.drop_left' hl, List.reverse_reverse, List.map_map,
    map_eq_self (f := revByte ∘ revByte) fun b _ => C10_bloom_redis_revByte b, Codec.beVal_encU64 hs]

/-- `Import` writes into the importing instance's own bitmap key -/
theorem C10_roundtrip_bloomRedis (h t : BloomRedis) (st : Store) (hs : h.bsSize < 2 ^ 64) :
    BloomRedis.importDoc (h.exportDoc st) t st =
      .ok ({ h with key := t.key, metadataKey := t.metadataKey },
           st.set (.rand t.key) (.str (h.bitmap st))) := by
  unfold BloomRedis.importDoc BloomRedis.exportDoc
  simp only [C10_bloom_redis_codec _ hs]

/-- `GETBIT key i`: bit `7 - i%8` of byte `i/8` (Model/Redis.lean has the same function, `Redis.getBit`,
    for the Redis model) -/
def getBit (v : Bytes) (i : Nat) : Bool := (v.getD (i / 8) 0).toNat.testBit (7 - i % 8)
def BloomRedis.lookup (h : BloomRedis) (st : Store) (ps : List Nat) : Bool :=
  ps.all (getBit (h.bitmap st))

theorem C10_bloomRedis_queries (h t : BloomRedis) (st : Store) (hs : h.bsSize < 2 ^ 64) :
    ∃ h' st', BloomRedis.importDoc (h.exportDoc st) t st = .ok (h', st') ∧
      h'.size = h.size ∧ h'.k = h.k ∧ h'.bitmap st' = h.bitmap st ∧
      ∀ ps, h'.lookup st' ps = h.lookup st ps := by
  have hb := congrArg Val.toStr (Store.set_same st (.rand t.key) (.str (h.bitmap st)))
  exact ⟨_, _, C10_roundtrip_bloomRedis h t st hs, rfl, rfl, hb,
    fun ps => congrArg (fun v => ps.all (getBit v)) hb⟩

theorem C10_redis_original_untouched_bloom (h t : BloomRedis) (st : Store) (hs : h.bsSize < 2 ^ 64) :
    ∃ h' st', BloomRedis.importDoc (h.exportDoc st) t st = .ok (h', st') ∧
      ∀ k, k ≠ .rand t.key → st' k = st k :=
  ⟨_, _, C10_roundtrip_bloomRedis h t st hs, fun _ hk => Store.set_other _ _ hk⟩

example :
    let st : Store := fun k => if k = .rand 1 then .str [0x80, 0x01, 0x00] else
      if k = .rand 2 then .str [0, 0, 0, 0, 0] else .absent
    let h : BloomRedis := ⟨3, 2, 3, 1, 10⟩
    let t : BloomRedis := ⟨5, 7, 5, 2, 20⟩
    h.exportDoc st = ⟨3, 2, [0, 0, 0, 0, 0, 0, 0, 3, 0x00, 0x80, 0x01]⟩ ∧
    ∃ st', BloomRedis.importDoc (h.exportDoc st) t st = .ok (⟨3, 2, 3, 2, 20⟩, st') ∧
      st' (.rand 2) = .str [0x80, 0x01, 0x00] ∧ st' (.rand 1) = st (.rand 1) := by
  refine ⟨by decide +kernel, _, C10_roundtrip_bloomRedis _ _ _ (by decide), by decide +kernel, by decide +kernel⟩

/-- `Import` does not read the exported `l` but recounts the non-empty slots, hence the counter clause of
    `CuckooMem.WF`.  Holes in the middle of a bucket (removed entries) are covered. -/
theorem C10_roundtrip_cuckooMem_partial (s t : CuckooMem) (wf : CuckooMem.WF s) :
    CuckooMem.importDoc (CuckooMem.exportDoc s) t = .ok s := by
  have hb := CuckooMem.export_buckets s wf.nb
  have hl : (CuckooMem.exportDoc s).b.length = s.n := by rw [hb, List.length_map, wf.nb]
  have e1 : (CuckooMem.exportDoc s).s = s.n := rfl
  -- every bucket comes back: same slots, and the recount is the cached length
  have hbs : s.buckets.map (CuckooMem.restoreBucket s.bsize ∘ CuckooMem.bucketDoc) = s.buckets :=
    map_eq_self fun b hbm => by
      obtain ⟨h1, h2, h3⟩ := wf.bucket b hbm
      rw [Function.comp, CuckooMem.restoreBucket_spec _ _ (h2.trans h1), ← h1]
      exact congrArg (BucketMem.mk b.size b.elements) h3.symm
  rw [CuckooMem.importDoc, if_neg (by rw [hl, e1]; exact Nat.lt_irrefl _), e1, range_map_getD _ _ _ _ hl, hb,
    List.map_map]
  rw [show (CuckooMem.exportDoc s).bs = s.bsize from rfl, hbs]
  rfl

/-- the imported state IS the exported one (header, "Shape of the statements") -/
theorem C10_cuckooMem_queries (s t : CuckooMem) (wf : CuckooMem.WF s) :
    ∃ s', CuckooMem.importDoc (CuckooMem.exportDoc s) t = .ok s' ∧ s'.length = s.length ∧
      (∀ fp i1 i2, Cuckoo.lookup (BucketMem.ops "") s' fp i1 i2 = Cuckoo.lookup (BucketMem.ops "") s fp i1 i2) ∧
      (∀ alt fp i1 i2 d side slots,
        Cuckoo.insert (BucketMem.ops "") alt s' fp i1 i2 d side slots =
        Cuckoo.insert (BucketMem.ops "") alt s fp i1 i2 d side slots) ∧
      (∀ fp i1 i2, Cuckoo.remove (BucketMem.ops "") s' fp i1 i2 = Cuckoo.remove (BucketMem.ops "") s fp i1 i2) :=
  ⟨s, C10_roundtrip_cuckooMem_partial s t wf, rfl, fun _ _ _ => rfl, fun _ _ _ _ _ _ _ => rfl,
    fun _ _ _ => rfl⟩

/-- The counter clause of `CuckooMem.WF` / `CuckooRedis.WF` is maintained by `add`, `remove` and the
    eviction loop's `set` (which only runs on a bucket that is not free) as long as the fingerprint is not
    the empty string (`add` refuses it; `remove ""` and `set … ""` break the counter). -/
theorem C10_cuckoo_bucket_counters :
    (∀ (b : BucketMem String) (e : String), BucketMemInv b → BucketMemInv (BucketMem.add "" b e)) ∧
    (∀ (b : BucketMem String) (e : String), e ≠ "" → BucketMemInv b → BucketMemInv (BucketMem.remove "" b e)) ∧
    (∀ (b : BucketMem String) (i : Nat) (e : String), e ≠ "" → b.isFree = false →
        BucketMemInv b → BucketMemInv (BucketMem.set b i e)) ∧
    (∀ (b : BucketRedis String) (e : String), BucketRedisInv b → BucketRedisInv (BucketRedis.add "" b e)) ∧
    (∀ (b : BucketRedis String) (e : String), e ≠ "" → BucketRedisInv b → BucketRedisInv (BucketRedis.remove "" b e)) ∧
    (∀ (b : BucketRedis String) (i : Nat) (e : String), e ≠ "" → b.isFree = false →
        BucketRedisInv b → BucketRedisInv (BucketRedis.set b i e)) :=
  ⟨fun _ e h => h.add e, fun _ e he h => h.remove e he, fun _ i e he hf h => h.set_full hf i e he,
   fun _ e h => h.add e, fun _ e he h => h.remove e he, fun _ i e he hf h => h.set_full hf i e he⟩

/-- the state reached in Go by `NewCuckooFilterWithRetries(2, 1, 20, 5)` and `Insert("e0"), Insert("e1"), …`
    (destructive) until the filter is full: with `fingerPrintLength = 20` every element whose 64-bit hash has
    19 decimal digits gets the EMPTY fingerprint (`getPositions` returns an error that every
    caller drops), and the eviction loop writes it into a full bucket with `set`, leaving
    `length = 1` over the slot `""`.  After Export/Import the bucket is free again (`l` is
    recounted): `Equals` is false and the next `Insert` goes elsewhere. -/
theorem C10_cuckooMem_counterexample :
    let s : CuckooMem := ⟨2, 1, 20, 5, [⟨1, [""], 1⟩, ⟨1, ["15172694540135229311"], 1⟩], 4⟩
    ∃ s', CuckooMem.importDoc (CuckooMem.exportDoc s) s = .ok s' ∧ s' ≠ s ∧
      BucketMem.isFree (Cuckoo.bucketAt s.buckets 0) = false ∧
      BucketMem.isFree (Cuckoo.bucketAt s'.buckets 0) = true :=
  ⟨⟨2, 1, 20, 5, [⟨1, [""], 0⟩, ⟨1, ["15172694540135229311"], 1⟩], 4⟩, by decide +kernel⟩

/-- non-vacuity -/
example :
    let s : CuckooMem := ⟨3, 3, 2, 500, [⟨3, ["17", "", "42"], 2⟩, ⟨3, ["", "", ""], 0⟩, ⟨3, ["10", "11", "12"], 3⟩], 5⟩
    CuckooMem.WF s ∧ CuckooMem.importDoc (CuckooMem.exportDoc s) (Cuckoo.mk 1 1 1 1 [] 9) = .ok s := by
  intro s
  have wf : CuckooMem.WF s := ⟨by decide +kernel, by decide +kernel⟩
  exact ⟨wf, C10_roundtrip_cuckooMem_partial s _ wf⟩

theorem C10_roundtrip_cmsMem (s t : CMSMem) : CMSMem.importDoc s.exportDoc t = s := rfl

theorem C10_cmsMem_queries (s t : CMSMem) :
    (∀ pos, (CMSMem.importDoc s.exportDoc t).core.count pos = s.core.count pos) ∧
    (∀ pos c, (CMSMem.importDoc s.exportDoc t).core.update pos c = s.core.update pos c) ∧
    CMS.equals (CMSMem.importDoc s.exportDoc t).core s.core = true := by
  refine ⟨fun _ => rfl, fun _ _ => rfl, ?_⟩
  simp [C10_roundtrip_cmsMem, CMS.equals]

/-- non-vacuity -/
example :
    CMSMem.importDoc (CMSMem.exportDoc ⟨⟨2, 3, [[1, 0, 4], [0, 5, 0]]⟩, 5⟩) ⟨⟨1, 1, [[9]]⟩, 9⟩
      = ⟨⟨2, 3, [[1, 0, 4], [0, 5, 0]]⟩, 5⟩ ∧
    CMSMem.importDoc (CMSMem.exportDoc ⟨⟨3, 1, [[7], [7], [7]]⟩, 7⟩) ⟨⟨1, 1, [[9]]⟩, 9⟩
      = ⟨⟨3, 1, [[7], [7], [7]]⟩, 7⟩ := by decide +kernel

theorem C10_roundtrip_hllMem (s t : HLLMem) : HLLMem.importDoc s.exportDoc t = s := rfl

theorem C10_hllMem_queries (s t : HLLMem) :
    (HLLMem.importDoc s.exportDoc t).core.regs = s.core.regs ∧
    HLL.equals (HLLMem.importDoc s.exportDoc t).core s.core = true ∧
    (∀ idx v, (HLLMem.importDoc s.exportDoc t).core.update idx v = s.core.update idx v) := by
  refine ⟨rfl, ?_, fun _ _ => rfl⟩
  simp [C10_roundtrip_hllMem, HLL.equals]

example :
    HLLMem.importDoc (HLLMem.exportDoc ⟨⟨4, [0, 17, 3, 255]⟩, 2, 4604418534313441775⟩) ⟨⟨16, List.replicate 16 0⟩, 4, 1⟩
      = ⟨⟨4, [0, 17, 3, 255]⟩, 2, 4604418534313441775⟩ := by decide

/-- `nk` (filter key, fresh) and `nmk` (metadata key) are the new names.  The view covers every bucket's
    list (holes included, positions preserved by `RPUSH` in exported order), its `_len` counter and
    `Length()`.  `CuckooRedis.WF` is needed because `Import` recounts instead of using the exported `l`,
    see `C10_cuckooRedis_counterexample`. -/
theorem C10_roundtrip_cuckooRedis_partial (h t : CuckooRedis) (st : Store) (nk nmk : Nat)
    (wf : CuckooRedis.WF h st) (fresh : Fresh st nk) (hne : nk ≠ nmk) :
    let r := CuckooRedis.importDoc (h.exportDoc st) nk nmk t st
    r.1 = { h with key := nk, metadataKey := nmk } ∧ r.1.view r.2 = h.view st := by
  intro r
  let d := h.exportDoc st
  let h' : CuckooRedis :=
    { t with n := d.s, bsize := d.bs, fpl := d.fpl, retries := d.r, key := nk, metadataKey := nmk }
  let st1 := CuckooRedis.setMetadata st h' d.l
  let st2 := CuckooRedis.initBuckets st1 h'
  have hr : r.2 = forN d.b.length
      (fun st i => CuckooRedis.importBucket nk st i (d.b.getD i ⟨0, 0, [], none⟩)) st2 := rfl
  have hn : d.b.length = h.n := CuckooRedis.export_b_length h st
  -- before the bucket loop only the metadata hash, the bucket-key list and the counters (by 0) are
  -- written, so the new buckets are still empty
  have fr1 : Frame (· = .rand nmk) st st1 := CuckooRedis.setMetadata_frame h' d.l st rfl
  have empty : ∀ i, st2.getStrs (.cuckooBucket nk i) = [] ∧ st2.getInt (.cuckooBucketLen nk i) = 0 :=
    fun i =>
    ⟨congrArg Val.toStrs ((CuckooRedis.initBuckets_frame (P := (· ≠ .cuckooBucket nk i)) h' st1
        Key.noConfusion (fun _ => Key.noConfusion) _ fun h => h rfl).trans
        ((fr1 _ Key.noConfusion).trans (fresh _ rfl))),
      (CuckooRedis.initBuckets_getInt h' st1 Key.noConfusion).trans
        (congrArg Val.toInt ((fr1 _ Key.noConfusion).trans (fresh _ rfl)))⟩
  have hs := CuckooRedis.importBuckets_spec nk (fun i => d.b.getD i ⟨0, 0, [], none⟩) st2 empty d.b.length
  -- `initBuckets` and the bucket loop write keys of `nk` only; the metadata hash is under `nmk ≠ nk`
  have fr : Frame (·.id = nk) st1 r.2 :=
    (CuckooRedis.initBuckets_frame (P := (·.id = nk)) h' st1 rfl fun _ => rfl).trans
      (CuckooRedis.importBuckets_frame nk d.b st2 (fun _ => rfl) fun _ => rfl)
  have hl : r.2.hget (.rand nmk) "length" = st.hget (.rand h.metadataKey) "length" := by
    rw [Store.hget, Store.getHash, fr (.rand nmk) fun e => hne e.symm]
    exact CuckooRedis.hget_setMetadata st h' d.l
  have hh := CuckooRedis.import_export_handle h t st nk nmk wf.nb
  refine ⟨hh, ?_⟩
  rw [show r.1 = _ from hh]
  simp only [CuckooRedis.view, hl]
  congr 1
  refine List.map_congr_left fun i hi => ?_
  have hi := List.mem_range.1 hi
  have e := CuckooRedis.export_bucket h st hi
  -- `Import` recounts the non-empty entries; `wf.len` says the exporter's counter is that number
  simp only [CuckooRedis.bucketView, hr, ((hs i).1.trans (if_pos (hn ▸ hi))).trans e,
    ((hs i).2.trans (if_pos (hn ▸ hi))).trans (congrArg occupied e), wf.len i hi]

theorem C10_cuckooRedis_queries (h t : CuckooRedis) (st : Store) (nk nmk : Nat)
    (wf : CuckooRedis.WF h st) (fresh : Fresh st nk) (hne : nk ≠ nmk) :
    let r := CuckooRedis.importDoc (h.exportDoc st) nk nmk t st
    (r.1.view r.2).length = (h.view st).length ∧
    (∀ fp i1 i2, Cuckoo.lookup (BucketRedis.ops "") (r.1.view r.2) fp i1 i2
        = Cuckoo.lookup (BucketRedis.ops "") (h.view st) fp i1 i2) ∧
    (∀ alt fp i1 i2 d side slots,
        Cuckoo.insert (BucketRedis.ops "") alt (r.1.view r.2) fp i1 i2 d side slots =
        Cuckoo.insert (BucketRedis.ops "") alt (h.view st) fp i1 i2 d side slots) := by
  intro r
  have := (C10_roundtrip_cuckooRedis_partial h t st nk nmk wf fresh hne).2
  simp only [r, this, implies_true, and_self]

/-- concrete store: filter 0 (metadata 1) with two buckets of size 3, one with a hole -/
def cuckooStore0 : Store := fun k =>
  if k = .rand 1 then .hash [("size", 2), ("bucketSize", 3), ("fingerPrintLength", 2), ("retries", 500), ("key", 0), ("length", 3)]
  else if k = .rand 0 then .keys [.cuckooBucket 0 1, .cuckooBucket 0 0]
  else if k = .cuckooBucket 0 0 then .strs ["17", "", "42"]
  else if k = .cuckooBucketLen 0 0 then .int 2
  else if k = .cuckooBucket 0 1 then .strs ["99"]
  else if k = .cuckooBucketLen 0 1 then .int 1
  else .absent

/-- the if-chain of `cuckooStore0` is nested `Store.set` by unfolding: one `Fresh.set` per branch, from the
    inside out -/
theorem cuckooStore0_fresh (id : Nat) (h0 : id ≠ 0) (h1 : id ≠ 1) : Fresh cuckooStore0 id :=
  .set (.set (.set (.set (.set (.set (.absent id) h0) h0) h0) h0) h0) h1

/-- non-vacuity: a bucket with a hole in the middle, a partially filled list -/
example :
    let h : CuckooRedis := ⟨2, 3, 2, 500, 0, 1, 2⟩
    let t : CuckooRedis := ⟨5, 1, 1, 1, 3, 4, 5⟩
    let r := CuckooRedis.importDoc (h.exportDoc cuckooStore0) 7 8 t cuckooStore0
    CuckooRedis.WF h cuckooStore0 ∧ r.1 = ⟨2, 3, 2, 500, 7, 8, 2⟩ ∧
    r.1.view r.2 = ⟨2, 3, 2, 500, [⟨3, ["17", "", "42"], 2⟩, ⟨3, ["99"], 1⟩], 3⟩ := by
  intro h t r
  have wf : CuckooRedis.WF h cuckooStore0 := ⟨rfl, by decide +kernel⟩
  have := C10_roundtrip_cuckooRedis_partial h t cuckooStore0 7 8 wf
    (cuckooStore0_fresh 7 (by decide) (by decide)) (by decide)
  exact ⟨wf, this.1, this.2.trans (by decide +kernel)⟩

/-- the excluded state (counter says 1, the only list entry is the empty string): the imported
    bucket's counter is 0, so `isFree` flips -/
theorem C10_cuckooRedis_counterexample :
    let st : Store := fun k =>
      if k = .rand 1 then .hash [("length", 1)]
      else if k = .cuckooBucket 0 0 then .strs [""]
      else if k = .cuckooBucketLen 0 0 then .int 1 else .absent
    let h : CuckooRedis := ⟨1, 1, 20, 500, 0, 1, 1⟩
    let r := CuckooRedis.importDoc (h.exportDoc st) 7 8 h st
    r.1.view r.2 ≠ h.view st ∧
    BucketRedis.isFree (Cuckoo.bucketAt (h.view st).buckets 0) = false ∧
    BucketRedis.isFree (Cuckoo.bucketAt (r.1.view r.2).buckets 0) = true := by
  decide +kernel

/-- Any number of columns ≥ 1.  No freshness needed: `setMatrix` deletes each row key before pushing. -/
theorem C10_roundtrip_cmsRedis (h t : CMSRedis) (st : Store) (nk : Nat)
    (wf : CMSRedis.WF h st) :
    ∃ st', CMSRedis.importDoc (h.exportDoc st) nk t st
        = .ok ({ h with key := nk, metadataKey := t.metadataKey }, st') ∧
      CMSRedis.view { h with key := nk, metadataKey := t.metadataKey } st' = h.view st ∧
      ∀ k : Key, k.id ≠ nk → st' k = st k := by
  obtain ⟨S, hS, hv, hf⟩ := CMSRedis.setMatrix_view h st st nk t.metadataKey wf
  refine ⟨S, ?_, hv, hf⟩
  simp only [CMSRedis.importDoc, CMSRedis.exportDoc, hS]

/-- a 3×1 sketch under key 0 -/
def cmsStore1 : Store := fun k =>
  if k = .cmsRow 0 0 then .nums [3] else if k = .cmsRow 0 1 then .nums [5]
  else if k = .cmsRow 0 2 then .nums [8] else .absent

example :
    (match CMSRedis.importDoc (CMSRedis.exportDoc ⟨3, 1, 8, 0, 1⟩ cmsStore1) 7 ⟨4, 4, 0, 2, 3⟩ cmsStore1 with
      | .ok (h, st) => h == ⟨3, 1, 8, 7, 3⟩ && st (.cmsRow 7 0) == .nums [3] &&
          st (.cmsRow 7 1) == .nums [5] && st (.cmsRow 7 2) == .nums [8] &&
          st (.cmsRow 7 3) == .absent && st (.cmsRow 0 1) == .nums [5]
      | _ => false) = true := by decide +kernel

example :
    (match CMSRedis.importDoc ⟨2, 2, 8, [[3, 0], [0, 5]], some 0⟩ 7 ⟨4, 4, 0, 2, 3⟩ cmsStore1 with
      | .ok (h, st) => h == ⟨2, 2, 8, 7, 3⟩ && st (.cmsRow 7 0) == .nums [3, 0] && st (.cmsRow 7 1) == .nums [0, 5]
      | _ => false) = true := by decide +kernel

theorem C10_cmsRedis_queries (h t : CMSRedis) (st : Store) (nk : Nat)
    (wf : CMSRedis.WF h st) :
    ∃ h' st', CMSRedis.importDoc (h.exportDoc st) nk t st = .ok (h', st') ∧
      (∀ pos, (h'.view st').core.count pos = (h.view st).core.count pos) ∧
      (∀ pos c, (h'.view st').core.update pos c = (h.view st).core.update pos c) ∧
      CMS.equals (h'.view st').core (h.view st).core = true := by
  obtain ⟨st', h1, h2, _⟩ := C10_roundtrip_cmsRedis h t st nk wf
  exact ⟨_, st', h1, by rw [h2]; exact C10_cmsMem_queries (h.view st) (h.view st)⟩

def cmsStore0 : Store := fun k =>
  if k = .cmsRow 0 0 then .nums [1, 0, 4] else if k = .cmsRow 0 1 then .nums [0, 5, 0] else .absent

/-- non-vacuity, through the theorem -/
example :
    let h : CMSRedis := ⟨2, 3, 5, 0, 1⟩
    let h1 : CMSRedis := ⟨3, 1, 8, 0, 1⟩
    CMSRedis.WF h cmsStore0 ∧ h.view cmsStore0 = ⟨⟨2, 3, [[1, 0, 4], [0, 5, 0]]⟩, 5⟩ ∧
    (∃ st', CMSRedis.importDoc (h.exportDoc cmsStore0) 7 ⟨9, 9, 9, 2, 3⟩ cmsStore0 = .ok (⟨2, 3, 5, 7, 3⟩, st') ∧
      CMSRedis.view ⟨2, 3, 5, 7, 3⟩ st' = ⟨⟨2, 3, [[1, 0, 4], [0, 5, 0]]⟩, 5⟩) ∧
    CMSRedis.WF h1 cmsStore1 ∧
    (∃ st', CMSRedis.importDoc (h1.exportDoc cmsStore1) 7 ⟨9, 9, 9, 2, 3⟩ cmsStore1 = .ok (⟨3, 1, 8, 7, 3⟩, st') ∧
      CMSRedis.view ⟨3, 1, 8, 7, 3⟩ st' = ⟨⟨3, 1, [[3], [5], [8]]⟩, 8⟩) := by
  intro h h1
  have wf : CMSRedis.WF h cmsStore0 := ⟨by decide, by decide, by decide⟩
  have wf1 : CMSRedis.WF h1 cmsStore1 := ⟨by decide, by decide, by decide⟩
  obtain ⟨st', a1, a2, _⟩ := C10_roundtrip_cmsRedis h ⟨9, 9, 9, 2, 3⟩ cmsStore0 7 wf
  obtain ⟨st1', b1, b2, _⟩ := C10_roundtrip_cmsRedis h1 ⟨9, 9, 9, 2, 3⟩ cmsStore1 7 wf1
  exact ⟨wf, rfl, ⟨st', a1, a2⟩, wf1, ⟨st1', b1, b2⟩⟩

structure HLLRedis.WF (h : HLLRedis) (st : Store) : Prop where
  m_pos : 0 < h.m
  len : (st.getNums (.rand h.key)).length = h.m
  byte : ∀ r ∈ st.getNums (.rand h.key), r < 256

theorem HLLRedis.WF.regs_ne_nil {h : HLLRedis} {st : Store} (wf : HLLRedis.WF h st) :
    st.getNums (.rand h.key) ≠ [] :=
  List.ne_nil_of_length_pos (wf.len.symm ▸ wf.m_pos)

/-- on a well-formed handle neither the `[:numRegisters]` cut nor the `uint8` conversion of `Export`
    changes a register -/
theorem HLLRedis.exportDoc_wf {h : HLLRedis} {st : Store} (wf : HLLRedis.WF h st) :
    h.exportDoc st = ⟨h.m, h.nbp, h.bias, st.getNums (.rand h.key), some h.key⟩ := by
  rw [HLLRedis.exportDoc, List.take_of_length_le (Nat.le_of_eq wf.len),
    map_eq_self fun r hr => Nat.mod_eq_of_lt (wf.byte r hr)]

/-- `nk` must be fresh because `importRegisters` RPUSHes onto the key without deleting it; `limit` is what
    Lua's `unpack` can return at once. -/
theorem C10_roundtrip_hllRedis_partial (limit : Nat) (h t : HLLRedis) (st : Store) (nk : Nat)
    (wf : HLLRedis.WF h st) (fresh : Fresh st nk) (hlim : h.m ≤ limit) :
    ∃ st', HLLRedis.importDoc limit (h.exportDoc st) nk t st
        = .ok ({ h with key := nk, metadataKey := t.metadataKey }, st') ∧
      HLLRedis.view { h with key := nk, metadataKey := t.metadataKey } st' = h.view st ∧
      ∀ k : Key, k ≠ .rand nk → st' k = st k := by
  refine ⟨st.rpushNums (.rand nk) (st.getNums (.rand h.key)), ?_, ?_, fun k hk => Store.set_other _ _ hk⟩
  · simp only [HLLRedis.importDoc, HLLRedis.exportDoc_wf wf, HLLRedis.importRegisters, wf.regs_ne_nil,
      wf.len, Nat.not_lt.2 hlim, or_self, if_false]
  · simp only [HLLRedis.view, Store.rpushNums, Store.getNums, Store.set_same, fresh (.rand nk) rfl,
      Val.toNums, List.nil_append]

/-- more registers than `unpack` can return (8192 registers against the 8000 of Redis' Lua):
    `Import` returns an error and the new key holds NO registers (every later `Update`/`Count`/`Equals`
    on it fails). -/
theorem C10_hllRedis_unpack_counterexample (limit : Nat) (h t : HLLRedis) (st : Store) (nk : Nat)
    (wf : HLLRedis.WF h st) (fresh : Fresh st nk) (hlim : limit < h.m) :
    HLLRedis.importDoc limit (h.exportDoc st) nk t st
        = .err ({ h with key := nk, metadataKey := t.metadataKey }, st) ∧
      (HLLRedis.view { h with key := nk, metadataKey := t.metadataKey } st).core.regs = [] ∧
      HLLRedis.view { h with key := nk, metadataKey := t.metadataKey } st ≠ h.view st := by
  have hr : st.getNums (.rand nk) = [] := congrArg Val.toNums (fresh _ rfl)
  refine ⟨?_, hr, fun e => wf.regs_ne_nil ((congrArg (·.core.regs) e).symm.trans hr)⟩
  simp only [HLLRedis.importDoc, HLLRedis.exportDoc_wf wf, HLLRedis.importRegisters, wf.len, hlim,
    or_true, if_true]

theorem C10_hllRedis_queries (limit : Nat) (h t : HLLRedis) (st : Store) (nk : Nat)
    (wf : HLLRedis.WF h st) (fresh : Fresh st nk) (hlim : h.m ≤ limit) :
    ∃ h' st', HLLRedis.importDoc limit (h.exportDoc st) nk t st = .ok (h', st') ∧
      (h'.view st').core.regs = (h.view st).core.regs ∧
      HLL.equals (h'.view st').core (h.view st).core = true ∧
      (∀ idx v, (h'.view st').core.update idx v = (h.view st).core.update idx v) := by
  obtain ⟨st', h1, h2, _⟩ := C10_roundtrip_hllRedis_partial limit h t st nk wf fresh hlim
  exact ⟨_, st', h1, by rw [h2]; exact C10_hllMem_queries (h.view st) (h.view st)⟩

example :
    let st : Store := fun k => if k = .rand 0 then .nums [0, 17, 3, 255] else .absent
    let h : HLLRedis := ⟨4, 2, 4604418534313441775, 0, 1⟩
    HLLRedis.WF h st ∧
    ∃ st', HLLRedis.importDoc 8000 (h.exportDoc st) 7 ⟨16, 4, 1, 2, 3⟩ st = .ok (⟨4, 2, 4604418534313441775, 7, 3⟩, st') ∧
      st'.getNums (.rand 7) = [0, 17, 3, 255] ∧ st' (.rand 0) = st (.rand 0) := by
  intro st h
  have wf : HLLRedis.WF h st := ⟨by decide, by decide, by decide⟩
  have fr : Fresh st 7 := .set (.absent 7) (by decide)
  obtain ⟨st', h1, h2, h3⟩ := C10_roundtrip_hllRedis_partial 8000 h ⟨16, 4, 1, 2, 3⟩ st 7 wf fr (by decide)
  exact ⟨wf, st', h1, congrArg (·.core.regs) h2, h3 _ (by decide)⟩

theorem fixes_of_names {N : Type} {utf8fix : N → N} {names : List N}
    (hnames : ∀ s ∈ names, utf8fix s = s) {l : List (N × Nat)} (hl : ∀ e ∈ l, e.1 ∈ names) :
    ∀ e ∈ l, utf8fix e.1 = e.1 :=
  fun e he => hnames _ (hl e he)

/-- Every tracked element name has to be fixed by the UTF-8 coercion of `json.Marshal` (i.e. be valid
    UTF-8); the sketch dimensions are positive by construction.  Partially filled heaps and heaps after
    evictions alike. -/
theorem C10_topk_utf8_partial {N : Type} (utf8fix : N → N) (s t : TopKMem N)
    (hr : 0 < s.sketch.core.rows) (hc : 0 < s.sketch.core.cols)
    (hfix : ∀ e ∈ s.heap, utf8fix e.1 = e.1) :
    TopKMem.importDoc (s.exportDoc.jsonTrip utf8fix) t = .ok s := by
  simp only [TopKMem.importDoc, TopKDoc.jsonTrip, TopKMem.exportDoc, CMSMem.exportDoc,
    Nat.ne_of_gt hr, Nat.ne_of_gt hc, or_self, if_false, map_fix_id utf8fix s.heap hfix]

theorem C10_roundtrip_topkMem_partial {N : Type} (utf8fix : N → N) (s t : TopKMem N)
    (hr : 0 < s.sketch.core.rows) (hc : 0 < s.sketch.core.cols)
    (hfix : ∀ e ∈ s.heap, utf8fix e.1 = e.1) :
    TopKMem.importDoc (s.exportDoc.jsonTrip utf8fix) t = .ok s :=
  C10_topk_utf8_partial utf8fix s t hr hc hfix

/-- a name that the coercion changes (invalid UTF-8) comes back different -/
theorem C10_topk_utf8_counterexample {N : Type} (utf8fix : N → N) (x : N) (hx : utf8fix x ≠ x) :
    let s : TopKMem N := ⟨3, 0, 0, ⟨⟨1, 1, [[1]]⟩, 1⟩, [(x, 1)]⟩
    ∃ s', TopKMem.importDoc (s.exportDoc.jsonTrip utf8fix) s = .ok s' ∧
      s'.heap = [(utf8fix x, 1)] ∧ s'.heap ≠ s.heap :=
  ⟨_, rfl, rfl, by simp [TopKDoc.jsonTrip, TopKMem.exportDoc, hx]⟩

/-- two different names with the same coerced form end up as two heap entries with the SAME
    name (in memory) -/
theorem C10_topk_utf8_collision {N : Type} (utf8fix : N → N) (x y : N) (hxy : utf8fix x = utf8fix y) :
    let s : TopKMem N := ⟨3, 0, 0, ⟨⟨1, 1, [[3]]⟩, 3⟩, [(x, 1), (y, 2)]⟩
    ∃ s', TopKMem.importDoc (s.exportDoc.jsonTrip utf8fix) s = .ok s' ∧
      s'.heap = [(utf8fix y, 1), (utf8fix y, 2)] :=
  ⟨_, rfl, by simp [TopKDoc.jsonTrip, TopKMem.exportDoc, hxy]⟩

/-- with `String` names: `Values()` and every further `Insert` of Model/TopK.lean -/
theorem C10_topkMem_queries (utf8fix : String → String) (s t : TopKMem String)
    (hr : 0 < s.sketch.core.rows) (hc : 0 < s.sketch.core.cols)
    (hfix : ∀ e ∈ s.heap, utf8fix e.1 = e.1) :
    ∃ s', TopKMem.importDoc (s.exportDoc.jsonTrip utf8fix) t = .ok s' ∧
      TopK.values s'.heap = TopK.values s.heap ∧
      (∀ x pos, s'.toModel.sketch.count pos = s.toModel.sketch.count pos ∧
        ∀ c, s'.toModel.insert x pos c = s.toModel.insert x pos c) :=
  ⟨s, C10_roundtrip_topkMem_partial utf8fix s t hr hc hfix, rfl, fun _ _ => ⟨rfl, fun _ => rfl⟩⟩

/-- non-vacuity: a full heap (k = 2, "b" was evicted earlier) and a partially filled one (1 of 3) -/
example (utf8fix : String → String) (hascii : ∀ s ∈ ["a", "c", "zz"], utf8fix s = s) :
    let s1 : TopKMem String := ⟨2, 1, 2, ⟨⟨2, 2, [[5, 1], [2, 4]]⟩, 6⟩, [("a", 2), ("c", 4)]⟩
    let s2 : TopKMem String := ⟨3, 1, 2, ⟨⟨2, 1, [[7], [7]]⟩, 7⟩, [("zz", 7)]⟩
    TopKMem.importDoc (s1.exportDoc.jsonTrip utf8fix) s2 = .ok s1 ∧
    TopKMem.importDoc (s2.exportDoc.jsonTrip utf8fix) s1 = .ok s2 := by
  intro s1 s2
  exact ⟨C10_roundtrip_topkMem_partial utf8fix s1 s2 (by decide) (by decide) (fixes_of_names hascii (by decide)),
    C10_roundtrip_topkMem_partial utf8fix s2 s1 (by decide) (by decide) (fixes_of_names hascii (by decide))⟩

/-- `ZRANGE` order with pairwise different member names is what a Redis sorted set is -/
structure TopKRedis.WF {N : Type} (ltN : N → N → Bool) (h : TopKRedis) (st : Store) (z : ZStore N) : Prop where
  sketch : CMSRedis.WF h.sketch st
  sorted : ZSorted ltN (z h.heapKey)
  nodup : ((z h.heapKey).map (·.1)).Nodup

/-- `nhk`: heap key with no sorted set yet; `nsk`/`nsmk`: the new sketch; `iter`: whatever order the Go
    runtime ranges over `frequencyMap` in.  `TopKRedis.Import` drops `setMatrix`'s result; on a well-formed
    sketch `setMatrix` succeeds (`CMSRedis.setMatrix_view`). -/
theorem C10_roundtrip_topkRedis_partial {N : Type} [DecidableEq N] {ltN : N → N → Bool}
    (H : StrictTotal ltN) (utf8fix : N → N) (iter : List (N × Nat) → List (N × Nat))
    (hiter : ∀ m, (iter m).Perm m)
    (h t : TopKRedis) (st : Store) (z : ZStore N) (nhk nsk nsmk : Nat)
    (wf : TopKRedis.WF ltN h st z) (hfix : ∀ e ∈ z h.heapKey, utf8fix e.1 = e.1)
    (fresh : z nhk = []) :
    let h' : TopKRedis := { h with heapKey := nhk, metadataKey := t.metadataKey,
                                   sketch := { h.sketch with key := nsk, metadataKey := nsmk } }
    ∃ st' z', TopKRedis.importDoc ltN iter ((h.exportDoc st z).jsonTrip utf8fix) nhk nsk nsmk t st z
        = .ok (h', st', z') ∧
      (h'.view st' z' : TopKView N) = h.view st z ∧
      (∀ k : Key, k.id ≠ nsk → k.id ≠ nsmk → st' k = st k) ∧
      (∀ k, k ≠ nhk → z' k = z k) := by
  intro h'
  obtain ⟨S, hS, hv, hf⟩ := CMSRedis.setMatrix_view h.sketch st
    (TopKRedis.newSketch st h.sketch.rows h.sketch.cols nsk nsmk).2 nsk nsmk wf.sketch
  dsimp only [TopKRedis.newSketch] at hS
  refine ⟨S, z.set nhk (z h.heapKey), ?_, ?_, fun k h1 h2 => ?_, fun k hk => if_neg hk⟩
  · -- the names come back unchanged and pairwise different, so `importHeap` rebuilds the set
    simp only [TopKRedis.importDoc, TopKDoc.jsonTrip, TopKRedis.exportDoc, CMSRedis.exportDoc,
      TopKRedis.newSketch, Nat.ne_of_gt wf.sketch.rows_pos, Nat.ne_of_gt wf.sketch.cols_pos, or_self,
      if_false, hS, h', map_fix_id utf8fix _ hfix, freqMap_nodup _ wf.nodup,
      fresh, importHeap_roundtrip H _ _ wf.sorted wf.nodup (hiter _)]
  · simp only [TopKRedis.view, h', hv, ZStore.set, if_true]
  · exact ((hf k h1).trans (CMSRedis.initMatrix_frame _ nsk _ _ k fun ⟨_, e⟩ => h1 (e ▸ rfl))).trans
      (Store.set_other _ _ fun e => h2 (e ▸ rfl))

theorem C10_topkRedis_utf8_counterexample {N : Type} [DecidableEq N] (ltN : N → N → Bool)
    (utf8fix : N → N) (x : N) (hx : utf8fix x ≠ x) (iter : List (N × Nat) → List (N × Nat))
    (hiter : ∀ m, (iter m).Perm m) :
    let st : Store := fun k => if k = .cmsRow 0 0 then .nums [1, 0] else .absent
    let z : ZStore N := fun k => if k = 2 then [(x, 1)] else []
    let h : TopKRedis := ⟨3, 0, 0, ⟨1, 2, 1, 0, 1⟩, 2, 3⟩
    ∃ h' st' z', TopKRedis.importDoc ltN iter ((h.exportDoc st z).jsonTrip utf8fix) 7 8 9 h st z
        = .ok (h', st', z') ∧
      (h'.view st' z' : TopKView N).zset = [(utf8fix x, 1)] ∧
      (h'.view st' z' : TopKView N).zset ≠ (h.view st z : TopKView N).zset := by
  intro st z h
  have hi : iter [(utf8fix x, 1)] = [(utf8fix x, 1)] := List.perm_singleton.1 (hiter _)
  refine ⟨_, _, _, rfl, ?_⟩
  simp [TopKRedis.view, ZStore.set, z, h, TopKDoc.jsonTrip, TopKRedis.exportDoc, freqMap, hi, importHeap, zadd, insertSorted, hx]

/-- with `String` names and the bytewise order the sorted set is the one of Model/TopK.lean -/
theorem C10_topkRedis_queries (utf8fix : String → String)
    (iter : List (String × Nat) → List (String × Nat)) (hiter : ∀ m, (iter m).Perm m)
    (h t : TopKRedis) (st : Store) (z : ZStore String) (nhk nsk nsmk : Nat)
    (wf : TopKRedis.WF strLt h st z) (hfix : ∀ e ∈ z h.heapKey, utf8fix e.1 = e.1)
    (fresh : z nhk = []) :
    ∃ h' st' z', TopKRedis.importDoc strLt iter ((h.exportDoc st z).jsonTrip utf8fix) nhk nsk nsmk t st z
        = .ok (h', st', z') ∧
      h'.k = h.k ∧
      TopK.values (h'.view st' z').zset = TopK.values (h.view st z).zset ∧
      (∀ pos, (h'.view st' z').sketch.core.count pos = (h.view st z).sketch.core.count pos) ∧
      (∀ x f, TopK.offerRedis h'.k (h'.view st' z').zset x f = TopK.offerRedis h.k (h.view st z).zset x f) := by
  obtain ⟨st', z', h1, h2, _, _⟩ := C10_roundtrip_topkRedis_partial strLt_strictTotal utf8fix iter hiter
    h t st z nhk nsk nsmk wf hfix fresh
  exact ⟨_, st', z', h1, rfl, by rw [h2], fun _ => by rw [h2], fun _ _ => by rw [h2]⟩

theorem C10_redis_original_untouched_topk {N : Type} [DecidableEq N] {ltN : N → N → Bool}
    (H : StrictTotal ltN) (utf8fix : N → N) (iter : List (N × Nat) → List (N × Nat))
    (hiter : ∀ m, (iter m).Perm m)
    (h t : TopKRedis) (st : Store) (z : ZStore N) (nhk nsk nsmk : Nat)
    (wf : TopKRedis.WF ltN h st z) (hfix : ∀ e ∈ z h.heapKey, utf8fix e.1 = e.1)
    (fresh : z nhk = []) :
    ∃ h' st' z', TopKRedis.importDoc ltN iter ((h.exportDoc st z).jsonTrip utf8fix) nhk nsk nsmk t st z
        = .ok (h', st', z') ∧
      (∀ k : Key, k.id ≠ nsk → k.id ≠ nsmk → st' k = st k) ∧ (∀ k, k ≠ nhk → z' k = z k) := by
  obtain ⟨st', z', h1, _, h34⟩ := C10_roundtrip_topkRedis_partial H utf8fix iter hiter h t st z
    nhk nsk nsmk wf hfix fresh
  exact ⟨_, st', z', h1, h34⟩

/-- non-vacuity: partially filled sorted set (2 of k = 3), the map ranged over in reverse order -/
example (utf8fix : String → String) (hascii : ∀ s ∈ ["a", "c"], utf8fix s = s) :
    let z : ZStore String := fun k => if k = 2 then [("a", 2), ("c", 4)] else []
    let h : TopKRedis := ⟨3, 1, 2, ⟨2, 1, 8, 0, 1⟩, 2, 3⟩
    TopKRedis.WF strLt h cmsStore1 z ∧
    ∃ st' z', TopKRedis.importDoc strLt List.reverse ((h.exportDoc cmsStore1 z).jsonTrip utf8fix) 7 8 9 h cmsStore1 z
        = .ok (⟨3, 1, 2, ⟨2, 1, 8, 8, 9⟩, 7, 3⟩, st', z') ∧
      z' 7 = [("a", 2), ("c", 4)] ∧ z' 2 = [("a", 2), ("c", 4)] ∧
      CMSRedis.view ⟨2, 1, 8, 8, 9⟩ st' = ⟨⟨2, 1, [[3], [5]]⟩, 8⟩ := by
  intro z h
  have wf : TopKRedis.WF strLt h cmsStore1 z :=
    ⟨⟨by decide, by decide, by decide⟩,
      by unfold ZSorted; decide, by decide⟩
  obtain ⟨st', z', h1, h2, _, h4⟩ := C10_roundtrip_topkRedis_partial strLt_strictTotal utf8fix
    List.reverse List.reverse_perm h h cmsStore1 z 7 8 9 wf (fixes_of_names hascii (by decide)) rfl
  exact ⟨wf, st', z', h1, congrArg TopKView.zset h2, h4 2 (by decide), congrArg TopKView.sketch h2⟩

/-- Importing under new names writes only keys derived from those names (Bloom: the importing instance's
    own bitmap key), and the exporter's names are different random strings.  Stated for arbitrary
    documents.  The Bloom clause is the stronger form of `C10_redis_original_untouched_bloom` (any document,
    no bound on `bsSize`); Top-K has a theorem of its own, `C10_redis_original_untouched_topk`, because it
    is derived from the round trip and not from frames. -/
theorem C10_redis_original_untouched :
    -- Bloom
    (∀ (d : BloomDoc Bytes) (t : BloomRedis) (st : Store) (r : BloomRedis × Store),
      BloomRedis.importDoc d t st = .ok r → ∀ k, k ≠ .rand t.key → r.2 k = st k) ∧
    -- Cuckoo
    (∀ (d : CuckooDoc) (t : CuckooRedis) (st : Store) (nk nmk : Nat) (k : Key),
      k.id ≠ nk → k.id ≠ nmk → (CuckooRedis.importDoc d nk nmk t st).2 k = st k) ∧
    -- Count-Min (nil or error returned alike)
    (∀ (d : CMSDoc) (t : CMSRedis) (st : Store) (nk : Nat) (r : CMSRedis × Store),
      (CMSRedis.importDoc d nk t st = .ok r ∨ CMSRedis.importDoc d nk t st = .err r) →
      ∀ k : Key, k.id ≠ nk → r.2 k = st k) ∧
    -- HyperLogLog
    (∀ (limit : Nat) (d : HLLDoc) (t : HLLRedis) (st : Store) (nk : Nat) (r : HLLRedis × Store),
      (HLLRedis.importDoc limit d nk t st = .ok r ∨ HLLRedis.importDoc limit d nk t st = .err r) →
      ∀ k : Key, k ≠ .rand nk → r.2 k = st k) := by
  refine ⟨fun d t st r h k hk => ?_,
    fun d t st nk nmk k h1 h2 => CuckooRedis.import_frame d nk nmk t st k fun h => h.elim h1 h2,
    fun d t st nk r h k hk => ?_, fun limit d t st nk r h k hk => ?_⟩
  · unfold BloomRedis.importDoc at h
    split at h
    · cases h
    · cases h
      exact Store.set_other _ _ hk
  · -- nil or error, the store returned is the one `setMatrix` left
    have fr : ∀ S, CMSRedis.setMatrix st nk d.m = some S → S.1 k = st k :=
      fun S hS => CMSRedis.setMatrix_frame hS k fun ⟨_, e⟩ => hk (e ▸ rfl)
    unfold CMSRedis.importDoc at h
    split at h
    · rcases h with h | h <;> cases h
    · rename_i hS
      rcases h with h | h <;> cases h
      exact fr _ hS
    · rename_i hS
      rcases h with h | h <;> cases h
      exact fr _ hS
  · have fr : (HLLRedis.importRegisters limit st nk d.r).1 k = st k := by
      unfold HLLRedis.importRegisters
      split
      · rfl
      · exact Store.set_other _ _ hk
    unfold HLLRedis.importDoc at h
    split at h
    · rename_i hS
      rw [hS] at fr
      rcases h with h | h <;> cases h
      exact fr
    · rename_i hS
      rw [hS] at fr
      rcases h with h | h <;> cases h
      exact fr

end Gostatix.Json
