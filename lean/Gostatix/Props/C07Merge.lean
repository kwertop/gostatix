/-
  C07 (continued) — serializability for the TWO-PHASE `Merge` of the in-memory Count-Min sketch
  and HyperLogLog.

  `C07_serializable` (Props/C07.lean) models every method call as ONE
  critical section `acq ; body ; rel`.  `CountMinSketch.Merge(other)` (count_min_sketch.go) and
  `HyperLogLog.Merge(other)` (hyperloglog.go) are guarded by TWO critical sections:
      other.lock.Lock(); copy := snapshot of other's matrix / registers; other.lock.Unlock()
      recv.lock.Lock();  recv := recv (+ cell-wise | max register-wise) copy; recv.lock.Unlock()
  The two locks are never held together.  For `s.Merge(s)` both sections are on the same mutex and
  other calls can run in between; for `h.Merge(g)` the sections are on different mutexes.

  The model (Proofs/C07Merge.lean).  A thread is a list of operations `Op.upd a | Op.merge`; an
  update is one critical section, a merge is the two sections `Sec.snap ; Sec.app`.  `threadsC`
  turns the threads into call bodies of the mutex model of Model/Conc.lean on the state
  `σ × (thread ↦ copy)`: every critical section is one `acq ; body ; rel`, so `validMutex`,
  `execConc`, `execSerial`, `acqOrder` are the EXISTING definitions, and `C07_serializable`
  applies to the sections.  `threadsA` are the same threads with ATOMIC merges: same call ids, the
  snapshot section's body is `s ↦ ap (snap s) s`, the apply section's body is the identity.

  What is proved (all schedules, all thread counts, all operation lists): when no merge takes its
  snapshot while another merge is between its two sections (`mergesDoNotOverlap`, decidable; it
  holds for EVERY valid schedule when one thread issues the merges) and `ap v` commutes with the
  updates of the threads OTHER than a merging one (`OtherUpdatesCommute`; updates need not commute
  with each other), the final state is that of the serial execution in which every merge is ONE
  call placed at its SNAPSHOT section.  With overlapping merges and `ap`/`ap` commutation in
  addition, each merge applies THE VALUE IT RECORDED.  The same for `h.Merge(g)` (`crossTP`); the
  instances for Model/CMS.lean and Model/HLL.lean; two counterexamples: the hypotheses are needed.

  What is NOT proved / assumed:
   * only FINAL STATES (and the recorded values) are compared.  A reading call (`Count`) between
     the two sections of a merge sees the receiver without the merge; reads do not commute with
     `ap`, so such calls are outside `OtherUpdatesCommute` unless issued by the merging thread.
   * that the Go methods have this shape (two sections, the first on the argument's mutex and
     only reading, the second on the receiver's, never held together) is decided over the section
     table (`C07_merge_two_sections`, Props/C07Sections.lean), not here; that the copy lives in a
     local variable is read off the source.
   * for `h.Merge(g)` the schedule is an `Interleaving` of the threads' critical SECTIONS (each
     atomic): sections of one instance are totally ordered by its mutex (that is
     `bodies_eq_acqOrder`, one mutex), sections of different instances touch disjoint state
     (g + own local, resp. h + own local).  A two-mutex version of `validMutex` is not modelled.
   * the dimension checks of `Merge` run before the first section on fields no guarded method
     writes; `addRows` / `mergeRegs` are the models of the loops (Model/CMS.lean, Model/HLL.lean).
   * the Go memory model (a mutex orders its critical sections), as in Props/C07.lean.
-/
import Gostatix.Proofs.C07Merge
import Gostatix.Proofs.ConcMerge
import Gostatix.Props.C07
namespace Gostatix
open Conc

universe u v w

/-! ### self-merge `s.Merge(s)`: two critical sections on ONE mutex -/
section self
variable {σ : Type u} {ν : Type v} {α : Type w}

/-- "no snapshot section of a merge is entered while another merge is between its two sections",
    read off the lock-acquisition order of the schedule -/
def mergesDoNotOverlap (ops : List (List (Op α))) (wa : List Act) : Prop :=
  noOverlapFrom false (traceOf ops (acqOrder wa)) = true

instance (ops : List (List (Op α))) (wa : List Act) : Decidable (mergesDoNotOverlap ops wa) := by
  unfold mergesDoNotOverlap; infer_instance

/-- `ap v` commutes with every update of every thread OTHER than a merging one -/
def OtherUpdatesCommute (M : TwoPhase σ ν α) (ops : List (List (Op α))) : Prop :=
  ∀ (m t : Nat) (a : α), m ≠ t → Op.merge ∈ (ops[m]?).getD [] → Op.upd a ∈ (ops[t]?).getD [] →
    ∀ v s, M.ap v (M.f s a) = M.f (M.ap v s) a

theorem OtherUpdatesCommute.otherCommute {M : TwoPhase σ ν α} {ops : List (List (Op α))}
    (h : OtherUpdatesCommute M ops) : M.OtherCommute fun t => (ops[t]?).getD [] := h

theorem OtherUpdatesCommute.of_commute {M : TwoPhase σ ν α} (hcomm : Commute M.stepL)
    (ops : List (List (Op α))) : OtherUpdatesCommute M ops :=
  fun _ _ a _ _ _ v s => hcomm s (.inl a) (.inr v)

section
variable (M : TwoPhase σ ν α) (ops : List (List (Op α))) (s : σ) (loc : Loc ν) (wa : List Act)
  (hi : Interleaving (sched (M.threadsC ops)) wa) (hv : validMutex wa)
include hi hv

theorem execConc_threadsC :
    (execConc (M.threadsC ops) (s, loc) wa).1 = exec M.stepC (s, loc) (traceOf ops (acqOrder wa)) := by
  rw [C07_serializable _ _ wa hi hv, execSerial,
    exec_runCall_traceOf ops _ (bodyAt_threadsC M ops) M.bodyC_fst]

theorem projT_acqOrder (t : Nat) :
    projT (traceOf ops (acqOrder wa)) t = secsOf ((ops[t]?).getD []) := by
  rw [projT_traceOf, C07_program_order_preserved _ wa hi hv t, List.filterMap_map]
  have hn : ((M.threadsC ops)[t]?.getD []).length = (secsOf ((ops[t]?).getD [])).length := by
    rw [TwoPhase.threadsC, List.getElem?_mapIdx]
    cases ops[t]? with
    | none => rfl
    | some o => exact List.length_map ..
  rw [hn]
  exact filterMap_getElem?_range (secsOf ((ops[t]?).getD []))

theorem C07_self_merge_logged_values :
    (execConc (M.threadsC ops) (s, loc) wa).2.filterMap (·.2)
      = M.snapVals (s, loc) (traceOf ops (acqOrder wa)) := by
  rw [C07_serializable _ _ wa hi hv, execSerial, log_threadsC]
  rfl

end

/-- **C07 for two-phase merges on one instance.**  For every schedule that respects the mutex, in
    which no merge takes its snapshot while another merge is between its two sections, and with
    `ap v` commuting with the updates of the other threads: the final state is that of the SERIAL
    execution, in lock-acquisition order, of the calls of `threadsA` — every merge is ONE atomic
    call placed at its snapshot section (the linearization point). -/
theorem C07_self_merge_linearizable (M : TwoPhase σ ν α) (ops : List (List (Op α))) (s : σ)
    (loc : Loc ν) (wa : List Act)
    (hi : Interleaving (sched (M.threadsC ops)) wa) (hv : validMutex wa)
    (hno : mergesDoNotOverlap ops wa) (hc : OtherUpdatesCommute M ops) :
    (execConc (M.threadsC ops) (s, loc) wa).1.1
      = (execSerial (M.threadsA ops) s (acqOrder wa)).1 := by
  rw [execConc_threadsC M ops s loc wa hi hv, execSerial,
    exec_runCall_traceOf ops _ (body := fun _ => M.bodyA) (bodyAt_threadsA M ops) M.bodyA_fst]
  exact exec_stepC_eq_stepA M (projT_acqOrder M ops wa hi hv) hno hc.otherCommute s loc

/-- the same, against the SAME schedule run with atomic merges (`C07_serializable` for
    `threadsA`) -/
theorem C07_self_merge_eq_atomic_run (M : TwoPhase σ ν α) (ops : List (List (Op α))) (s : σ)
    (loc : Loc ν) (wa : List Act)
    (hi : Interleaving (sched (M.threadsC ops)) wa) (hv : validMutex wa)
    (hno : mergesDoNotOverlap ops wa) (hc : OtherUpdatesCommute M ops) :
    (execConc (M.threadsC ops) (s, loc) wa).1.1 = (execConc (M.threadsA ops) s wa).1 := by
  rw [C07_self_merge_linearizable M ops s loc wa hi hv hno hc]
  have hi' : Interleaving (sched (M.threadsA ops)) wa := by
    rw [sched_threadsA, ← sched_threadsC M]; exact hi
  rw [C07_serializable _ _ wa hi' hv]

/-- **every valid schedule, overlapping merges allowed.**  With `ap`/`ap` commutation in
    addition, the final state is the final state of the serial execution, in lock-acquisition
    order, in which every merge sits at its snapshot section and applies THE VALUE IT RECORDED
    there (`linHist`: that value is the state of the two-phase run at that point; when merges
    overlap it is not the state the atomic run would have there, see
    `C07_overlapping_self_merges_not_atomic`). -/
theorem C07_self_merge_any_schedule (M : TwoPhase σ ν α) (ops : List (List (Op α))) (s : σ)
    (loc : Loc ν) (wa : List Act)
    (hi : Interleaving (sched (M.threadsC ops)) wa) (hv : validMutex wa)
    (haa : ∀ v v' s, M.ap v (M.ap v' s) = M.ap v' (M.ap v s)) (hc : OtherUpdatesCommute M ops) :
    (execConc (M.threadsC ops) (s, loc) wa).1.1
      = exec M.stepL s (M.linHist (s, loc) (traceOf ops (acqOrder wa))) := by
  rw [execConc_threadsC M ops s loc wa hi hv]
  exact exec_stepC_eq_lin M (projT_acqOrder M ops wa hi hv) haa hc.otherCommute s loc

section
variable (M : TwoPhase σ ν α) (ops : List (List (Op α))) (s : σ) (loc : Loc ν) (wa : List Act)
  (hi : Interleaving (sched (M.threadsC ops)) wa) (hv : validMutex wa)
include hi hv

theorem mergesDoNotOverlap_of_single_merger (m : Nat)
    (hm : ∀ t, t ≠ m → Op.merge ∉ (ops[t]?).getD []) : mergesDoNotOverlap ops wa :=
  noOverlap_of_single_merger_projT (projT_acqOrder M ops wa hi hv) m hm

/-- **one merging thread, any number of updating threads, every valid schedule.** -/
theorem C07_self_merge_single_merger (m : Nat) (hm : ∀ t, t ≠ m → Op.merge ∉ (ops[t]?).getD [])
    (hc : OtherUpdatesCommute M ops) :
    (execConc (M.threadsC ops) (s, loc) wa).1.1
      = (execSerial (M.threadsA ops) s (acqOrder wa)).1 :=
  C07_self_merge_linearizable M ops s loc wa hi hv
    (mergesDoNotOverlap_of_single_merger M ops wa hi hv m hm) hc

/-- **"all updates applied and, for each merge, the snapshot value applied".**  When all steps
    commute, for EVERY valid schedule (overlapping merges allowed): the values recorded by the
    snapshot sections are the results of the snapshot calls in the log of the run; there is
    exactly one per merge, and the final state is the initial state with all updates of all
    threads and `ap v` for every recorded `v` applied, in ANY order. -/
theorem C07_self_merge_all_applied (hcomm : Commute M.stepL) :
    ((execConc (M.threadsC ops) (s, loc) wa).2.filterMap (·.2)).length
        = ops.flatten.countP Op.isMerge ∧
    ∀ order : List (α ⊕ ν),
      order.Perm ((ops.flatten.filterMap Op.upd?).map .inl
        ++ ((execConc (M.threadsC ops) (s, loc) wa).2.filterMap (·.2)).map .inr) →
      (execConc (M.threadsC ops) (s, loc) wa).1.1 = order.foldl M.stepL s := by
  have hsecs := secs_acqOrder_perm ops wa (sched_threadsC M ops ▸ hi) hv
  rw [C07_self_merge_logged_values M ops s loc wa hi hv]
  refine ⟨?_, fun order ho => ?_⟩
  · rw [M.snapVals_length, hsecs.countP_eq, secsOf_countP_isSnap]
  · rw [C07_self_merge_any_schedule M ops s loc wa hi hv (fun v v' s => hcomm s (.inr v') (.inr v))
      (.of_commute hcomm ops)]
    refine exec_perm_of_commute hcomm ((M.linHist_perm _ _).trans (List.Perm.trans ?_ ho.symm)) s
    rw [← secsOf_filterMap_upd?]
    exact List.Perm.append_right _ ((hsecs.filterMap _).map _)

end

end self

/-- Count-Min (count_min_sketch.go `Merge`): the snapshot section copies the matrix, the apply
    section adds the copy cell-wise (`CMS.addRows`).  The single-section calls are the whole steps
    of `Proofs/ConcMerge.lean` (`Update`, and atomic merges of VALUES). -/
def cmsTP : TwoPhase CMS (List (List Nat)) CMSStep where
  f := cmsStepM
  snap s := s.m
  ap v s := cmsStepM s (.mergeFrom v)

/-- HyperLogLog (hyperloglog.go `Merge`): the snapshot section copies the registers, the apply
    section takes the register-wise maximum with the copy (`HLL.mergeRegs`). -/
def hllTP : TwoPhase (List Nat) (List Nat) HLLStep where
  f := hllStepM
  snap r := r
  ap v r := hllStepM r (.mergeFrom v)

theorem cmsTP_ap (v : List (List Nat)) (s : CMS) : cmsTP.ap v s = { s with m := CMS.addRows s.m v } := rfl
theorem hllTP_ap (v r : List Nat) : hllTP.ap v r = HLL.mergeRegs r v := rfl

theorem cmsTP_ap_update (v : List (List Nat)) (s : CMS) (pos : List Nat) (c : Nat) :
    cmsTP.ap v (s.update pos c) = (cmsTP.ap v s).update pos c :=
  cmsStepM_commute s (.update pos c) (.mergeFrom v)

theorem hllTP_ap_upd (v r : List Nat) (x : Nat × Nat) :
    hllTP.ap v (HLL.upd r x) = HLL.upd (hllTP.ap v r) x :=
  hllStepM_commute r (.update x.1 x.2) (.mergeFrom v)

theorem Conc.Commute.of_embed {σ : Type u} {β : Type v} {γ : Type w} {f : σ → β → σ} (hf : Commute f)
    {g : σ → γ → σ} (e : γ → β) (h : ∀ s x, g s x = f s (e x)) : Commute g :=
  fun s a b => by rw [h, h, h, h]; exact hf _ _ _

/-- "add the matrix `v`" is the step `mergeFrom v` -/
theorem cmsTP_commute : Commute cmsTP.stepL :=
  cmsStepM_commute.of_embed (Sum.elim id .mergeFrom) fun _ x => by cases x <;> rfl

theorem hllTP_commute : Commute hllTP.stepL :=
  hllStepM_commute.of_embed (Sum.elim id .mergeFrom) fun _ x => by cases x <;> rfl

theorem cmsTP_other (ops : List (List (Op CMSStep))) : OtherUpdatesCommute cmsTP ops :=
  .of_commute cmsTP_commute ops

theorem hllTP_other (ops : List (List (Op HLLStep))) : OtherUpdatesCommute hllTP ops :=
  .of_commute hllTP_commute ops

theorem cmsTP_self_merge (s : CMS) : CMS.merge s s = .ok (cmsTP.ap (cmsTP.snap s) s) := by
  simp [CMS.merge, cmsTP, cmsStepM]

theorem HLL.mergeRegs_self (r : List Nat) : HLL.mergeRegs r r = r := by
  induction r with
  | nil => rfl
  | cons x r ih => simp [HLL.mergeRegs, ih]

theorem hllTP_self_merge (r : List Nat) : hllTP.ap (hllTP.snap r) r = r := HLL.mergeRegs_self r

/-- Count-Min, `s.Merge(s)` by one thread `m` concurrently with any number of updating threads,
    EVERY valid schedule. -/
theorem C07_cms_self_merge (ops : List (List (Op CMSStep))) (s : CMS) (loc : Loc (List (List Nat)))
    (wa : List Act) (hi : Interleaving (sched (cmsTP.threadsC ops)) wa) (hv : validMutex wa) (m : Nat)
    (hm : ∀ t, t ≠ m → Op.merge ∉ (ops[t]?).getD []) :
    (execConc (cmsTP.threadsC ops) (s, loc) wa).1.1
      = (execSerial (cmsTP.threadsA ops) s (acqOrder wa)).1 :=
  C07_self_merge_single_merger cmsTP ops s loc wa hi hv m hm (cmsTP_other ops)

/-- HyperLogLog, the same. -/
theorem C07_hll_self_merge (ops : List (List (Op HLLStep))) (r : List Nat) (loc : Loc (List Nat))
    (wa : List Act) (hi : Interleaving (sched (hllTP.threadsC ops)) wa) (hv : validMutex wa) (m : Nat)
    (hm : ∀ t, t ≠ m → Op.merge ∉ (ops[t]?).getD []) :
    (execConc (hllTP.threadsC ops) (r, loc) wa).1.1
      = (execSerial (hllTP.threadsA ops) r (acqOrder wa)).1 :=
  C07_self_merge_single_merger hllTP ops r loc wa hi hv m hm (hllTP_other ops)

/-- Count-Min, any number of merging threads, EVERY valid schedule. -/
theorem C07_cms_self_merge_all_applied (ops : List (List (Op CMSStep))) (s : CMS)
    (loc : Loc (List (List Nat))) (wa : List Act)
    (hi : Interleaving (sched (cmsTP.threadsC ops)) wa) (hv : validMutex wa) :
    ((execConc (cmsTP.threadsC ops) (s, loc) wa).2.filterMap (·.2)).length
        = ops.flatten.countP Op.isMerge ∧
    ∀ order : List (CMSStep ⊕ List (List Nat)),
      order.Perm ((ops.flatten.filterMap Op.upd?).map .inl
        ++ ((execConc (cmsTP.threadsC ops) (s, loc) wa).2.filterMap (·.2)).map .inr) →
      (execConc (cmsTP.threadsC ops) (s, loc) wa).1.1 = order.foldl cmsTP.stepL s :=
  C07_self_merge_all_applied cmsTP ops s loc wa hi hv cmsTP_commute

/-- HyperLogLog, the same. -/
theorem C07_hll_self_merge_all_applied (ops : List (List (Op HLLStep))) (r : List Nat)
    (loc : Loc (List Nat)) (wa : List Act)
    (hi : Interleaving (sched (hllTP.threadsC ops)) wa) (hv : validMutex wa) :
    ((execConc (hllTP.threadsC ops) (r, loc) wa).2.filterMap (·.2)).length
        = ops.flatten.countP Op.isMerge ∧
    ∀ order : List (HLLStep ⊕ List Nat),
      order.Perm ((ops.flatten.filterMap Op.upd?).map .inl
        ++ ((execConc (hllTP.threadsC ops) (r, loc) wa).2.filterMap (·.2)).map .inr) →
      (execConc (hllTP.threadsC ops) (r, loc) wa).1.1 = order.foldl hllTP.stepL r :=
  C07_self_merge_all_applied hllTP ops r loc wa hi hv hllTP_commute

/-! ### merge from ANOTHER instance: `h.Merge(g)` -/
section cross
variable {σg σh : Type u} {ν : Type v} {αg αh : Type w}
variable (G : σg → αg → σg) (H : σh → αh → σh) (snap : σg → ν) (ap : ν → σh → σh)

/-- `ap v` commutes with every update of `h` issued by a thread other than a merging one -/
def OtherHUpdatesCommute (ops : List (List (Op (αg ⊕ αh)))) : Prop :=
  ∀ (m t : Nat) (b : αh), m ≠ t → Op.merge ∈ (ops[m]?).getD [] →
    Op.upd (.inr b) ∈ (ops[t]?).getD [] → ∀ v s, ap v (H s b) = H (ap v s) b

/-- for the pair: `g`'s updates and the apply section touch different components -/
theorem OtherHUpdatesCommute.crossTP {H : σh → αh → σh} {ap : ν → σh → σh}
    {ops : List (List (Op (αg ⊕ αh)))} (hc : OtherHUpdatesCommute H ap ops) :
    OtherUpdatesCommute (crossTP G H snap ap) ops :=
  fun m t a hmt hm hu v s =>
    match a with
    | .inl _ => rfl
    | .inr b => congrArg (Prod.mk s.1) (hc m t b hmt hm hu v s.2)

/-- **g-side**: whatever the schedule, `g` ends as its initial value with its own updates applied
    in the order of their critical sections — the merge only READS `g`. -/
theorem C07_cross_merge_g_side (tr : List (Nat × Sec (αg ⊕ αh))) (g0 : σg) (h0 : σh) (loc : Loc ν) :
    (exec (crossTP G H snap ap).stepC ((g0, h0), loc) tr).1.1 = exec G g0 (gUpds tr) := by
  induction tr generalizing g0 h0 loc with
  | nil => rfl
  | cons e tr ih =>
    obtain ⟨t, k⟩ := e
    cases k with
    | upd a => cases a <;> exact ih _ _ _
    | snap => exact ih _ _ _
    | app => exact (ih _ _ _).trans (congrArg (exec G · _) (crossTP_applyLoc_fst ..))

/-- **h-side, every schedule.**  Threads update `g`, update `h`, and call `h.Merge(g)` (snapshot
    section on g, apply section on h).  `h` ends as the result of the SERIAL history `hHist`: h's
    updates in the order of their critical sections and, for every merge, `ap v` placed at the
    merge's snapshot section with `v` = the value `g` has at that point.  No hypothesis on g's
    updates. -/
theorem C07_cross_merge_h_side (ops : List (List (Op (αg ⊕ αh)))) (tr : List (Nat × Sec (αg ⊕ αh)))
    (hi : Interleaving (taggedSecs ops) tr)
    (haa : ∀ v v' s, ap v (ap v' s) = ap v' (ap v s)) (hc : OtherHUpdatesCommute H ap ops)
    (g0 : σg) (h0 : σh) (loc : Loc ν) :
    (exec (crossTP G H snap ap).stepC ((g0, h0), loc) tr).1.2
      = exec (hStepL H ap) h0 (hHist G snap g0 tr) := by
  rw [exec_stepC_eq_lin (crossTP G H snap ap) (projT_of_interleaving ops tr hi)
    (fun v v' s => congrArg (Prod.mk s.1) (haa v v' s.2)) (hc.crossTP G snap) (g0, h0) loc,
    crossTP_lin_h]

/-- **h-side, one merging thread** (any number of threads updating `g` and `h`): the same
    conclusion without `ap`/`ap` commutation. -/
theorem C07_cross_merge_h_side_single_merger (ops : List (List (Op (αg ⊕ αh))))
    (tr : List (Nat × Sec (αg ⊕ αh))) (hi : Interleaving (taggedSecs ops) tr) (m : Nat)
    (hm : ∀ t, t ≠ m → Op.merge ∉ (ops[t]?).getD [])
    (hc : OtherHUpdatesCommute H ap ops) (g0 : σg) (h0 : σh) (loc : Loc ν) :
    (exec (crossTP G H snap ap).stepC ((g0, h0), loc) tr).1.2
      = exec (hStepL H ap) h0 (hHist G snap g0 tr) := by
  have hproj := projT_of_interleaving ops tr hi
  rw [exec_stepC_eq_stepA (crossTP G H snap ap) hproj (noOverlap_of_single_merger_projT hproj m hm)
    (hc.crossTP G snap) (g0, h0) loc, crossTP_stepA_h]

/-- when all steps on `h` commute: the steps of `hHist` applied in ANY order -/
theorem C07_cross_merge_all_applied (ops : List (List (Op (αg ⊕ αh)))) (tr : List (Nat × Sec (αg ⊕ αh)))
    (hi : Interleaving (taggedSecs ops) tr) (hcomm : Commute (hStepL H ap))
    (g0 : σg) (h0 : σh) (loc : Loc ν) (order : List (αh ⊕ ν)) (ho : order.Perm (hHist G snap g0 tr)) :
    (exec (crossTP G H snap ap).stepC ((g0, h0), loc) tr).1.2 = order.foldl (hStepL H ap) h0 := by
  rw [C07_cross_merge_h_side G H snap ap ops tr hi (fun v v' s => hcomm s (.inr v') (.inr v))
    (fun _ _ b _ _ _ v s => hcomm s (.inl b) (.inr v)) g0 h0 loc]
  exact exec_perm_of_commute hcomm ho.symm h0

/-- the same with the history split: h's updates (`hUpds`), and the values `g` had at the
    snapshot sections (`gSnaps`) -/
theorem C07_cross_merge_updates_plus_snapshots (ops : List (List (Op (αg ⊕ αh))))
    (tr : List (Nat × Sec (αg ⊕ αh)))
    (hi : Interleaving (taggedSecs ops) tr) (hcomm : Commute (hStepL H ap))
    (g0 : σg) (h0 : σh) (loc : Loc ν) :
    (exec (crossTP G H snap ap).stepC ((g0, h0), loc) tr).1.2
      = (gSnaps G snap g0 tr).foldl (fun s v => ap v s) ((hUpds tr).foldl H h0) := by
  rw [C07_cross_merge_all_applied G H snap ap ops tr hi hcomm g0 h0 loc _ (hHist_perm G snap tr g0).symm,
    List.foldl_append, List.foldl_map, List.foldl_map]
  rfl

end cross

/-- Count-Min, `h.Merge(g)` with concurrent updates of `g` and of `h`, every schedule. -/
theorem C07_cms_cross_merge (ops : List (List (Op (CMSStep ⊕ CMSStep))))
    (tr : List (Nat × Sec (CMSStep ⊕ CMSStep))) (hi : Interleaving (taggedSecs ops) tr)
    (g0 h0 : CMS) (loc : Loc (List (List Nat))) (order : List (CMSStep ⊕ List (List Nat)))
    (ho : order.Perm (hHist cmsStepM (fun g : CMS => g.m) g0 tr)) :
    (exec (crossTP cmsStepM cmsStepM (fun g : CMS => g.m)
        (fun v s => cmsStepM s (.mergeFrom v))).stepC ((g0, h0), loc) tr).1.2
      = order.foldl (hStepL cmsStepM (fun v s => cmsStepM s (.mergeFrom v))) h0 :=
  C07_cross_merge_all_applied _ _ _ _ ops tr hi (cmsTP.hStepL_eq ▸ cmsTP_commute) g0 h0 loc order ho

/-- HyperLogLog, the same. -/
theorem C07_hll_cross_merge (ops : List (List (Op (HLLStep ⊕ HLLStep))))
    (tr : List (Nat × Sec (HLLStep ⊕ HLLStep))) (hi : Interleaving (taggedSecs ops) tr)
    (g0 h0 : List Nat) (loc : Loc (List Nat)) (order : List (HLLStep ⊕ List Nat))
    (ho : order.Perm (hHist hllStepM (fun g : List Nat => g) g0 tr)) :
    (exec (crossTP hllStepM hllStepM (fun g : List Nat => g)
        (fun v r => hllStepM r (.mergeFrom v))).stepC ((g0, h0), loc) tr).1.2
      = order.foldl (hStepL hllStepM (fun v r => hllStepM r (.mergeFrom v))) h0 :=
  C07_cross_merge_all_applied _ _ _ _ ops tr hi (hllTP.hStepL_eq ▸ hllTP_commute) g0 h0 loc order ho

namespace C07MergeCounter

/-- a read-modify-write self-merge: the apply section OVERWRITES the matrix with the doubled copy
    (instead of adding the copy to the current matrix) -/
def cmsOverwriteTP : TwoPhase CMS (List (List Nat)) CMSStep where
  f := cmsStepM
  snap s := s.m
  ap v s := { s with m := CMS.addRows v v }

theorem overwrite_alone (s : CMS) :
    cmsOverwriteTP.ap (cmsOverwriteTP.snap s) s = cmsTP.ap (cmsTP.snap s) s := rfl

def ops : List (List (Op CMSStep)) := [[.merge], [.upd (.update [0, 1] 5)]]
/-- snapshot section of the merge, the whole update, apply section of the merge -/
def wa : List Act :=
  [.acq 0, .body 0 0, .rel 0, .acq 1, .body 1 0, .rel 1, .acq 0, .body 0 1, .rel 0]
def s0 : CMS := ⟨2, 2, [[1, 2], [3, 4]]⟩

theorem wa_interleaving : Interleaving (sched (cmsOverwriteTP.threadsC ops)) wa :=
  Interleaving.of_pick (is := [0, 0, 0, 1, 1, 1, 0, 0, 0]) (by decide +kernel)

theorem wa_valid : validMutex wa := by decide +kernel
theorem wa_no_overlap : mergesDoNotOverlap ops wa := by decide +kernel

theorem not_commute : ¬ OtherUpdatesCommute cmsOverwriteTP ops := fun h =>
  absurd (h 0 1 (.update [0, 1] 5) (by decide) (by decide) (by decide) [[0, 0], [0, 0]] s0)
    (by decide +kernel)

/-- the two-phase run ends in `2·s0`: the update's 5 is lost; both serial orders contain it -/
theorem run_detail :
    (execConc (cmsOverwriteTP.threadsC ops) (s0, fun _ => none) wa).1.1.m = [[2, 4], [6, 8]] ∧
    (execSerial (cmsOverwriteTP.threadsA ops) s0 [(0, 0), (0, 1), (1, 0)]).1.m = [[7, 4], [6, 13]] ∧
    (execSerial (cmsOverwriteTP.threadsA ops) s0 [(1, 0), (0, 0), (0, 1)]).1.m = [[12, 4], [6, 18]] := by
  decide +kernel

def ops2 : List (List (Op CMSStep)) := [[.merge], [.merge]]
def wa2 : List Act :=
  [.acq 0, .body 0 0, .rel 0, .acq 1, .body 1 0, .rel 1, .acq 0, .body 0 1, .rel 0,
   .acq 1, .body 1 1, .rel 1]
def s2 : CMS := ⟨1, 2, [[1, 2]]⟩

theorem wa2_interleaving : Interleaving (sched (cmsTP.threadsC ops2)) wa2 :=
  Interleaving.of_pick (is := [0, 0, 0, 1, 1, 1, 0, 0, 0, 1, 1, 1]) (by decide +kernel)

theorem wa2_valid : validMutex wa2 := by decide +kernel

end C07MergeCounter

/-- **without commutation the two-phase shape loses an update.**  All hypotheses of
    `C07_self_merge_linearizable` except `OtherUpdatesCommute` hold (run alone the merge computes
    the Count-Min self-merge), the apply section overwrites instead of adding — and the final
    sketch differs from the serial execution of the atomic calls in EVERY order (all 6 orders of
    the 3 call ids): the update that ran between the two sections is overwritten; cell `(0,0)`
    lacks exactly its count. -/
theorem C07_two_phase_needs_commutation :
    ∃ (M : TwoPhase CMS (List (List Nat)) CMSStep) (ops : List (List (Op CMSStep))) (wa : List Act)
      (s : CMS),
      Interleaving (sched (M.threadsC ops)) wa ∧ validMutex wa ∧ mergesDoNotOverlap ops wa ∧
      (∀ s, M.ap (M.snap s) s = cmsTP.ap (cmsTP.snap s) s) ∧
      ¬ OtherUpdatesCommute M ops ∧
      (execConc (M.threadsC ops) (s, fun _ => none) wa).1.1
        ≠ (execSerial (M.threadsA ops) s (acqOrder wa)).1 ∧
      (∀ order ∈ [[((0 : Nat), (0 : Nat)), (0, 1), (1, 0)], [(0, 0), (1, 0), (0, 1)],
            [(1, 0), (0, 0), (0, 1)], [(0, 1), (0, 0), (1, 0)], [(0, 1), (1, 0), (0, 0)],
            [(1, 0), (0, 1), (0, 0)]],
        (execConc (M.threadsC ops) (s, fun _ => none) wa).1.1
          ≠ (execSerial (M.threadsA ops) s order).1) ∧
      CMS.cell (execConc (M.threadsC ops) (s, fun _ => none) wa).1.1.m 0 0 + 5
        = CMS.cell (execSerial (M.threadsA ops) s (acqOrder wa)).1.m 0 0 :=
  ⟨C07MergeCounter.cmsOverwriteTP, C07MergeCounter.ops, C07MergeCounter.wa, C07MergeCounter.s0,
    C07MergeCounter.wa_interleaving, C07MergeCounter.wa_valid, C07MergeCounter.wa_no_overlap,
    C07MergeCounter.overwrite_alone, C07MergeCounter.not_commute,
    by decide +kernel, by decide +kernel, by decide +kernel⟩

/-- **overlapping self-merges are not atomic** (Count-Min, everything commutes): thread 1 takes
    its snapshot between the two sections of thread 0's merge; both merges add the ORIGINAL matrix,
    the sketch ends as `3·s`, while atomic self-merges give `4·s` in every order.  So
    `mergesDoNotOverlap` cannot be dropped from `C07_self_merge_linearizable`; what holds for
    such schedules is `C07_self_merge_any_schedule` / `C07_self_merge_all_applied` (each merge
    adds the value it recorded: here twice `s`). -/
theorem C07_overlapping_self_merges_not_atomic :
    ∃ (ops : List (List (Op CMSStep))) (wa : List Act) (s : CMS),
      Interleaving (sched (cmsTP.threadsC ops)) wa ∧ validMutex wa ∧ OtherUpdatesCommute cmsTP ops ∧
      ¬ mergesDoNotOverlap ops wa ∧
      (execConc (cmsTP.threadsC ops) (s, fun _ => none) wa).1.1
        ≠ (execSerial (cmsTP.threadsA ops) s (acqOrder wa)).1 ∧
      (execConc (cmsTP.threadsC ops) (s, fun _ => none) wa).1.1.m = [[3, 6]] ∧
      (execSerial (cmsTP.threadsA ops) s (acqOrder wa)).1.m = [[4, 8]] ∧
      (execSerial (cmsTP.threadsA ops) s [(1, 0), (1, 1), (0, 0), (0, 1)]).1.m = [[4, 8]] ∧
      (execConc (cmsTP.threadsC ops) (s, fun _ => none) wa).1.1
        = [Sum.inr [[1, 2]], Sum.inr [[1, 2]]].foldl cmsTP.stepL s :=
  ⟨C07MergeCounter.ops2, C07MergeCounter.wa2, C07MergeCounter.s2, C07MergeCounter.wa2_interleaving,
    C07MergeCounter.wa2_valid, cmsTP_other _, by decide +kernel, by decide +kernel, by decide +kernel,
    by decide +kernel, by decide +kernel, by decide +kernel⟩

/-! ### non-vacuity -/
namespace C07MergeExample

def s0 : CMS := ⟨2, 3, [[1, 0, 2], [0, 4, 0]]⟩
def ops : List (List (Op CMSStep)) :=
  [[.upd (.update [0, 2] 5), .merge, .upd (.update [1, 1] 7)],
   [.upd (.update [2, 0] 1), .upd (.mergeFrom [[1, 1, 1], [1, 1, 1]])]]

/-- both calls of thread 1 run between the snapshot and the apply section of the merge -/
def wa : List Act :=
  [.acq 0, .body 0 0, .rel 0, .acq 0, .body 0 1, .rel 0,
   .acq 1, .body 1 0, .rel 1, .acq 1, .body 1 1, .rel 1,
   .acq 0, .body 0 2, .rel 0, .acq 0, .body 0 3, .rel 0]

theorem wa_interleaving : Interleaving (sched (cmsTP.threadsC ops)) wa :=
  Interleaving.of_pick (is := [0, 0, 0, 0, 0, 0, 1, 1, 1, 1, 1, 1, 0, 0, 0, 0, 0, 0]) (by decide +kernel)

theorem wa_valid : validMutex wa := by decide +kernel

theorem wa_order : acqOrder wa = [(0, 0), (0, 1), (1, 0), (1, 1), (0, 2), (0, 3)] := by decide +kernel

/-- the section trace in lock order: the merge's two sections are NOT adjacent -/
example : traceOf ops (acqOrder wa)
    = [(0, .upd (.update [0, 2] 5)), (0, .snap), (1, .upd (.update [2, 0] 1)),
       (1, .upd (.mergeFrom [[1, 1, 1], [1, 1, 1]])), (0, .app), (0, .upd (.update [1, 1] 7))] := by
  decide +kernel

example : (execConc (cmsTP.threadsC ops) (s0, fun _ => none) wa).1.1
    = (execSerial (cmsTP.threadsA ops) s0 (acqOrder wa)).1 :=
  C07_cms_self_merge ops s0 _ wa wa_interleaving wa_valid 0 (by
    intro t ht
    match t, ht with
    | 1, _ => decide +kernel
    | t + 2, _ => nofun)

example : (execConc (cmsTP.threadsC ops) (s0, fun _ => none) wa).1.1.m = [[13, 8, 6], [2, 16, 11]] ∧
    (execSerial (cmsTP.threadsA ops) s0 (acqOrder wa)).1.m = [[13, 8, 6], [2, 16, 11]] := by decide +kernel

/-- the serial execution that puts the merge at its APPLY section is different: the snapshot
    section is the linearization point -/
example : (execSerial (cmsTP.threadsA ops) s0 [(0, 0), (1, 0), (1, 1), (0, 1), (0, 2), (0, 3)]).1.m
    ≠ (execConc (cmsTP.threadsC ops) (s0, fun _ => none) wa).1.1.m := by decide +kernel

example : mergesDoNotOverlap ops wa := by decide +kernel

example : (execConc (cmsTP.threadsC ops) (s0, fun _ => none) wa).2.filterMap (·.2)
    = [[[6, 0, 2], [0, 4, 5]]] := by decide +kernel

example : (execConc (cmsTP.threadsC ops) (s0, fun _ => none) wa).1.1
    = [Sum.inr [[6, 0, 2], [0, 4, 5]], .inl (.update [1, 1] 7), .inl (.mergeFrom [[1, 1, 1], [1, 1, 1]]),
       .inl (.update [2, 0] 1), .inl (.update [0, 2] 5)].foldl cmsTP.stepL s0 :=
  (C07_cms_self_merge_all_applied ops s0 _ wa wa_interleaving wa_valid).2 _ (by decide +kernel)

def hops : List (List (Op HLLStep)) := [[.merge], [.upd (.update 1 7), .upd (.update 2 4)]]
def hwa : List Act :=
  [.acq 0, .body 0 0, .rel 0, .acq 1, .body 1 0, .rel 1, .acq 1, .body 1 1, .rel 1,
   .acq 0, .body 0 1, .rel 0]

theorem hwa_interleaving : Interleaving (sched (hllTP.threadsC hops)) hwa :=
  Interleaving.of_pick (is := [0, 0, 0, 1, 1, 1, 1, 1, 1, 0, 0, 0]) (by decide +kernel)

theorem hwa_valid : validMutex hwa := by decide +kernel

example : (execConc (hllTP.threadsC hops) ([0, 2, 0, 5], fun _ => none) hwa).1.1
    = (execSerial (hllTP.threadsA hops) [0, 2, 0, 5] (acqOrder hwa)).1 :=
  C07_hll_self_merge hops _ _ hwa hwa_interleaving hwa_valid 0 (by
    intro t ht
    match t, ht with
    | 1, _ => decide +kernel
    | t + 2, _ => nofun)

example : (execConc (hllTP.threadsC hops) ([0, 2, 0, 5], fun _ => none) hwa).1.1 = [0, 7, 4, 5] ∧
    (execConc (hllTP.threadsC hops) ([0, 2, 0, 5], fun _ => none) hwa).2.filterMap (·.2)
      = [[0, 2, 0, 5]] := by decide +kernel

def g0 : CMS := ⟨2, 2, [[1, 2], [3, 4]]⟩
def h0 : CMS := ⟨2, 2, [[10, 0], [0, 10]]⟩
def xops : List (List (Op (CMSStep ⊕ CMSStep))) :=
  [[.merge], [.upd (.inl (.update [0, 0] 9))], [.upd (.inr (.update [1, 1] 3))]]
def xtr : List (Nat × Sec (CMSStep ⊕ CMSStep)) :=
  [(0, .snap), (1, .upd (.inl (.update [0, 0] 9))), (2, .upd (.inr (.update [1, 1] 3))), (0, .app)]

theorem xtr_interleaving : Interleaving (taggedSecs xops) xtr :=
  Interleaving.of_pick (is := [0, 1, 2, 0]) (by decide +kernel)

/-- h's serial history: the matrix `g` had at the snapshot point (without thread 1's 9), then h's
    own update -/
example : hHist cmsStepM (fun g : CMS => g.m) g0 xtr
    = [.inr [[1, 2], [3, 4]], .inl (.update [1, 1] 3)] := by decide +kernel

example : (exec (crossTP cmsStepM cmsStepM (fun g : CMS => g.m)
      (fun v s => cmsStepM s (.mergeFrom v))).stepC ((g0, h0), fun _ => none) xtr).1.2
    = [Sum.inl (.update [1, 1] 3), .inr [[1, 2], [3, 4]]].foldl
        (hStepL cmsStepM (fun v s => cmsStepM s (.mergeFrom v))) h0 :=
  C07_cms_cross_merge xops xtr xtr_interleaving g0 h0 _ _ (by decide +kernel)

/-- concretely: `h` = h0 + g0 + its update; `g` = g0 + its update.  `g`'s 9 was in `g` before
    the apply section ran, and is not in `h`: the pair (h, g) is atomic at the snapshot section,
    not at the apply section -/
example : (exec (crossTP cmsStepM cmsStepM (fun g : CMS => g.m)
      (fun v s => cmsStepM s (.mergeFrom v))).stepC ((g0, h0), fun _ => none) xtr).1.2.m
      = [[11, 5], [3, 17]] ∧
    (exec (crossTP cmsStepM cmsStepM (fun g : CMS => g.m)
      (fun v s => cmsStepM s (.mergeFrom v))).stepC ((g0, h0), fun _ => none) xtr).1.1.m
      = [[10, 2], [12, 4]] := by decide +kernel

end C07MergeExample

end Gostatix
