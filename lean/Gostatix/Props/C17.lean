/-
  C17 — Equals agrees with observable behaviour.

  For every structure S (both backends) and `S.equals : S → S → Option Bool` of Model/Equals.lean
  (`none` = Go panic, `some b` = returned boolean, `(false, err)` = `some false`):

    C17_total_S    : WF a → WF b → equals a b ≠ none
    C17_sound_S    : WF a → WF b → equals a b = some true → a = b
                     (every query of the model is a function of this state, so all queries agree)
    C17_complete_S : WF a → equals a a = some true
    C17_symm_S     : WF a → WF b → equals a b = equals b a
    C17_spec_S     : WF a → WF b → equals a b = some (decide (a = b))

  `C17_spec_S` is proved first, following the code (Proofs/Equals.lean); the other four are read off it.

  `WF` describes the reachable states: the payload dimensions agree with the parameter fields.  For
  three further clauses (Top-K: non-nil sketch, positive finite float parameters; Redis bloom: the
  key exists) a `…_outside_WF` theorem shows what the code does without the clause; none is given for
  `length ≤ 2^64 - 64` of `BloomMem.WF`, and no proof uses `heap.length ≤ k` / `zset.length ≤ k`.

  The records and `…WF` here are those of Model/Equals.lean, unrelated to the ones of the same
  names in `Gostatix.Json`.
-/
import Gostatix.Proofs.Equals
namespace Gostatix.Equals

/-- `set` was allocated by `bitset.New(length)` / `From` / `ReadFrom`: `len(set) = wordsNeeded(length)`;
    no uint wrap-around in the word count (a bitset of ≥ 2^64-63 bits cannot be allocated). -/
def BloomMem.WF (a : BloomMem) : Prop :=
  a.length ≤ 2 ^ 64 - 64 ∧ a.words.length = wordsNeeded a.length

instance (a : BloomMem) : Decidable a.WF := by unfold BloomMem.WF; infer_instance

/-- the word loop runs over exactly the allocated words; a zero length means no words at all. -/
theorem bitsetEqual_eq_decide {a b : BloomMem} (ha : a.WF) (hb : b.WF) :
    bitsetEqual a b = some (decide (a.length = b.length ∧ a.words = b.words)) := by
  refine ne_guard_eq_decide fun hl => ?_
  have hwa : a.words.length = wordCount a.length := by rw [ha.2, wordCount_eq_wordsNeeded ha.1]
  have hwb : b.words.length = wordCount a.length := by
    rw [hb.2, ← hl, wordCount_eq_wordsNeeded ha.1]
  split
  · next h0 =>
    rw [h0] at hwa hwb
    rw [List.eq_nil_of_length_eq_zero hwa, List.eq_nil_of_length_eq_zero hwb]; rfl
  · exact eq_some_decide_of_iff (forN_goIdxEq_eq_decide hwb hwa) eq_comm

theorem C17_spec_BloomMem {a b : BloomMem} (ha : a.WF) (hb : b.WF) :
    a.equals b = some (decide (a = b)) :=
  eq_some_decide_of_iff
    (ne_or_guard_eq_decide fun _ => ne_guard_eq_decide fun _ => bitsetEqual_eq_decide ha hb)
    BloomMem.ext_iff.symm

theorem C17_total_BloomMem {a b : BloomMem} (ha : a.WF) (hb : b.WF) : a.equals b ≠ none :=
  ne_none_of_eq_some_decide (C17_spec_BloomMem ha hb)

theorem C17_sound_BloomMem {a b : BloomMem} (ha : a.WF) (hb : b.WF)
    (h : a.equals b = some true) : a = b :=
  of_eq_some_decide (C17_spec_BloomMem ha hb) h

theorem C17_complete_BloomMem {a : BloomMem} (ha : a.WF) : a.equals a = some true :=
  complete_of_spec (C17_spec_BloomMem ha ha)

theorem C17_symm_BloomMem {a b : BloomMem} (ha : a.WF) (hb : b.WF) : a.equals b = b.equals a :=
  symm_of_spec (C17_spec_BloomMem ha hb) (C17_spec_BloomMem hb ha)

/-- differ only in the last word -/
example :
    let a : BloomMem := ⟨128, 3, 128, [5, 0]⟩
    let b : BloomMem := ⟨128, 3, 128, [5, 1]⟩
    a.WF ∧ b.WF ∧ a.equals b = some false ∧ b.equals a = some false := by decide +kernel
/-- different size and hence word count: `some false`, not a panic -/
example :
    let a : BloomMem := ⟨128, 3, 128, [5, 0]⟩
    let b : BloomMem := ⟨64, 3, 64, [5]⟩
    let c : BloomMem := ⟨128, 4, 128, [5, 0]⟩
    a.WF ∧ b.WF ∧ c.WF ∧ a.equals b = some false ∧ b.equals a = some false ∧
      a.equals c = some false := by decide +kernel

/-- the bitmap key exists (`newBitSetRedis` always `SET`s it). -/
def BloomRedis.WF (a : BloomRedis) : Prop := a.str.isSome = true

instance (a : BloomRedis) : Decidable a.WF := by unfold BloomRedis.WF; infer_instance

theorem C17_spec_BloomRedis {a b : BloomRedis} (ha : a.WF) (hb : b.WF) :
    a.equals b = some (decide (a = b)) := by
  obtain ⟨x, hx⟩ := Option.isSome_iff_exists.1 ha
  obtain ⟨y, hy⟩ := Option.isSome_iff_exists.1 hb
  exact eq_some_decide_of_iff
    (ne_or_guard_eq_decide fun _ => ne_guard_eq_decide (p := a.str = b.str) fun _ => by
      rw [hx, hy, decide_some_eq_some])
    BloomRedis.ext_iff.symm

theorem C17_total_BloomRedis {a b : BloomRedis} (_ : a.WF) (_ : b.WF) : a.equals b ≠ none :=
  ne_none_of_eq_some_decide (C17_spec_BloomRedis ‹a.WF› ‹b.WF›)

theorem C17_sound_BloomRedis {a b : BloomRedis} (_ : a.WF) (_ : b.WF)
    (h : a.equals b = some true) : a = b :=
  of_eq_some_decide (C17_spec_BloomRedis ‹a.WF› ‹b.WF›) h

theorem C17_complete_BloomRedis {a : BloomRedis} (ha : a.WF) : a.equals a = some true :=
  complete_of_spec (C17_spec_BloomRedis ha ha)

theorem C17_symm_BloomRedis {a b : BloomRedis} (ha : a.WF) (hb : b.WF) : a.equals b = b.equals a :=
  symm_of_spec (C17_spec_BloomRedis ha hb) (C17_spec_BloomRedis hb ha)

/-- differ only in the last byte -/
example :
    let a : BloomRedis := ⟨16, 3, some [0, 128]⟩
    let b : BloomRedis := ⟨16, 3, some [0, 129]⟩
    a.WF ∧ b.WF ∧ a.equals b = some false ∧ b.equals a = some false := by decide +kernel
example :
    let a : BloomRedis := ⟨16, 3, some [0, 128]⟩
    let b : BloomRedis := ⟨8, 3, some [0]⟩
    a.WF ∧ b.WF ∧ a.equals b = some false ∧ b.equals a = some false := by decide +kernel
/-- outside WF: a handle whose bitmap key was deleted is not equal to itself (`(false, redis.Nil)`) -/
theorem BloomRedis_outside_WF :
    let a : BloomRedis := ⟨16, 3, none⟩
    ¬ a.WF ∧ a.equals a = some false := by decide +kernel

/-- `len(buckets) = size`, every bucket was made by `newBucketMem(bucketSize)`:
    `bucket.size = bucketSize` and `len(elements) = size` slots. -/
def CuckooMem.WF (a : CuckooMem) : Prop :=
  a.buckets.length = a.n ∧ ∀ b ∈ a.buckets, b.size = a.bsize ∧ b.elements.length = b.size

instance (a : CuckooMem) : Decidable (CuckooMem.WF a) := by unfold CuckooMem.WF; infer_instance

theorem MBucket.equals_eq_decide {x y : MBucket} (h : x.elements.length = y.elements.length) :
    MBucket.equals x y = some (decide (x = y)) :=
  eq_some_decide_of_iff
    (ne_or_guard_eq_decide fun _ => ne_guard_eq_decide fun _ => forN_goIdxEq_eq_decide h.symm rfl)
    ⟨fun ⟨h1, h2, h3⟩ => by
      cases x; cases y; exact (BucketMem.mk.injEq ..).mpr ⟨h1, h3.symm, h2⟩,
      by rintro rfl; exact ⟨rfl, rfl, rfl⟩⟩

theorem C17_spec_CuckooMem {a b : CuckooMem} (ha : CuckooMem.WF a) (hb : CuckooMem.WF b) :
    CuckooMem.equals a b = some (decide (a = b)) := by
  refine eq_some_decide_of_iff
    (ne_or_guard_eq_decide fun _ => ne_or_guard_eq_decide fun hbs => ne_or_guard_eq_decide fun _ =>
      ne_or_guard_eq_decide fun _ => ne_or_guard_eq_decide fun _ => ne_guard_eq_decide fun hlen =>
        bucketLoop_eq_decide hlen fun i x y hx hy => MBucket.equals_eq_decide ?_)
    ⟨fun ⟨h1, h2, h3, h4, h5, _, h6⟩ => by
      cases a; cases b; exact (Cuckoo.mk.injEq ..).mpr ⟨h1, h2, h3, h4, h6, h5⟩,
      by rintro rfl; exact ⟨rfl, rfl, rfl, rfl, rfl, rfl, rfl⟩⟩
  have h1 := ha.2 x (List.mem_of_getElem? hx)
  have h2 := hb.2 y (List.mem_of_getElem? hy)
  rw [h2.2, h2.1, h1.2, h1.1, hbs]

theorem C17_total_CuckooMem {a b : CuckooMem} (ha : CuckooMem.WF a) (hb : CuckooMem.WF b) :
    CuckooMem.equals a b ≠ none :=
  ne_none_of_eq_some_decide (C17_spec_CuckooMem ha hb)

theorem C17_sound_CuckooMem {a b : CuckooMem} (ha : CuckooMem.WF a) (hb : CuckooMem.WF b)
    (h : CuckooMem.equals a b = some true) : a = b :=
  of_eq_some_decide (C17_spec_CuckooMem ha hb) h

theorem C17_complete_CuckooMem {a : CuckooMem} (_ : CuckooMem.WF a) :
    CuckooMem.equals a a = some true :=
  complete_of_spec (C17_spec_CuckooMem ‹_› ‹_›)

theorem C17_symm_CuckooMem {a b : CuckooMem} (ha : CuckooMem.WF a) (hb : CuckooMem.WF b) :
    CuckooMem.equals a b = CuckooMem.equals b a :=
  symm_of_spec (C17_spec_CuckooMem ha hb) (C17_spec_CuckooMem hb ha)

/-- differ only in the last slot of the last bucket (same cached lengths) -/
example :
    let a : CuckooMem := ⟨2, 2, 3, 500, [⟨2, ["123", ""], 1⟩, ⟨2, ["456", "789"], 2⟩], 3⟩
    let b : CuckooMem := ⟨2, 2, 3, 500, [⟨2, ["123", ""], 1⟩, ⟨2, ["456", "780"], 2⟩], 3⟩
    CuckooMem.WF a ∧ CuckooMem.WF b ∧ CuckooMem.equals a b = some false ∧
      CuckooMem.equals b a = some false := by decide +kernel
/-- more buckets / larger buckets / other fingerprint length: no panic in either argument order
    (the guard compares `len(buckets)` before the loop indexes) -/
example :
    let a : CuckooMem := ⟨2, 2, 3, 500, [⟨2, ["", ""], 0⟩, ⟨2, ["", ""], 0⟩], 0⟩
    let b : CuckooMem := ⟨1, 2, 3, 500, [⟨2, ["", ""], 0⟩], 0⟩
    let c : CuckooMem := ⟨2, 3, 3, 500, [⟨3, ["", "", ""], 0⟩, ⟨3, ["", "", ""], 0⟩], 0⟩
    let d : CuckooMem := ⟨2, 2, 4, 500, [⟨2, ["", ""], 0⟩, ⟨2, ["", ""], 0⟩], 0⟩
    CuckooMem.WF a ∧ CuckooMem.WF b ∧ CuckooMem.WF c ∧ CuckooMem.WF d ∧
      CuckooMem.equals a b = some false ∧ CuckooMem.equals b a = some false ∧
      CuckooMem.equals a c = some false ∧ CuckooMem.equals c a = some false ∧
      CuckooMem.equals a d = some false := by decide +kernel

/-- one bucket handle per index, each made by `newBucketRedis(key, bucketSize)`; the Redis list never
    holds more than `size` entries (`LPUSH` only happens when `<key>_len < size`). -/
def CuckooRedis.WF (a : CuckooRedis) : Prop :=
  a.buckets.length = a.n ∧ ∀ b ∈ a.buckets, b.size = a.bsize ∧ b.list.length ≤ b.size

instance (a : CuckooRedis) : Decidable a.WF := by unfold CuckooRedis.WF; infer_instance

/-- no assumption on the lists: entries beyond `size` are never looked at, and a list shorter than
    `size` only matches a list of the same length (a missing entry is `nil`, and `nil ~= ""`). -/
theorem RBucket.equals_eq (x y : RBucket) : RBucket.equals x y =
    some (decide (x.size = y.size ∧ x.list.take x.size = y.list.take x.size)) :=
  ne_guard_eq_decide fun _ =>
    forN_eq_decide_list_eq (List.length_take_le ..) (List.length_take_le ..) fun i hi => by
      rw [List.getElem?_take_of_lt hi, List.getElem?_take_of_lt hi]; rfl

theorem RBucket.equals_eq_decide {x y : RBucket} (hx : x.list.length ≤ x.size)
    (hy : y.list.length ≤ y.size) : RBucket.equals x y = some (decide (x = y)) := by
  refine eq_some_decide_of_iff (RBucket.equals_eq x y) ⟨?_, ?_⟩
  · rintro ⟨hs, hl⟩
    rw [List.take_of_length_le hx, List.take_of_length_le (hs ▸ hy)] at hl
    cases x; cases y; exact (RBucket.mk.injEq ..).mpr ⟨hs, hl⟩
  · rintro rfl
    exact ⟨rfl, rfl⟩

theorem C17_spec_CuckooRedis {a b : CuckooRedis} (ha : a.WF) (hb : b.WF) :
    a.equals b = some (decide (a = b)) :=
  eq_some_decide_of_iff
    (ne_or_guard_eq_decide fun _ => ne_or_guard_eq_decide fun _ => ne_or_guard_eq_decide fun _ =>
      ne_or_guard_eq_decide fun _ => ne_or_guard_eq_decide fun _ => ne_guard_eq_decide fun hlen =>
        bucketLoop_eq_decide hlen fun i x y hx hy => RBucket.equals_eq_decide
          (hb.2 y (List.mem_of_getElem? hy)).2 (ha.2 x (List.mem_of_getElem? hx)).2)
    ⟨fun ⟨h1, h2, h3, h4, h5, _, h6⟩ => by
      cases a; cases b; exact (CuckooRedis.mk.injEq ..).mpr ⟨h1, h2, h3, h4, h5, h6⟩,
      by rintro rfl; exact ⟨rfl, rfl, rfl, rfl, rfl, rfl, rfl⟩⟩

theorem C17_total_CuckooRedis {a b : CuckooRedis} (ha : a.WF) (hb : b.WF) : a.equals b ≠ none :=
  ne_none_of_eq_some_decide (C17_spec_CuckooRedis ha hb)

theorem C17_sound_CuckooRedis {a b : CuckooRedis} (ha : a.WF) (hb : b.WF)
    (h : a.equals b = some true) : a = b :=
  of_eq_some_decide (C17_spec_CuckooRedis ha hb) h

/-- soundness without `WF`: the lists agree on their first `size` entries only. -/
theorem C17_sound_CuckooRedis_prefix {a b : CuckooRedis}
    (h : a.equals b = some true) :
    a.n = b.n ∧ a.bsize = b.bsize ∧ a.fpl = b.fpl ∧ a.retries = b.retries ∧ a.length = b.length ∧
    a.buckets.length = b.buckets.length ∧
    ∀ (i : Nat) (x y : RBucket), a.buckets[i]? = some x → b.buckets[i]? = some y →
      x.size = y.size ∧ x.list.take x.size = y.list.take x.size := by
  unfold CuckooRedis.equals at h
  split at h
  · cases h
  · next hp =>
    simp only [ne_eq, not_or, Decidable.not_not] at hp
    refine ⟨hp.1, hp.2.1, hp.2.2.1, hp.2.2.2.1, hp.2.2.2.2.1, hp.2.2.2.2.2, fun i x y hx hy => ?_⟩
    have := (forN_cases _ _).elim (·.2 i (List.getElem?_eq_some_iff.1 hx).1)
      fun ⟨_, _, hne, heq⟩ => absurd (heq.symm.trans h) hne
    rw [hx, hy] at this
    obtain ⟨hs, ht⟩ := of_eq_some_decide (RBucket.equals_eq y x) this
    exact ⟨hs.symm, hs ▸ ht.symm⟩

theorem C17_complete_CuckooRedis {a : CuckooRedis} (_ : a.WF) : a.equals a = some true :=
  complete_of_spec (C17_spec_CuckooRedis ‹_› ‹_›)

theorem C17_symm_CuckooRedis {a b : CuckooRedis} (ha : a.WF) (hb : b.WF) : a.equals b = b.equals a :=
  symm_of_spec (C17_spec_CuckooRedis ha hb) (C17_spec_CuckooRedis hb ha)

/-- differ only in the last entry of the last bucket; and a trailing hole `""` versus a shorter
    list (`nil`) is a difference too -/
example :
    let a : CuckooRedis := ⟨2, 2, 3, 500, 3, [⟨2, ["123"]⟩, ⟨2, ["456", "789"]⟩]⟩
    let b : CuckooRedis := ⟨2, 2, 3, 500, 3, [⟨2, ["123"]⟩, ⟨2, ["456", "780"]⟩]⟩
    let c : CuckooRedis := ⟨2, 2, 3, 500, 3, [⟨2, ["123", ""]⟩, ⟨2, ["456", "789"]⟩]⟩
    a.WF ∧ b.WF ∧ c.WF ∧ a.equals b = some false ∧ b.equals a = some false ∧
      a.equals c = some false ∧ c.equals a = some false := by decide +kernel
/-- different parameters, both orders: the guard answers, no bucket is dereferenced -/
example :
    let a : CuckooRedis := ⟨2, 2, 3, 500, 0, [⟨2, []⟩, ⟨2, []⟩]⟩
    let b : CuckooRedis := ⟨1, 2, 3, 500, 0, [⟨2, []⟩]⟩
    let c : CuckooRedis := ⟨2, 3, 3, 500, 0, [⟨3, []⟩, ⟨3, []⟩]⟩
    a.WF ∧ b.WF ∧ c.WF ∧ a.equals b = some false ∧ b.equals a = some false ∧
      a.equals c = some false ∧ c.equals a = some false := by decide +kernel

/-- `rows` rows of `cols` cells (`NewCountMinSketch` / `initMatrix`). -/
def CMSWF (a : CMS) : Prop := a.m.length = a.rows ∧ ∀ r ∈ a.m, r.length = a.cols

instance (a : CMS) : Decidable (CMSWF a) := by unfold CMSWF; infer_instance

theorem cms_guard_eq_decide {a b : CMS} {r : Option Bool}
    (h : a.rows = b.rows → a.cols = b.cols → r = some (decide (a.m = b.m))) :
    (if a.rows ≠ b.rows ∨ a.cols ≠ b.cols then some false else r) = some (decide (a = b)) :=
  eq_some_decide_of_iff (ne_or_guard_eq_decide fun hr => ne_guard_eq_decide (h hr))
    CMS.ext_iff.symm

theorem C17_spec_CMSMem {a b : CMS} (ha : CMSWF a) (hb : CMSWF b) :
    CMSMem.equals a b = some (decide (a = b)) := by
  refine cms_guard_eq_decide fun hr hc => ?_
  have hlen : b.m.length = a.m.length := by rw [ha.1, hb.1, hr]
  refine forN_eq_decide_list_eq (Nat.le_refl _) (Nat.le_of_eq hlen) fun i hi => ?_
  have hi' : i < b.m.length := hlen ▸ hi
  rw [List.getElem?_eq_getElem hi, List.getElem?_eq_getElem hi', decide_some_eq_some]
  exact forN_goIdxEq_eq_decide rfl
    (by rw [hb.2 _ (List.getElem_mem hi'), ha.2 _ (List.getElem_mem hi), hc])

theorem C17_total_CMSMem {a b : CMS} (ha : CMSWF a) (hb : CMSWF b) : CMSMem.equals a b ≠ none :=
  ne_none_of_eq_some_decide (C17_spec_CMSMem ha hb)

theorem C17_sound_CMSMem {a b : CMS} (ha : CMSWF a) (hb : CMSWF b)
    (h : CMSMem.equals a b = some true) : a = b :=
  of_eq_some_decide (C17_spec_CMSMem ha hb) h

theorem C17_complete_CMSMem {a : CMS} (_ : CMSWF a) : CMSMem.equals a a = some true :=
  complete_of_spec (C17_spec_CMSMem ‹_› ‹_›)

theorem C17_symm_CMSMem {a b : CMS} (ha : CMSWF a) (hb : CMSWF b) :
    CMSMem.equals a b = CMSMem.equals b a :=
  symm_of_spec (C17_spec_CMSMem ha hb) (C17_spec_CMSMem hb ha)

/-- differ only in the last cell of the last row -/
example :
    let a : CMS := ⟨2, 3, [[1, 0, 2], [0, 3, 0]]⟩
    let b : CMS := ⟨2, 3, [[1, 0, 2], [0, 3, 1]]⟩
    CMSWF a ∧ CMSWF b ∧ CMSMem.equals a b = some false ∧ CMSMem.equals b a = some false ∧
      CMSRedis.equals a b = some false ∧ CMSRedis.equals b a = some false := by decide +kernel
/-- differ in ONE dimension only: the guard is a disjunction, no cell is compared -/
example :
    let a : CMS := ⟨2, 3, [[0, 0, 0], [0, 0, 0]]⟩
    let b : CMS := ⟨2, 2, [[0, 0], [0, 0]]⟩
    let c : CMS := ⟨1, 3, [[0, 0, 0]]⟩
    CMSWF a ∧ CMSWF b ∧ CMSWF c ∧
      CMSMem.equals a b = some false ∧ CMSMem.equals b a = some false ∧
      CMSMem.equals a c = some false ∧ CMSMem.equals c a = some false ∧
      CMSRedis.equals a b = some false ∧ CMSRedis.equals b a = some false ∧
      CMSRedis.equals a c = some false ∧ CMSRedis.equals c a = some false := by decide +kernel

theorem C17_spec_CMSRedis {a b : CMS} (ha : CMSWF a) (hb : CMSWF b) :
    CMSRedis.equals a b = some (decide (a = b)) := by
  refine cms_guard_eq_decide fun hr hc => ?_
  refine forN_eq_decide_list_eq (Nat.le_of_eq ha.1) (Nat.le_of_eq (hb.1.trans hr.symm)) fun i hi => ?_
  have hia : i < a.m.length := ha.1 ▸ hi
  have hib : i < b.m.length := hb.1 ▸ hr ▸ hi
  rw [List.getElem?_eq_getElem hia, List.getElem?_eq_getElem hib, decide_some_eq_some]
  exact forN_luaIdxEq_eq_decide (Nat.le_of_eq (ha.2 _ (List.getElem_mem hia)))
    (Nat.le_of_eq ((hb.2 _ (List.getElem_mem hib)).trans hc.symm))

theorem C17_total_CMSRedis {a b : CMS} (_ : CMSWF a) (_ : CMSWF b) : CMSRedis.equals a b ≠ none :=
  ne_none_of_eq_some_decide (C17_spec_CMSRedis ‹CMSWF a› ‹CMSWF b›)

theorem C17_sound_CMSRedis {a b : CMS} (ha : CMSWF a) (hb : CMSWF b)
    (h : CMSRedis.equals a b = some true) : a = b :=
  of_eq_some_decide (C17_spec_CMSRedis ha hb) h

theorem C17_complete_CMSRedis {a : CMS} (_ : CMSWF a) : CMSRedis.equals a a = some true :=
  complete_of_spec (C17_spec_CMSRedis ‹_› ‹_›)

theorem C17_symm_CMSRedis {a b : CMS} (ha : CMSWF a) (hb : CMSWF b) :
    CMSRedis.equals a b = CMSRedis.equals b a :=
  symm_of_spec (C17_spec_CMSRedis ha hb) (C17_spec_CMSRedis hb ha)

/-- `len(registers) = numRegisters` (`make([]uint8, numRegisters)` / `initRegisters`). -/
def HLLWF (a : HLL) : Prop := a.regs.length = a.m

instance (a : HLL) : Decidable (HLLWF a) := by unfold HLLWF; infer_instance

theorem hll_guard_eq_decide {a b : HLL} {r : Option Bool}
    (h : a.m = b.m → r = some (decide (a.regs = b.regs))) :
    (if a.m ≠ b.m then some false else r) = some (decide (a = b)) :=
  eq_some_decide_of_iff (ne_guard_eq_decide h)
    HLL.ext_iff.symm

theorem C17_spec_HLLMem {a b : HLL} (ha : HLLWF a) (hb : HLLWF b) :
    HLLMem.equals a b = some (decide (a = b)) :=
  hll_guard_eq_decide fun hm => forN_goIdxEq_eq_decide ha (hb.trans hm.symm)

theorem C17_total_HLLMem {a b : HLL} (ha : HLLWF a) (hb : HLLWF b) : HLLMem.equals a b ≠ none :=
  ne_none_of_eq_some_decide (C17_spec_HLLMem ha hb)

theorem C17_sound_HLLMem {a b : HLL} (ha : HLLWF a) (hb : HLLWF b)
    (h : HLLMem.equals a b = some true) : a = b :=
  of_eq_some_decide (C17_spec_HLLMem ha hb) h

theorem C17_complete_HLLMem {a : HLL} (ha : HLLWF a) : HLLMem.equals a a = some true :=
  complete_of_spec (C17_spec_HLLMem ha ha)

theorem C17_symm_HLLMem {a b : HLL} (ha : HLLWF a) (hb : HLLWF b) :
    HLLMem.equals a b = HLLMem.equals b a :=
  symm_of_spec (C17_spec_HLLMem ha hb) (C17_spec_HLLMem hb ha)

theorem C17_spec_HLLRedis {a b : HLL} (ha : HLLWF a) (hb : HLLWF b) :
    HLLRedis.equals a b = some (decide (a = b)) :=
  hll_guard_eq_decide fun hm =>
    forN_luaIdxEq_eq_decide (Nat.le_of_eq ha) (Nat.le_of_eq (hb.trans hm.symm))

theorem C17_total_HLLRedis {a b : HLL} (_ : HLLWF a) (_ : HLLWF b) : HLLRedis.equals a b ≠ none :=
  ne_none_of_eq_some_decide (C17_spec_HLLRedis ‹HLLWF a› ‹HLLWF b›)

theorem C17_sound_HLLRedis {a b : HLL} (ha : HLLWF a) (hb : HLLWF b)
    (h : HLLRedis.equals a b = some true) : a = b :=
  of_eq_some_decide (C17_spec_HLLRedis ha hb) h

theorem C17_complete_HLLRedis {a : HLL} (_ : HLLWF a) : HLLRedis.equals a a = some true :=
  complete_of_spec (C17_spec_HLLRedis ‹_› ‹_›)

theorem C17_symm_HLLRedis {a b : HLL} (ha : HLLWF a) (hb : HLLWF b) :
    HLLRedis.equals a b = HLLRedis.equals b a :=
  symm_of_spec (C17_spec_HLLRedis ha hb) (C17_spec_HLLRedis hb ha)

/-- differ only in the LAST register: the loop runs up to `numRegisters - 1` inclusive -/
example :
    let a : HLL := ⟨4, [0, 2, 0, 5]⟩
    let b : HLL := ⟨4, [0, 2, 0, 6]⟩
    HLLWF a ∧ HLLWF b ∧ HLLMem.equals a b = some false ∧ HLLMem.equals b a = some false ∧
      HLLRedis.equals a b = some false ∧ HLLRedis.equals b a = some false := by decide +kernel
example :
    let a : HLL := ⟨4, [0, 0, 0, 0]⟩
    let b : HLL := ⟨2, [0, 0]⟩
    HLLWF a ∧ HLLWF b ∧ HLLMem.equals a b = some false ∧ HLLMem.equals b a = some false ∧
      HLLRedis.equals a b = some false ∧ HLLRedis.equals b a = some false := by decide +kernel

def sketchWF : Option CMS → Prop
  | some s => CMSWF s
  | none => False

instance : (o : Option CMS) → Decidable (sketchWF o)
  | some s => by unfold sketchWF; infer_instance
  | none => by unfold sketchWF; infer_instance

/-- `errorRate` and `accuracy` are positive finite floats (what the sizing formulas of
    `NewCountMinSketchFromEstimates` need to produce a sketch at all), the sketch exists, and the
    heap holds at most `k` entries. -/
def TopKMem.WF (a : TopKMem) : Prop :=
  F64.PosFinite a.er ∧ F64.PosFinite a.acc ∧ sketchWF a.sketch ∧ a.heap.length ≤ a.k

instance (a : TopKMem) : Decidable a.WF := by unfold TopKMem.WF; infer_instance

theorem sketchWF_some {o : Option CMS} (h : sketchWF o) : ∃ s, o = some s ∧ CMSWF s := by
  cases o with
  | none => exact h.elim
  | some s => exact ⟨s, rfl, h⟩

theorem C17_spec_TopKMem {a b : TopKMem} (ha : a.WF) (hb : b.WF) :
    a.equals b = some (decide (a = b)) := by
  obtain ⟨hea, haa, hsa, _⟩ := ha; obtain ⟨heb, hab, hsb, _⟩ := hb
  obtain ⟨sa, ea, wa⟩ := sketchWF_some hsa
  obtain ⟨sb, eb, wb⟩ := sketchWF_some hsb
  rw [TopKMem.equals, ea, eb]
  refine eq_some_decide_of_iff
    (ne_guard_eq_decide fun _ => f64_guard_eq_decide haa hab <| f64_guard_eq_decide hea heb <|
      andThen_eq_decide (C17_spec_CMSMem wa wb) fun _ => ne_guard_eq_decide fun hl =>
        forN_goIdxEq_eq_decide rfl hl.symm) ⟨?_, ?_⟩
  · rintro ⟨hk, hacc, her, hs, -, hh⟩
    cases a; cases b
    exact (TopKMem.mk.injEq ..).mpr ⟨hk, her, hacc, ea.trans (hs ▸ eb.symm), hh⟩
  · rintro rfl
    exact ⟨rfl, rfl, rfl, Option.some.inj (ea.symm.trans eb), rfl, rfl⟩

theorem C17_total_TopKMem {a b : TopKMem} (ha : a.WF) (hb : b.WF) : a.equals b ≠ none :=
  ne_none_of_eq_some_decide (C17_spec_TopKMem ha hb)

theorem C17_sound_TopKMem {a b : TopKMem} (ha : a.WF) (hb : b.WF)
    (h : a.equals b = some true) : a = b :=
  of_eq_some_decide (C17_spec_TopKMem ha hb) h

theorem C17_complete_TopKMem {a : TopKMem} (ha : a.WF) : a.equals a = some true :=
  complete_of_spec (C17_spec_TopKMem ha ha)

theorem C17_symm_TopKMem {a b : TopKMem} (ha : a.WF) (hb : b.WF) : a.equals b = b.equals a :=
  symm_of_spec (C17_spec_TopKMem ha hb) (C17_spec_TopKMem hb ha)

/-- 0.01 and 0.99 as float64 bits -/
def f001 : Nat := 0x3F847AE147AE147B
def f099 : Nat := 0x3FEFAE147AE147AE

/-- differ only in the last heap entry (frequency; then the tracked element) -/
example :
    let s : CMS := ⟨1, 2, [[3, 4]]⟩
    let a : TopKMem := ⟨2, f001, f099, some s, [("p", 3), ("q", 4)]⟩
    let b : TopKMem := ⟨2, f001, f099, some s, [("p", 3), ("q", 5)]⟩
    let c : TopKMem := ⟨2, f001, f099, some s, [("p", 3), ("r", 4)]⟩
    a.WF ∧ b.WF ∧ c.WF ∧ a.equals b = some false ∧ b.equals a = some false ∧
      a.equals c = some false ∧ c.equals a = some false := by decide +kernel
/-- different k / heap lengths / sketch dimensions: `some false`, no panic
    (the heap lengths are compared before `u.heap[i]` is indexed) -/
example :
    let s : CMS := ⟨1, 2, [[3, 4]]⟩
    let s' : CMS := ⟨1, 3, [[3, 4, 0]]⟩
    let a : TopKMem := ⟨2, f001, f099, some s, [("p", 3), ("q", 4)]⟩
    let b : TopKMem := ⟨3, f001, f099, some s, [("p", 3), ("q", 4)]⟩
    let c : TopKMem := ⟨2, f001, f099, some s, [("p", 3)]⟩
    let d : TopKMem := ⟨2, f099, f099, some s', [("p", 3), ("q", 4)]⟩
    a.WF ∧ b.WF ∧ c.WF ∧ d.WF ∧ a.equals b = some false ∧ b.equals a = some false ∧
      a.equals c = some false ∧ c.equals a = some false ∧
      a.equals d = some false ∧ d.equals a = some false := by decide +kernel

/-- outside WF (1): `NewTopK(k, errorRate, 1.0)`: `NewCountMinSketchFromEstimates` computes
    `rows = ceil(log(1/1.0)) = 0` and returns `(nil, err)`, `NewTopK` drops the error and stores the nil
    sketch, which `Equals` dereferences after the three parameter guards: PANIC, even against itself. -/
theorem TopKMem_outside_WF_nil_sketch :
    let a : TopKMem := ⟨2, f001, 0x3FF0000000000000, none, []⟩
    ¬ a.WF ∧ a.equals a = none := by decide +kernel

/-- outside WF (2): a NaN parameter (reachable only through `ReadFrom` of a crafted stream; JSON
    cannot carry NaN): the structure is not equal to itself. -/
theorem TopKMem_outside_WF_nan :
    let a : TopKMem := ⟨2, 0x7FF8000000000001, f099, some ⟨1, 2, [[0, 0]]⟩, []⟩
    ¬ a.WF ∧ a.equals a = some false := by decide +kernel

/-- outside WF (3): `+0.0` and `-0.0` compare equal as floats although the stored bits differ. -/
theorem TopKMem_outside_WF_zero :
    let a : TopKMem := ⟨2, 0, f099, some ⟨1, 2, [[0, 0]]⟩, []⟩
    let b : TopKMem := ⟨2, 0x8000000000000000, f099, some ⟨1, 2, [[0, 0]]⟩, []⟩
    a ≠ b ∧ a.equals b = some true := by decide +kernel

/-- as in memory; the sorted set holds at most `k` members. -/
def TopKRedis.WF (a : TopKRedis) : Prop :=
  F64.PosFinite a.er ∧ F64.PosFinite a.acc ∧ sketchWF a.sketch ∧ a.zset.length ≤ a.k

instance (a : TopKRedis) : Decidable a.WF := by unfold TopKRedis.WF; infer_instance

theorem compareHeaps_eq_decide (z1 z2 : List (String × Nat)) :
    compareHeaps z1 z2 = some (decide (z1 = z2)) :=
  eq_some_decide_of_iff
    (ne_guard_eq_decide fun hl => forN_luaIdxEq_eq_decide (Nat.le_refl _) (Nat.le_of_eq hl.symm))
    ⟨fun h => withScores_injective _ _ h.2, by rintro rfl; exact ⟨rfl, rfl⟩⟩

theorem compareHeaps_ne_none (z1 z2 : List (String × Nat)) : compareHeaps z1 z2 ≠ none :=
  ne_none_of_eq_some_decide (compareHeaps_eq_decide z1 z2)

theorem compareHeaps_true_iff (z1 z2 : List (String × Nat)) :
    compareHeaps z1 z2 = some true ↔ z1 = z2 := by
  rw [compareHeaps_eq_decide, Option.some.injEq, decide_eq_true_eq]

theorem C17_spec_TopKRedis {a b : TopKRedis} (ha : a.WF) (hb : b.WF) :
    a.equals b = some (decide (a = b)) := by
  obtain ⟨hea, haa, hsa, _⟩ := ha; obtain ⟨heb, hab, hsb, _⟩ := hb
  obtain ⟨sa, ea, wa⟩ := sketchWF_some hsa
  obtain ⟨sb, eb, wb⟩ := sketchWF_some hsb
  rw [TopKRedis.equals, ea, eb]
  refine eq_some_decide_of_iff
    (ne_guard_eq_decide fun _ => f64_guard_eq_decide haa hab <| f64_guard_eq_decide hea heb <|
      andThen_eq_decide (C17_spec_CMSRedis wa wb) fun _ => compareHeaps_eq_decide _ _) ⟨?_, ?_⟩
  · rintro ⟨hk, hacc, her, hs, hh⟩
    cases a; cases b
    exact (TopKRedis.mk.injEq ..).mpr ⟨hk, her, hacc, ea.trans (hs ▸ eb.symm), hh⟩
  · rintro rfl
    exact ⟨rfl, rfl, rfl, Option.some.inj (ea.symm.trans eb), rfl⟩

theorem C17_total_TopKRedis {a b : TopKRedis} (ha : a.WF) (hb : b.WF) : a.equals b ≠ none :=
  ne_none_of_eq_some_decide (C17_spec_TopKRedis ha hb)

theorem C17_sound_TopKRedis {a b : TopKRedis} (ha : a.WF) (hb : b.WF)
    (h : a.equals b = some true) : a = b :=
  of_eq_some_decide (C17_spec_TopKRedis ha hb) h

theorem C17_complete_TopKRedis {a : TopKRedis} (ha : a.WF) : a.equals a = some true :=
  complete_of_spec (C17_spec_TopKRedis ha ha)

theorem C17_symm_TopKRedis {a b : TopKRedis} (ha : a.WF) (hb : b.WF) : a.equals b = b.equals a :=
  symm_of_spec (C17_spec_TopKRedis ha hb) (C17_spec_TopKRedis hb ha)

/-- differ only in the last zset entry: its score; its member; and a pair with the same scores and
    the members swapped (the script compares members as well as scores) -/
example :
    let s : CMS := ⟨1, 2, [[3, 4]]⟩
    let a : TopKRedis := ⟨2, f001, f099, some s, [("p", 1), ("q", 2)]⟩
    let b : TopKRedis := ⟨2, f001, f099, some s, [("p", 1), ("q", 3)]⟩
    let c : TopKRedis := ⟨2, f001, f099, some s, [("p", 1), ("r", 2)]⟩
    let d : TopKRedis := ⟨2, f001, f099, some s, [("q", 1), ("p", 2)]⟩
    a.WF ∧ b.WF ∧ c.WF ∧ d.WF ∧ a.equals b = some false ∧ b.equals a = some false ∧
      a.equals c = some false ∧ c.equals a = some false ∧
      a.equals d = some false ∧ d.equals a = some false := by decide +kernel
example :
    let s : CMS := ⟨1, 2, [[3, 4]]⟩
    let a : TopKRedis := ⟨2, f001, f099, some s, [("p", 1), ("q", 2)]⟩
    let b : TopKRedis := ⟨3, f001, f099, some s, [("p", 1), ("q", 2)]⟩
    let c : TopKRedis := ⟨2, f001, f099, some s, [("p", 1)]⟩
    let d : TopKRedis := ⟨2, f001, f001, some ⟨2, 2, [[3, 4], [0, 0]]⟩, [("p", 1), ("q", 2)]⟩
    a.WF ∧ b.WF ∧ c.WF ∧ d.WF ∧ a.equals b = some false ∧ b.equals a = some false ∧
      a.equals c = some false ∧ c.equals a = some false ∧
      a.equals d = some false ∧ d.equals a = some false := by decide +kernel

/-- outside WF: `NewTopKRedisFromKey` on a metadata key whose `sketchKey` no longer resolves stores a
    nil sketch (the error is dropped); `Equals` dereferences it: PANIC. -/
theorem TopKRedis_outside_WF_nil_sketch :
    let a : TopKRedis := ⟨2, f001, f099, none, []⟩
    ¬ a.WF ∧ a.equals a = none := by decide +kernel

end Gostatix.Equals
