/-
  C05 — HyperLogLog accuracy.  The property's accuracy clause is FALSE of the pinned code
  (finding D4): `getRegisterIndexAndCount` uses the rank `1 + clz64(hash << p)` as the register
  INDEX and `uint8(hash >> (32-p))` as the stored VALUE.  What is proved here is the exact
  characterisation of what the code computes; the full statement is kept below as a comment.

  -- NOT A THEOREM (refuted by `C05_registers_confined` + `C05_update_can_fail`):
  --   after n distinct elements, |Count - n| / n ≤ c · 1.04/√m, and every Update completes.
-/
import Gostatix.Proofs.HLL
namespace Gostatix.HLL

theorem C05_index_range (hash p : Nat) : 1 ≤ indexOf hash p ∧ indexOf hash p ≤ 65 := by
  unfold indexOf; have := clz64_le ((hash * 2 ^ p) % 2 ^ 64); omega

theorem C05_value_range (hash p : Nat) : valueOf hash p < 256 := by
  unfold valueOf; exact Nat.mod_lt _ (by decide)

/-- so for m ≤ 64 there are hashes on which `Update` fails: in-memory panic, Redis error -/
theorem C05_update_ok_iff (s : HLL) (idx val : Nat) :
    (∃ s', s.update idx val = .ok s') ↔ idx < s.regs.length := by
  unfold update; constructor
  · intro ⟨s', h⟩; split at h <;> simp_all
  · intro h; simp [h]

/-- the all-zero hash has rank 65 (`indexOf_zero`); m = 65 and any state:
    `C05_update_can_fail_le_65` in Props/C05Est.lean -/
theorem C05_update_can_fail (m : Nat) (hm : m ≤ 64) :
    (HLL.new m).update (indexOf 0 0) (valueOf 0 0) = .panic := by
  simp [update, new, indexOf_zero]; omega

/-- registers outside 1..65 are never written -/
theorem C05_registers_confined (regs : List Nat) (h : List (Nat × Nat)) (j : Nat)
    (hidx : ∀ iv ∈ h, 1 ≤ iv.1 ∧ iv.1 ≤ 65) (hj : j = 0 ∨ 65 < j) :
    (h.foldl upd regs).getD j 0 = regs.getD j 0 :=
  foldl_upd_getD_untouched regs h j fun iv hiv e => by have := hidx iv hiv; omega

/-- hence at most 65 of the m registers can ever be non-zero; the consequence for the estimate is
    in Props/C05Est.lean -/
theorem C05_nonzero_registers_bounded (m : Nat) (h : List (Nat × Nat))
    (hidx : ∀ iv ∈ h, 1 ≤ iv.1 ∧ iv.1 ≤ 65) (j : Nat) (hj : 65 < j) :
    (h.foldl upd (List.replicate m 0)).getD j 0 = 0 := by
  rw [C05_registers_confined _ h j hidx (Or.inr hj)]
  simp [List.getD_eq_getElem?_getD, List.getElem?_replicate]
  split <;> rfl

example : 1 ≤ indexOf 12345678901234567 7 ∧ indexOf 12345678901234567 7 ≤ 65 := C05_index_range _ _
example : (HLL.new 4).update (indexOf 1 2) (valueOf 1 2) = .panic := by decide +kernel

end Gostatix.HLL
