/-
  C09 (stability) — a Redis-backed structure can be re-attached through its metadata key at ANY
  point of a history, not only right after its creation.

  Props/C09.lean proves `attach (create h s) = some h` and that an operation framed by a key set
  NOT containing the metadata key cannot change what attach reads.  The C19 frames of a
  structure's OWN operations are stated on `h.keysOf`, which contains the metadata key.  The
  idea here: every own operation is framed by the DATA keys (`keysOf` minus the metadata key;
  Top-K: minus the nested sketch's too, `NewTopKRedisFromKey` reads both), so a history is a list
  of store transformers that keep that key (`KeepsKey`), and attach reads nothing else.  The
  list of steps is arbitrary, which covers adaptive clients and every intermediate point.
  Hypothesis of every frame: no data key is SPELLED like the metadata key (`RowsAvoid`,
  `key ≠ metadataKey`, `MetaSep`, `BucketsAvoid`); it follows from the C19 hypotheses and it is
  needed (`C09_frame_*_needs_sep`).  The cuckoo filter's `length` accessors write the metadata
  hash; attach does not read that field (`C09_attach_stable_cuckoo_length`).

  NOT proved / left out:
    * the cuckoo filter's `Insert`/`Remove`/`Lookup` as single store-level operations (they are
      not modelled as such: Model/RedisCuckoo.lean has the bucket operations and the `length`
      accessors they are composed of; every composition of those is a list of steps here);
    * `Export`/`Import` (Import does not rewrite the metadata hash: finding D25) and the
      metadata-writing constructors as steps — `cuckooSetMetadata` with any `length` is covered as
      the CREATING step only;
    * necessity, at the level of ATTACH, of the hypotheses on the OTHER handle `g` of a merge/equals
      step and of the separation hypotheses of HyperLogLog and Cuckoo: the FRAMES are false
      without them (`C09_frame_hll_needs_sep`, `C09_frame_bucket_needs_sep`), but a script that
      meets the metadata hash where it expects a list or a string aborts with WRONGTYPE before it
      writes, so attach may well survive; neither that nor the contrary is proved.  For Count-Min,
      Bloom and Top-K the hypothesis IS needed at the attach level
      (`C09_attach_any_time_{cms,bloom,topk}_needs_sep`: `DEL`/`SET` do not check types).
-/
import Gostatix.Proofs.C09Stable
import Gostatix.Props.C09
import Gostatix.Props.C19
namespace Gostatix.Redis

theorem C09_dataKeys_def (c : CMSHandle) (y : HLLHandle) (b : BloomHandle) (f : CuckooHandle)
    (t : TopKHandle) :
    c.dataKeys = keysMinus c.keysOf c.metadataKey ∧ y.dataKeys = keysMinus y.keysOf y.metadataKey ∧
    b.dataKeys = keysMinus b.keysOf b.metadataKey ∧ f.dataKeys = keysMinus f.keysOf f.metadataKey ∧
    t.dataKeys = keysMinus (keysMinus t.keysOf t.metadataKey) t.sketch.metadataKey :=
  ⟨rfl, rfl, rfl, rfl, rfl⟩

theorem C09_mem_keysMinus {K : List String} {mk k : String} :
    k ∈ keysMinus K mk ↔ k ∈ K ∧ k ≠ mk := mem_keysMinus

theorem C09_metadataKey_not_data (c : CMSHandle) (y : HLLHandle) (b : BloomHandle) (f : CuckooHandle)
    (t : TopKHandle) :
    c.metadataKey ∉ c.dataKeys ∧ y.metadataKey ∉ y.dataKeys ∧ b.metadataKey ∉ b.dataKeys ∧
    f.metadataKey ∉ f.dataKeys ∧ t.metadataKey ∉ t.dataKeys ∧ t.sketch.metadataKey ∉ t.dataKeys :=
  ⟨c.metadataKey_not_mem_dataKeys, y.metadataKey_not_mem_dataKeys, b.metadataKey_not_mem_dataKeys,
    f.metadataKey_not_mem_dataKeys, t.metadataKey_not_mem_dataKeys,
    t.sketchMetadataKey_not_mem_dataKeys⟩

theorem C09_dataKeys_cms (h : CMSHandle) (hsep : h.RowsAvoid h.metadataKey) :
    h.dataKeys = (List.range h.rows).map (cmsRowKey h.key) := by
  unfold CMSHandle.dataKeys keysMinus
  rw [h.keysOf_eq, List.filter_cons_of_neg (by simp)]
  apply List.filter_eq_self.mpr
  intro k hk
  obtain ⟨r, hr, rfl⟩ := CMSHandle.mem_rowKeys.mp hk
  simpa using hsep r hr

theorem C09_dataKeys_hll (h : HLLHandle) (hne : h.key ≠ h.metadataKey) : h.dataKeys = [h.key] :=
  keysMinus_pair hne

theorem C09_dataKeys_bloom (h : BloomHandle) (hne : h.bitsetKey ≠ h.metadataKey) :
    h.dataKeys = [h.bitsetKey] := keysMinus_pair hne

/-- the separation hypotheses follow from the C19 hypotheses (16-letter base keys, pairwise
    different within the handle). -/
theorem C09_sep_cms_of_isBase (h : CMSHandle) (hb : ∀ b ∈ h.bases, IsBase b) :
    h.RowsAvoid h.metadataKey :=
  h.rowsAvoid_of_isBase (hb _ (by simp [CMSHandle.bases])) (hb _ (by simp [CMSHandle.bases]))

theorem C09_sep_cms_of_isBase_foreign (g : CMSHandle) (mk : String) (hg : IsBase g.key)
    (hmk : IsBase mk) : g.RowsAvoid mk := g.rowsAvoid_of_isBase hg hmk

theorem C09_sep_hll_of_nodup (h : HLLHandle) (hn : h.bases.Nodup) : h.key ≠ h.metadataKey := by
  simp only [HLLHandle.bases, List.nodup_cons, List.mem_cons, List.not_mem_nil, or_false] at hn
  exact hn.1

theorem C09_sep_bloom_of_nodup (h : BloomHandle) (hn : h.bases.Nodup) :
    h.bitsetKey ≠ h.metadataKey := by
  simp only [BloomHandle.bases, List.nodup_cons, List.mem_cons, List.not_mem_nil, or_false] at hn
  exact hn.1

theorem C09_sep_cuckoo_of_isBase (h : CuckooHandle) (hb : ∀ b ∈ h.bases, IsBase b) :
    h.BucketsAvoid h.metadataKey :=
  have hk : IsBase h.key := hb _ List.mem_cons_self
  have hmk : IsBase h.metadataKey := hb _ (List.mem_cons_of_mem _ List.mem_cons_self)
  fun i _ => ⟨KeyD.render_ne_base (d := .bucket h.key i) hk hmk nofun,
    KeyD.render_ne_base (d := .blen h.key i) hk hmk nofun⟩

theorem C09_sep_topk_of_isBase (h : TopKHandle) (hb : ∀ b ∈ h.bases, IsBase b) (hn : h.bases.Nodup) :
    h.MetaSep := by
  have hb' : IsBase h.heapKey ∧ IsBase h.metadataKey ∧ IsBase h.sketch.key ∧
      IsBase h.sketch.metadataKey := by
    refine ⟨hb _ ?_, hb _ ?_, hb _ ?_, hb _ ?_⟩ <;> simp [TopKHandle.bases, CMSHandle.bases]
  simp only [TopKHandle.bases, CMSHandle.bases, List.cons_append, List.nil_append, List.nodup_cons,
    List.mem_cons, List.not_mem_nil, or_false, not_or] at hn
  exact ⟨hn.1.1, hn.1.2.2, h.sketch.rowsAvoid_of_isBase hb'.2.2.1 hb'.2.1,
    h.sketch.rowsAvoid_of_isBase hb'.2.2.1 hb'.2.2.2⟩

theorem C09_frame_cms_init_data (h : CMSHandle) (hsep : h.RowsAvoid h.metadataKey) :
    SupportedOn h.dataKeys (cmsInit h) :=
  supported_cmsInit_on _ h (fun _ hr => h.rowKey_mem_data hsep hr)

theorem C09_frame_cms_update_data (h : CMSHandle) (pos : List Nat) (count : Nat)
    (hlen : pos.length ≤ h.rows) (hsep : h.RowsAvoid h.metadataKey) :
    SupportedOn h.dataKeys (cmsUpdate h pos count) :=
  supported_cmsUpdate_on _ h pos count hlen (fun _ hr => h.rowKey_mem_data hsep hr)

theorem C09_frame_cms_count_data (h : CMSHandle) (pos : List Nat) (hlen : pos.length ≤ h.rows)
    (hsep : h.RowsAvoid h.metadataKey) : SupportedOn h.dataKeys (cmsCount h pos) :=
  supported_cmsCount_on _ h pos hlen (fun _ hr => h.rowKey_mem_data hsep hr)

theorem C09_frame_cms_merge_data (h₁ h₂ : CMSHandle) (hsep₁ : h₁.RowsAvoid h₁.metadataKey)
    (hsep₂ : h₂.RowsAvoid h₂.metadataKey) :
    SupportedOn (h₁.dataKeys ++ h₂.dataKeys) (cmsMerge h₁ h₂) :=
  supported_cmsMerge_on _ h₁ h₂
    (fun _ hr => List.mem_append_left _ (h₁.rowKey_mem_data hsep₁ hr))
    (fun _ hr => List.mem_append_right _ (h₂.rowKey_mem_data hsep₂ hr))

theorem C09_frame_hll_init_data (h : HLLHandle) (hne : h.key ≠ h.metadataKey) :
    SupportedOn h.dataKeys (hllInit h) := supported_hllInit_on _ h (h.key_mem_data hne)

theorem C09_frame_hll_update_data (h : HLLHandle) (idx val : Nat) (hne : h.key ≠ h.metadataKey) :
    SupportedOn h.dataKeys (hllUpdate h idx val) :=
  supported_hllUpdate_on _ h idx val (h.key_mem_data hne)

theorem C09_frame_hll_merge_data (h g : HLLHandle) (hne : h.key ≠ h.metadataKey)
    (gne : g.key ≠ g.metadataKey) : SupportedOn (h.dataKeys ++ g.dataKeys) (hllMerge h g) :=
  supported_hllMerge_on _ h g (List.mem_append_left _ (h.key_mem_data hne))
    (List.mem_append_right _ (g.key_mem_data gne))

theorem C09_frame_hll_equals_all (h g : HLLHandle) : SupportedOn (h.keysOf ++ g.keysOf) (hllEquals h g) :=
  supported_hllEquals_on _ h g (List.mem_append_left _ h.key_mem)
    (List.mem_append_right _ g.key_mem)

theorem C09_frame_hll_equals_data (h g : HLLHandle) (hne : h.key ≠ h.metadataKey)
    (gne : g.key ≠ g.metadataKey) : SupportedOn (h.dataKeys ++ g.dataKeys) (hllEquals h g) :=
  supported_hllEquals_on _ h g (List.mem_append_left _ (h.key_mem_data hne))
    (List.mem_append_right _ (g.key_mem_data gne))

/-- `newBitSetRedis`: `SET bitsetKey <zero bytes>`. -/
theorem C09_frame_bloom_init_data (h : BloomHandle) (hne : h.bitsetKey ≠ h.metadataKey) :
    SupportedOn h.dataKeys (bloomInit h) := supported_SET (h.bitsetKey_mem_data hne) _

theorem C09_frame_bloom_insert_data (h : BloomHandle) (ps : List Nat)
    (hne : h.bitsetKey ≠ h.metadataKey) : SupportedOn h.dataKeys (bloomInsert h ps) :=
  supported_bloomInsertLoop _ _ (h.bitsetKey_mem_data hne) ps

theorem C09_frame_bloom_lookup_data (h : BloomHandle) (ps : List Nat)
    (hne : h.bitsetKey ≠ h.metadataKey) : SupportedOn h.dataKeys (bloomLookup h ps) :=
  supported_bloomLookupLoop _ _ (h.bitsetKey_mem_data hne) ps

theorem C09_frame_topk_insert_cmds_data (h : TopKHandle) (hsep : h.MetaSep) (k : Nat) (x : String)
    (f : Nat) : SupportedOn h.dataKeys (topkInsertCmds h.heapKey k x f) :=
  (supported_topkInsertCmds h.heapKey k x f).of_single (h.heapKey_mem_data hsep)

theorem C09_frame_topk_values_data (h : TopKHandle) (hsep : h.MetaSep) :
    SupportedOn h.dataKeys (topkValues h.heapKey) :=
  (supported_topkValues h.heapKey).of_single (h.heapKey_mem_data hsep)

theorem C09_frame_topk_sketch_init_data (h : TopKHandle) (hsep : h.MetaSep) :
    SupportedOn h.dataKeys (cmsInit h.sketch) :=
  supported_cmsInit_on _ _ (fun _ hr => h.rowKey_mem_data hsep hr)

theorem C09_frame_topk_sketch_update_data (h : TopKHandle) (hsep : h.MetaSep) (pos : List Nat)
    (count : Nat) (hlen : pos.length ≤ h.sketch.rows) :
    SupportedOn h.dataKeys (cmsUpdate h.sketch pos count) :=
  supported_cmsUpdate_on _ _ pos count hlen (fun _ hr => h.rowKey_mem_data hsep hr)

theorem C09_frame_topk_sketch_count_data (h : TopKHandle) (hsep : h.MetaSep) (pos : List Nat)
    (hlen : pos.length ≤ h.sketch.rows) : SupportedOn h.dataKeys (cmsCount h.sketch pos) :=
  supported_cmsCount_on _ _ pos hlen (fun _ hr => h.rowKey_mem_data hsep hr)

theorem C09_frame_topk_insert_data (h : TopKHandle) (hsep : h.MetaSep) (x : String) (pos : List Nat)
    (count : Nat) (hlen : pos.length ≤ h.sketch.rows) :
    SupportedOn h.dataKeys (topkInsert h x pos count) := by
  unfold topkInsert
  refine supported_bind (supported_try (C09_frame_topk_sketch_update_data h hsep pos count hlen))
    fun _ => ?_
  refine supported_bind (C09_frame_topk_sketch_count_data h hsep pos hlen) fun f => ?_
  exact C09_frame_topk_insert_cmds_data h hsep _ x f

theorem C09_topkInsert_def (h : TopKHandle) (x : String) (pos : List Nat) (count : Nat) :
    topkInsert h x pos count =
      (Script.try_ (cmsUpdate h.sketch pos count) >>=ₛ fun _ =>
       cmsCount h.sketch pos >>=ₛ fun f => topkInsertCmds h.heapKey h.k x f) := rfl

theorem C09_frame_bucket_in_data {ρ : Type} (h : CuckooHandle) (hsep : h.BucketsAvoid h.metadataKey)
    (i : Nat) (hi : i < h.n) (op : Op ρ)
    (hop : SupportedOn [cuckooBucketKey h.key i, cuckooBucketKey h.key i ++ "_len"] op) :
    SupportedOn h.dataKeys op :=
  hop.of_pair (mem_keysMinus.mpr ⟨h.bucketKey_mem hi, (hsep i hi).1⟩)
    (mem_keysMinus.mpr ⟨h.lenKey_mem hi, (hsep i hi).2⟩)

section bucket
variable (h : CuckooHandle) (hsep : h.BucketsAvoid h.metadataKey) (i : Nat) (hi : i < h.n)
include hsep hi

theorem C09_frame_bucket_new_data : SupportedOn h.dataKeys (bucketNew (cuckooBucketKey h.key i)) :=
  C09_frame_bucket_in_data h hsep i hi _ (supported_bucketNew _)

theorem C09_frame_bucket_isFree_data (size : Nat) :
    SupportedOn h.dataKeys (bucketIsFree (cuckooBucketKey h.key i) size) :=
  C09_frame_bucket_in_data h hsep i hi _ (supported_bucketIsFree _ size)

theorem C09_frame_bucket_add_data (size : Nat) (e : String) :
    SupportedOn h.dataKeys (bucketAdd (cuckooBucketKey h.key i) size e) :=
  C09_frame_bucket_in_data h hsep i hi _ (supported_bucketAdd _ size e)

theorem C09_frame_bucket_remove_data (e : String) :
    SupportedOn h.dataKeys (bucketRemove (cuckooBucketKey h.key i) e) :=
  C09_frame_bucket_in_data h hsep i hi _ (supported_bucketRemove _ e)

theorem C09_frame_bucket_lookup_data (e : String) :
    SupportedOn h.dataKeys (bucketLookup (cuckooBucketKey h.key i) e) :=
  C09_frame_bucket_in_data h hsep i hi _ (supported_bucketLookup _ e)

theorem C09_frame_bucket_at_data (j : Nat) :
    SupportedOn h.dataKeys (bucketAt (cuckooBucketKey h.key i) j) :=
  C09_frame_bucket_in_data h hsep i hi _ (supported_bucketAt _ j)

theorem C09_frame_bucket_set_data (j : Nat) (e : String) :
    SupportedOn h.dataKeys (bucketSet (cuckooBucketKey h.key i) j e) :=
  C09_frame_bucket_in_data h hsep i hi _ (supported_bucketSet _ j e)

theorem C09_frame_bucket_getLength_data :
    SupportedOn h.dataKeys (bucketGetLength (cuckooBucketKey h.key i)) :=
  C09_frame_bucket_in_data h hsep i hi _ (supported_bucketGetLength _)

theorem C09_frame_bucket_elements_data :
    SupportedOn h.dataKeys (bucketElements (cuckooBucketKey h.key i)) :=
  C09_frame_bucket_in_data h hsep i hi _ (supported_bucketElements _)

end bucket

theorem C09_attach_stable {ρ : Type} (K : List String) (op : Op ρ) (hsup : SupportedOn K op)
    (mk : String) (hmk : mk ∉ K) (s : Store) :
    (op s).1 mk = s mk ∧
    cmsAttach (op s).1 mk = cmsAttach s mk ∧ hllAttach (op s).1 mk = hllAttach s mk ∧
    bloomAttach (op s).1 mk = bloomAttach s mk ∧ cuckooAttach (op s).1 mk = cuckooAttach s mk :=
  ⟨hsup.1 s mk hmk, C09_attach_after_foreign_op K op hsup mk hmk s⟩

theorem C09_attach_stable_cms {ρ : Type} (h : CMSHandle) (K : List String) (op : Op ρ)
    (hsup : SupportedOn K op) (hmk : h.metadataKey ∉ K) (s : Store) :
    cmsAttach (op s).1 h.metadataKey = cmsAttach s h.metadataKey :=
  (C09_attach_stable K op hsup _ hmk s).2.1

theorem C09_attach_stable_hll {ρ : Type} (h : HLLHandle) (K : List String) (op : Op ρ)
    (hsup : SupportedOn K op) (hmk : h.metadataKey ∉ K) (s : Store) :
    hllAttach (op s).1 h.metadataKey = hllAttach s h.metadataKey :=
  (C09_attach_stable K op hsup _ hmk s).2.2.1

theorem C09_attach_stable_bloom {ρ : Type} (h : BloomHandle) (K : List String) (op : Op ρ)
    (hsup : SupportedOn K op) (hmk : h.metadataKey ∉ K) (s : Store) :
    bloomAttach (op s).1 h.metadataKey = bloomAttach s h.metadataKey :=
  (C09_attach_stable K op hsup _ hmk s).2.2.2.1

theorem C09_attach_stable_cuckoo {ρ : Type} (h : CuckooHandle) (K : List String) (op : Op ρ)
    (hsup : SupportedOn K op) (hmk : h.metadataKey ∉ K) (s : Store) :
    cuckooAttach (op s).1 h.metadataKey = cuckooAttach s h.metadataKey :=
  (C09_attach_stable K op hsup _ hmk s).2.2.2.2

/-- Top-K reads a second hash, the one named by the `sketchKey` field of its own: that key must
    be outside `K` as well. -/
theorem C09_attach_stable_topk {ρ : Type} (h : TopKHandle) (K : List String) (op : Op ρ)
    (hsup : SupportedOn K op) (hmk : h.metadataKey ∉ K) (s : Store)
    (hsk : ∀ vals, (cmdHGETALL h.metadataKey s).2 = some vals → field vals "sketchKey" ∉ K) :
    topkAttach (op s).1 h.metadataKey = topkAttach s h.metadataKey :=
  (topkAttach_congr (hsup.1 s _ hmk).symm
    (fun vals hv => (hsup.1 s _ (hsk vals hv)).symm)).symm

theorem C09_attach_stable_topk_some {ρ : Type} (h : TopKHandle) (K : List String) (op : Op ρ)
    (hsup : SupportedOn K op) (hmk : h.metadataKey ∉ K) (hsk : h.sketch.metadataKey ∉ K) (s : Store)
    (hat : topkAttach s h.metadataKey = some h) : topkAttach (op s).1 h.metadataKey = some h :=
  topkAttach_stable_of_some hat (hsup.1 s _ hmk) (hsup.1 s _ hsk)

theorem C09_attach_stable_cuckoo_length (mk : String) (d : Int) (s : Store) :
    cuckooAttach (cmdHINCRBY mk "length" d s).1 mk = cuckooAttach s mk := by
  have habs : ∀ m, s mk = some (.hash m) → cuckooAttach s mk = some (cuckooOfVals m mk) := by
    intro m hm; rw [cuckooAttach_eq, cmdHGETALL_hash hm]; rfl
  unfold cmdHINCRBY
  cases hs : s mk with
  | none =>
    simp only
    have e : ([("length", renderInt d)] : List (String × String)) = hashSet [] "length" (renderInt d) := rfl
    rw [e, cuckooAttach_set_hash, cuckooOfVals_hashSet_length, cuckooAttach_eq]
    unfold cmdHGETALL; rw [hs]; rfl
  | some v =>
    cases v with
    | hash m =>
      simp only
      cases hg : hashGet m "length" with
      | none =>
        simp only
        rw [cuckooAttach_set_hash, cuckooOfVals_hashSet_length, habs m hs]
      | some v =>
        simp only
        cases parseIntStrict v with
        | none => rfl
        | some n =>
          simp only
          rw [cuckooAttach_set_hash, cuckooOfVals_hashSet_length, habs m hs]
    | str b => rfl
    | list l => rfl
    | zset z => rfl

/-- `incrLength` / `decrLength` / `Length` of cuckoo_filter_redis.go. -/
theorem C09_attach_stable_cuckoo_length_ops (h : CuckooHandle) (s : Store) :
    cuckooAttach (cuckooIncrLength h s).1 h.metadataKey = cuckooAttach s h.metadataKey ∧
    cuckooAttach (cuckooDecrLength h s).1 h.metadataKey = cuckooAttach s h.metadataKey ∧
    cuckooAttach (cuckooLength h s).1 h.metadataKey = cuckooAttach s h.metadataKey :=
  ⟨C09_attach_stable_cuckoo_length _ _ s, C09_attach_stable_cuckoo_length _ _ s,
    by rw [cuckooLength_store]⟩

theorem C09_attach_cuckoo_ignores_length (s : Store) (mk : String) (m : List (String × String))
    (v : String) :
    cuckooAttach (s.set mk (.hash (hashSet m "length" v))) mk = cuckooAttach (s.set mk (.hash m)) mk :=
  cuckooAttach_set_length s mk m v

theorem C09_attach_cuckoo_any_length (h : CuckooHandle) (l₁ l₂ : Nat) (s : Store)
    (hs : HashOrAbsent s h.metadataKey) :
    cuckooAttach (cuckooSetMetadata h l₁ s).1 h.metadataKey =
      cuckooAttach (cuckooSetMetadata h l₂ s).1 h.metadataKey := by
  unfold cuckooSetMetadata
  rw [cmdHSET_ok hs, cmdHSET_ok hs]
  simp only [hashSetAll, List.foldl_cons, List.foldl_nil]
  rw [cuckooAttach_set_length, cuckooAttach_set_length]

theorem C09_keepsKey_of_supported {ρ : Type} (K : List String) (op : Op ρ) (hsup : SupportedOn K op)
    (mk : String) (hmk : mk ∉ K) : KeepsKey mk (fun s => (op s).1) := hsup.keepsKey hmk

theorem C09_own_step_keeps_cms (h : CMSHandle) (hsep : h.RowsAvoid h.metadataKey)
    (t : Store → Store) (ht : h.Step t) : KeepsKey h.metadataKey t := by
  have hmk := h.metadataKey_not_mem_dataKeys
  cases ht with
  | init => exact (C09_frame_cms_init_data h hsep).keepsKey hmk
  | update pos count hlen => exact (C09_frame_cms_update_data h pos count hlen hsep).keepsKey hmk
  | count pos hlen => exact (C09_frame_cms_count_data h pos hlen hsep).keepsKey hmk
  | mergeFrom g hg => exact cmsMerge_keepsKey h g hsep hg
  | mergeInto g hg => exact cmsMerge_keepsKey g h hg hsep
  | other t ht => exact ht

theorem C09_own_step_keeps_hll (h : HLLHandle) (hne : h.key ≠ h.metadataKey)
    (t : Store → Store) (ht : h.Step t) : KeepsKey h.metadataKey t := by
  -- the `C09_frame_hll_*_data` frames would ask for the OTHER handle's own separation, which a
  -- step does not give; the two data keys themselves are enough
  have two : ∀ {a b : String}, a ≠ h.metadataKey → b ≠ h.metadataKey → h.metadataKey ∉ [a, b] :=
    fun ha hb hm => (List.mem_cons.mp hm).elim (fun e => ha e.symm)
      fun hm => hb (List.mem_singleton.mp hm).symm
  have fst : ∀ {a b : String}, a ∈ [a, b] := List.mem_cons_self
  have snd : ∀ {a b : String}, b ∈ [a, b] := List.mem_cons_of_mem _ List.mem_cons_self
  cases ht with
  | init => exact (supported_hllInit_on _ h fst).keepsKey (two hne hne)
  | update idx val => exact (supported_hllUpdate_on _ h idx val fst).keepsKey (two hne hne)
  | mergeFrom g hg => exact (supported_hllMerge_on _ h g fst snd).keepsKey (two hne hg)
  | mergeInto g hg => exact (supported_hllMerge_on _ g h fst snd).keepsKey (two hg hne)
  | equals g hg => exact (supported_hllEquals_on _ h g fst snd).keepsKey (two hne hg)
  | equalsRev g hg => exact (supported_hllEquals_on _ g h fst snd).keepsKey (two hg hne)
  | other t ht => exact ht

theorem C09_own_step_keeps_bloom (h : BloomHandle) (hne : h.bitsetKey ≠ h.metadataKey)
    (t : Store → Store) (ht : h.Step t) : KeepsKey h.metadataKey t := by
  have hmk := h.metadataKey_not_mem_dataKeys
  have hk := h.bitsetKey_mem_data hne
  cases ht with
  | init => exact (supported_SET hk _).keepsKey hmk
  | insert ps => exact (supported_bloomInsertLoop _ _ hk ps).keepsKey hmk
  | lookup ps => exact (supported_bloomLookupLoop _ _ hk ps).keepsKey hmk
  | other t ht => exact ht

theorem C09_own_step_keeps_topk (h : TopKHandle) (hsep : h.MetaSep)
    (t : Store → Store) (ht : h.Step t) :
    KeepsKey h.metadataKey t ∧ KeepsKey h.sketch.metadataKey t := by
  have both : ∀ {ρ : Type} {op : Op ρ}, SupportedOn h.dataKeys op →
      KeepsKey h.metadataKey (fun s => (op s).1) ∧ KeepsKey h.sketch.metadataKey (fun s => (op s).1) :=
    fun hop => ⟨hop.keepsKey h.metadataKey_not_mem_dataKeys,
      hop.keepsKey h.sketchMetadataKey_not_mem_dataKeys⟩
  cases ht with
  | insertCmds x f => exact both (C09_frame_topk_insert_cmds_data h hsep _ x f)
  | values => exact both (C09_frame_topk_values_data h hsep)
  | sketchInit => exact both (C09_frame_topk_sketch_init_data h hsep)
  | sketchUpdate pos count hlen => exact both (C09_frame_topk_sketch_update_data h hsep pos count hlen)
  | sketchCount pos hlen => exact both (C09_frame_topk_sketch_count_data h hsep pos hlen)
  | insert x pos count hlen => exact both (C09_frame_topk_insert_data h hsep x pos count hlen)
  | other t ht ht' => exact ⟨ht, ht'⟩

/-- a cuckoo step may rewrite the metadata hash (`length`), but not what attach reads. -/
theorem C09_own_step_stable_cuckoo (h : CuckooHandle) (hsep : h.BucketsAvoid h.metadataKey)
    (t : Store → Store) (ht : h.Step t) (s : Store) :
    cuckooAttach (t s) h.metadataKey = cuckooAttach s h.metadataKey := by
  have hmk := h.metadataKey_not_mem_dataKeys
  have key : ∀ {ρ : Type} (i : Nat), i < h.n → ∀ (op : Op ρ),
      SupportedOn (bucketKeys (cuckooBucketKey h.key i)) op →
      cuckooAttach (op s).1 h.metadataKey = cuckooAttach s h.metadataKey := by
    intro ρ i hi op hop
    exact cuckooAttach_congr ((C09_frame_bucket_in_data h hsep i hi op hop).1 s _ hmk)
  cases ht with
  | bucketNew i hi => exact key i hi _ (supported_bucketNew _)
  | isFree i hi size => exact key i hi _ (supported_bucketIsFree _ size)
  | add i hi size e => exact key i hi _ (supported_bucketAdd _ size e)
  | remove i hi e => exact key i hi _ (supported_bucketRemove _ e)
  | lookup i hi e => exact key i hi _ (supported_bucketLookup _ e)
  | slotAt i hi j => exact key i hi _ (supported_bucketAt _ j)
  | slotSet i hi j e => exact key i hi _ (supported_bucketSet _ j e)
  | getLength i hi => exact key i hi _ (supported_bucketGetLength _)
  | elements i hi => exact key i hi _ (supported_bucketElements _)
  | incrLength => exact C09_attach_stable_cuckoo_length _ _ s
  | decrLength => exact C09_attach_stable_cuckoo_length _ _ s
  | length => show cuckooAttach (cuckooLength h s).1 _ = _; rw [cuckooLength_store]
  | other t ht => exact cuckooAttach_congr (ht s)

theorem C09_attach_history (mk : String) (ts : List (Store → Store))
    (hts : ∀ t ∈ ts, KeepsKey mk t) (s : Store) :
    runSteps ts s mk = s mk ∧
    cmsAttach (runSteps ts s) mk = cmsAttach s mk ∧ hllAttach (runSteps ts s) mk = hllAttach s mk ∧
    bloomAttach (runSteps ts s) mk = bloomAttach s mk ∧
    cuckooAttach (runSteps ts s) mk = cuckooAttach s mk :=
  have e := runSteps_keeps mk ts hts s
  ⟨e, cmsAttach_congr e, hllAttach_congr e, bloomAttach_congr e, cuckooAttach_congr e⟩

theorem C09_attach_history_cms (h : CMSHandle) (hsep : h.RowsAvoid h.metadataKey)
    (ts : List (Store → Store)) (hts : ∀ t ∈ ts, h.Step t) (s : Store) :
    runSteps ts s h.metadataKey = s h.metadataKey ∧
    cmsAttach (runSteps ts s) h.metadataKey = cmsAttach s h.metadataKey :=
  have e := runSteps_keeps _ ts (fun t ht => C09_own_step_keeps_cms h hsep t (hts t ht)) s
  ⟨e, cmsAttach_congr e⟩

theorem C09_attach_any_time_cms (h : CMSHandle) (s : Store) (ts : List (Store → Store))
    (hs : HashOrAbsent s h.metadataKey)
    (h1 : 0 < h.rows) (h2 : 0 < h.cols) (h3 : h.rows < 2 ^ 63) (h4 : h.cols < 2 ^ 63)
    (hsep : h.RowsAvoid h.metadataKey) (hts : ∀ t ∈ ts, h.Step t) :
    cmsAttach (runSteps ts (cmsCreate h s).1) h.metadataKey = some h := by
  rw [(C09_attach_history_cms h hsep ts hts _).2]
  exact C09_attach_roundtrip_cms h s hs h1 h2 h3 h4

theorem C09_attach_any_time_cms_base (h : CMSHandle) (s : Store) (ts : List (Store → Store))
    (hs : HashOrAbsent s h.metadataKey)
    (h1 : 0 < h.rows) (h2 : 0 < h.cols) (h3 : h.rows < 2 ^ 63) (h4 : h.cols < 2 ^ 63)
    (hb : ∀ b ∈ h.bases, IsBase b) (hts : ∀ t ∈ ts, h.Step t) :
    cmsAttach (runSteps ts (cmsCreate h s).1) h.metadataKey = some h :=
  C09_attach_any_time_cms h s ts hs h1 h2 h3 h4 (C09_sep_cms_of_isBase h hb) hts

theorem C09_attach_history_hll (h : HLLHandle) (hne : h.key ≠ h.metadataKey)
    (ts : List (Store → Store)) (hts : ∀ t ∈ ts, h.Step t) (s : Store) :
    runSteps ts s h.metadataKey = s h.metadataKey ∧
    hllAttach (runSteps ts s) h.metadataKey = hllAttach s h.metadataKey :=
  have e := runSteps_keeps _ ts (fun t ht => C09_own_step_keeps_hll h hne t (hts t ht)) s
  ⟨e, hllAttach_congr e⟩

theorem C09_attach_any_time_hll (h : HLLHandle) (s : Store) (ts : List (Store → Store))
    (hs : HashOrAbsent s h.metadataKey)
    (h1 : 0 < h.m) (h2 : h.m &&& (h.m - 1) = 0) (h3 : h.m < 2 ^ 63)
    (hne : h.key ≠ h.metadataKey) (hts : ∀ t ∈ ts, h.Step t) :
    hllAttach (runSteps ts (hllCreate h s).1) h.metadataKey = some h := by
  rw [(C09_attach_history_hll h hne ts hts _).2]
  exact C09_attach_roundtrip_hll h s hs h1 h2 h3

theorem C09_attach_any_time_hll_base (h : HLLHandle) (s : Store) (ts : List (Store → Store))
    (hs : HashOrAbsent s h.metadataKey)
    (h1 : 0 < h.m) (h2 : h.m &&& (h.m - 1) = 0) (h3 : h.m < 2 ^ 63)
    (hn : h.bases.Nodup) (hts : ∀ t ∈ ts, h.Step t) :
    hllAttach (runSteps ts (hllCreate h s).1) h.metadataKey = some h :=
  C09_attach_any_time_hll h s ts hs h1 h2 h3 (C09_sep_hll_of_nodup h hn) hts

theorem C09_attach_history_bloom (h : BloomHandle) (hne : h.bitsetKey ≠ h.metadataKey)
    (ts : List (Store → Store)) (hts : ∀ t ∈ ts, h.Step t) (s : Store) :
    runSteps ts s h.metadataKey = s h.metadataKey ∧
    bloomAttach (runSteps ts s) h.metadataKey = bloomAttach s h.metadataKey :=
  have e := runSteps_keeps _ ts (fun t ht => C09_own_step_keeps_bloom h hne t (hts t ht)) s
  ⟨e, bloomAttach_congr e⟩

theorem C09_attach_any_time_bloom (h : BloomHandle) (s : Store) (ts : List (Store → Store))
    (hs : HashOrAbsent s h.metadataKey) (h1 : h.size < 2 ^ 63) (h2 : h.k < 2 ^ 63)
    (hne : h.bitsetKey ≠ h.metadataKey) (hts : ∀ t ∈ ts, h.Step t) :
    bloomAttach (runSteps ts (bloomCreate h s).1) h.metadataKey = some h := by
  rw [(C09_attach_history_bloom h hne ts hts _).2]
  exact C09_attach_roundtrip_bloom h s hs h1 h2

/-- the constructor `NewRedisBloomFilterWithParameters` (clamped parameters, fix fa61ac6): at any
    later point attach returns the handle the constructor returned. -/
theorem C09_attach_any_time_bloom_params (size numHashes : Nat) (bk mk : String) (s : Store)
    (ts : List (Store → Store)) (hs : HashOrAbsent s mk) (h1 : size < 2 ^ 63)
    (h2 : numHashes < 2 ^ 63) (hne : bk ≠ mk)
    (hts : ∀ t ∈ ts, BloomHandle.Step
      { size := max size 1, k := max numHashes 1, bitsetKey := bk, metadataKey := mk } t) :
    bloomAttach (runSteps ts (bloomCreateRaw size numHashes bk mk s).1) mk =
      (bloomCreateRaw size numHashes bk mk s).2 := by
  have e := (C09_attach_history_bloom
    { size := max size 1, k := max numHashes 1, bitsetKey := bk, metadataKey := mk } hne ts hts
    (bloomCreateRaw size numHashes bk mk s).1).2
  simp only at e
  rw [e]
  exact (C09_attach_roundtrip_bloom_params size numHashes bk mk s hs h1 h2).1

theorem C09_attach_any_time_bloom_base (h : BloomHandle) (s : Store) (ts : List (Store → Store))
    (hs : HashOrAbsent s h.metadataKey) (h1 : h.size < 2 ^ 63) (h2 : h.k < 2 ^ 63)
    (hn : h.bases.Nodup) (hts : ∀ t ∈ ts, h.Step t) :
    bloomAttach (runSteps ts (bloomCreate h s).1) h.metadataKey = some h :=
  C09_attach_any_time_bloom h s ts hs h1 h2 (C09_sep_bloom_of_nodup h hn) hts

theorem C09_attach_history_cuckoo (h : CuckooHandle) (hsep : h.BucketsAvoid h.metadataKey)
    (ts : List (Store → Store)) (hts : ∀ t ∈ ts, h.Step t) (s : Store) :
    cuckooAttach (runSteps ts s) h.metadataKey = cuckooAttach s h.metadataKey :=
  runSteps_invariant (fun s => cuckooAttach s h.metadataKey) ts
    (fun t ht s => C09_own_step_stable_cuckoo h hsep t (hts t ht) s) s

/-- `setMetadata(length)` (constructor: 0; `Import`: the exported length), then any history:
    the same parameters and base key. -/
theorem C09_attach_any_time_cuckoo (h : CuckooHandle) (length : Nat) (s : Store)
    (ts : List (Store → Store)) (hs : HashOrAbsent s h.metadataKey)
    (h1 : h.n < 2 ^ 63) (h2 : h.bsize < 2 ^ 63) (h3 : h.fpl < 2 ^ 63) (h4 : h.retries < 2 ^ 63)
    (hsep : h.BucketsAvoid h.metadataKey) (hts : ∀ t ∈ ts, h.Step t) :
    cuckooAttach (runSteps ts (cuckooSetMetadata h length s).1) h.metadataKey = some h := by
  rw [C09_attach_history_cuckoo h hsep ts hts]
  exact C09_attach_roundtrip_cuckoo h length s hs h1 h2 h3 h4

/-- hence the bucket handles re-created by `localInitBuckets` name the same Redis keys. -/
theorem C09_attach_any_time_cuckoo_same_keys (h : CuckooHandle) (length : Nat) (s : Store)
    (ts : List (Store → Store)) (hs : HashOrAbsent s h.metadataKey)
    (h1 : h.n < 2 ^ 63) (h2 : h.bsize < 2 ^ 63) (h3 : h.fpl < 2 ^ 63) (h4 : h.retries < 2 ^ 63)
    (hsep : h.BucketsAvoid h.metadataKey) (hts : ∀ t ∈ ts, h.Step t) :
    (cuckooAttach (runSteps ts (cuckooSetMetadata h length s).1) h.metadataKey).map
      CuckooHandle.keysOf = some h.keysOf := by
  rw [C09_attach_any_time_cuckoo h length s ts hs h1 h2 h3 h4 hsep hts]; rfl

theorem C09_attach_any_time_cuckoo_base (h : CuckooHandle) (length : Nat) (s : Store)
    (ts : List (Store → Store)) (hs : HashOrAbsent s h.metadataKey)
    (h1 : h.n < 2 ^ 63) (h2 : h.bsize < 2 ^ 63) (h3 : h.fpl < 2 ^ 63) (h4 : h.retries < 2 ^ 63)
    (hb : ∀ b ∈ h.bases, IsBase b) (hts : ∀ t ∈ ts, h.Step t) :
    cuckooAttach (runSteps ts (cuckooSetMetadata h length s).1) h.metadataKey = some h :=
  C09_attach_any_time_cuckoo h length s ts hs h1 h2 h3 h4 (C09_sep_cuckoo_of_isBase h hb) hts

theorem C09_attach_history_topk (h : TopKHandle) (hsep : h.MetaSep)
    (ts : List (Store → Store)) (hts : ∀ t ∈ ts, h.Step t) (s : Store)
    (hat : topkAttach s h.metadataKey = some h) :
    topkAttach (runSteps ts s) h.metadataKey = some h :=
  topkAttach_stable_of_some hat
    (runSteps_keeps _ ts (fun t ht => (C09_own_step_keeps_topk h hsep t (hts t ht)).1) s)
    (runSteps_keeps _ ts (fun t ht => (C09_own_step_keeps_topk h hsep t (hts t ht)).2) s)

theorem C09_attach_any_time_topk (h : TopKHandle) (s : Store) (ts : List (Store → Store))
    (hs : HashOrAbsent s h.metadataKey) (hs' : HashOrAbsent s h.sketch.metadataKey)
    (hne : h.metadataKey ≠ h.sketch.metadataKey) (hk : h.k < 2 ^ 32)
    (h1 : 0 < h.sketch.rows) (h2 : 0 < h.sketch.cols)
    (h3 : h.sketch.rows < 2 ^ 63) (h4 : h.sketch.cols < 2 ^ 63)
    (hsep : h.MetaSep) (hts : ∀ t ∈ ts, h.Step t) :
    topkAttach (runSteps ts (topkCreate h s).1) h.metadataKey = some h :=
  C09_attach_history_topk h hsep ts hts _
    (C09_attach_roundtrip_topk h s hs hs' hne hk h1 h2 h3 h4)

theorem C09_attach_any_time_topk_base (h : TopKHandle) (s : Store) (ts : List (Store → Store))
    (hs : HashOrAbsent s h.metadataKey) (hs' : HashOrAbsent s h.sketch.metadataKey)
    (hk : h.k < 2 ^ 32) (h1 : 0 < h.sketch.rows) (h2 : 0 < h.sketch.cols)
    (h3 : h.sketch.rows < 2 ^ 63) (h4 : h.sketch.cols < 2 ^ 63)
    (hb : ∀ b ∈ h.bases, IsBase b) (hn : h.bases.Nodup) (hts : ∀ t ∈ ts, h.Step t) :
    topkAttach (runSteps ts (topkCreate h s).1) h.metadataKey = some h := by
  have hne : h.metadataKey ≠ h.sketch.metadataKey := by
    simp only [TopKHandle.bases, CMSHandle.bases, List.cons_append, List.nil_append,
      List.nodup_cons, List.mem_cons, List.not_mem_nil, or_false, not_or] at hn
    exact hn.2.1.2
  exact C09_attach_any_time_topk h s ts hs hs' hne hk h1 h2 h3 h4
    (C09_sep_topk_of_isBase h hb hn) hts

section counterexamples

/-- a sketch whose row key `"x" ++ "0"` is spelled like its metadata key. -/
def badSk : CMSHandle := { rows := 1, cols := 2, key := "x", metadataKey := "x0" }
def badBloom : BloomHandle := { size := 8, k := 1, bitsetKey := "b", metadataKey := "b" }
def badHy : HLLHandle := { m := 2, key := "y", metadataKey := "y" }
def badCk : CuckooHandle :=
  { n := 1, bsize := 2, fpl := 2, retries := 1, key := "k", metadataKey := "cuckoo_k_bucket_0" }
def badTk : TopKHandle :=
  { k := 2, errorRate := "0.01", accuracy := "0.01", heapKey := "hp", metadataKey := "x0",
    sketch := { rows := 1, cols := 2, key := "x", metadataKey := "sm" } }

example : ¬ badSk.RowsAvoid badSk.metadataKey := by decide +kernel
example : ¬ badCk.BucketsAvoid badCk.metadataKey := by decide +kernel
example : ¬ badTk.MetaSep := by decide +kernel

/-- **Count-Min**: without `RowsAvoid` the frame on the data keys is false: `initMatrix` deletes
    the metadata hash (`DEL` does not look at the type) … -/
theorem C09_frame_cms_needs_sep : ¬ SupportedOn badSk.dataKeys (cmsInit badSk) := by
  intro h
  have := h.1 (cmsCreate badSk Store.empty).1 badSk.metadataKey badSk.metadataKey_not_mem_dataKeys
  revert this; decide +kernel

theorem C09_attach_any_time_cms_needs_sep :
    cmsAttach (cmsCreate badSk Store.empty).1 badSk.metadataKey = some badSk ∧
    cmsAttach (runSteps [fun s => (cmsInit badSk s).1] (cmsCreate badSk Store.empty).1)
      badSk.metadataKey = none := by decide +kernel

/-- **Bloom**: `bitsetKey = metadataKey`: `newBitSetRedis`'s `SET` overwrites the hash. -/
theorem C09_frame_bloom_needs_sep : ¬ SupportedOn badBloom.dataKeys (bloomInit badBloom) := by
  intro h
  have := h.1 (bloomCreate badBloom Store.empty).1 badBloom.metadataKey
    badBloom.metadataKey_not_mem_dataKeys
  revert this; decide +kernel

theorem C09_attach_any_time_bloom_needs_sep :
    bloomAttach (bloomCreate badBloom Store.empty).1 badBloom.metadataKey = some badBloom ∧
    bloomAttach (runSteps [fun s => (bloomInit badBloom s).1] (bloomCreate badBloom Store.empty).1)
      badBloom.metadataKey = none := by decide +kernel

/-- **HyperLogLog**: `key = metadataKey`: on a fresh store `initRegisters` writes that key. -/
theorem C09_frame_hll_needs_sep : ¬ SupportedOn badHy.dataKeys (hllInit badHy) := by
  intro h
  have := h.1 Store.empty badHy.metadataKey badHy.metadataKey_not_mem_dataKeys
  revert this; decide +kernel

/-- **Cuckoo**: a bucket key spelled like the metadata key: `getElements` of that bucket reads
    the metadata hash (two stores that agree on every data key give different answers). -/
theorem C09_frame_bucket_needs_sep :
    ¬ SupportedOn badCk.dataKeys (bucketElements (cuckooBucketKey badCk.key 0)) := by
  intro h
  have := (h.2 (cuckooCreate badCk Store.empty).1 Store.empty (by decide +kernel)).1
  revert this; decide +kernel

/-- **Top-K**: a row key of the nested sketch spelled like the Top-K's metadata key. -/
theorem C09_frame_topk_needs_sep : ¬ SupportedOn badTk.dataKeys (cmsInit badTk.sketch) := by
  intro h
  have := h.1 (topkCreate badTk Store.empty).1 badTk.metadataKey badTk.metadataKey_not_mem_dataKeys
  revert this; decide +kernel

theorem C09_attach_any_time_topk_needs_sep :
    topkAttach (topkCreate badTk Store.empty).1 badTk.metadataKey = some badTk ∧
    topkAttach (runSteps [fun s => (cmsInit badTk.sketch s).1] (topkCreate badTk Store.empty).1)
      badTk.metadataKey = none := by decide +kernel

/-- the `length` accessors of the cuckoo filter are NOT framed by the data keys: `incrLength`
    writes the metadata hash.  (That is why item 3 is needed.) -/
theorem C09_cuckoo_incrLength_not_data :
    ¬ SupportedOn exCk.dataKeys (cuckooIncrLength exCk) := by
  intro h
  have := h.1 Store.empty exCk.metadataKey exCk.metadataKey_not_mem_dataKeys
  revert this; decide +kernel

/-- … and the insensitivity is special to `length`: the same `HINCRBY` on `size` changes the
    handle attach returns. -/
theorem C09_cuckoo_other_field_matters :
    cuckooAttach (cmdHINCRBY exCk.metadataKey "size" 1 (cuckooCreate exCk Store.empty).1).1
      exCk.metadataKey = some { exCk with n := 101 } := by decide +kernel

/-- Top-K: an operation that keeps the Top-K's own metadata key but not the sketch's (here: `DEL`
    of the sketch's hash, framed by `[sketch.metadataKey]`) does change attach. -/
theorem C09_attach_stable_topk_needs_sketch :
    SupportedOn [exTk.sketch.metadataKey] (cmdDEL exTk.sketch.metadataKey) ∧
    exTk.metadataKey ∉ [exTk.sketch.metadataKey] ∧
    topkAttach (topkCreate exTk Store.empty).1 exTk.metadataKey = some exTk ∧
    topkAttach (cmdDEL exTk.sketch.metadataKey (topkCreate exTk Store.empty).1).1 exTk.metadataKey
      = none :=
  ⟨supported_DEL List.mem_cons_self, by decide +kernel, by decide +kernel, by decide +kernel⟩

end counterexamples

section examples

def sSk : CMSHandle := { rows := 3, cols := 4, key := "aaaaaaaaaaaaaaaa", metadataKey := "aaaaaaaaaaaaaaab" }
def sSk₂ : CMSHandle := { rows := 3, cols := 4, key := "aaaaaaaaaaaaaaac", metadataKey := "aaaaaaaaaaaaaaad" }
def sHy : HLLHandle := { m := 4, key := "aaaaaaaaaaaaaaae", metadataKey := "aaaaaaaaaaaaaaaf" }
def sHy₂ : HLLHandle := { m := 4, key := "aaaaaaaaaaaaaaag", metadataKey := "aaaaaaaaaaaaaaah" }
def sBl : BloomHandle := { size := 16, k := 2, bitsetKey := "aaaaaaaaaaaaaaai", metadataKey := "aaaaaaaaaaaaaaaj" }
def sCk : CuckooHandle :=
  { n := 2, bsize := 2, fpl := 2, retries := 5, key := "aaaaaaaaaaaaaaak", metadataKey := "aaaaaaaaaaaaaaal" }
def sTk : TopKHandle :=
  { k := 2, errorRate := "0.01", accuracy := "0.01", heapKey := "aaaaaaaaaaaaaaam",
    metadataKey := "aaaaaaaaaaaaaaan", sketch := sSk₂ }

/-- the separation predicates and data keys of the example handles,
    decided together so that each key is spelled once. -/
theorem sHandles_keys :
    (sSk.RowsAvoid sSk.metadataKey) ∧
    (sCk.BucketsAvoid sCk.metadataKey) ∧
    (sTk.MetaSep) ∧
    (sSk.dataKeys = ["aaaaaaaaaaaaaaaa0", "aaaaaaaaaaaaaaaa1", "aaaaaaaaaaaaaaaa2"]) ∧
    (sHy.dataKeys = ["aaaaaaaaaaaaaaae"]) ∧
    (sCk.dataKeys = ["aaaaaaaaaaaaaaak", "cuckoo_aaaaaaaaaaaaaaak_bucket_0",
      "cuckoo_aaaaaaaaaaaaaaak_bucket_1", "cuckoo_aaaaaaaaaaaaaaak_bucket_0_len",
      "cuckoo_aaaaaaaaaaaaaaak_bucket_1_len"]) ∧
    (sTk.dataKeys = ["aaaaaaaaaaaaaaam", "aaaaaaaaaaaaaaac0", "aaaaaaaaaaaaaaac1",
      "aaaaaaaaaaaaaaac2"]) := by
  decide +kernel

example : sSk.RowsAvoid sSk.metadataKey := sHandles_keys.1
example : sSk.RowsAvoid sSk.metadataKey := C09_sep_cms_of_isBase sSk (by decide +kernel)
example : sCk.BucketsAvoid sCk.metadataKey := sHandles_keys.2.1
example : sCk.BucketsAvoid sCk.metadataKey := C09_sep_cuckoo_of_isBase sCk (by decide +kernel)
example : sTk.MetaSep := sHandles_keys.2.2.1
example : sTk.MetaSep := C09_sep_topk_of_isBase sTk (by decide +kernel) (by decide +kernel)

example : sSk.dataKeys = ["aaaaaaaaaaaaaaaa0", "aaaaaaaaaaaaaaaa1", "aaaaaaaaaaaaaaaa2"] := sHandles_keys.2.2.2.1
example : sHy.dataKeys = ["aaaaaaaaaaaaaaae"] := sHandles_keys.2.2.2.2.1
example : sCk.dataKeys = ["aaaaaaaaaaaaaaak", "cuckoo_aaaaaaaaaaaaaaak_bucket_0",
    "cuckoo_aaaaaaaaaaaaaaak_bucket_1", "cuckoo_aaaaaaaaaaaaaaak_bucket_0_len",
    "cuckoo_aaaaaaaaaaaaaaak_bucket_1_len"] := sHandles_keys.2.2.2.2.2.1
example : sTk.dataKeys = ["aaaaaaaaaaaaaaam", "aaaaaaaaaaaaaaac0", "aaaaaaaaaaaaaaac1",
    "aaaaaaaaaaaaaaac2"] := sHandles_keys.2.2.2.2.2.2

/-! Count-Min: create; init; a second sketch is created, initialised and updated in between (a
    foreign step); two updates; merge of the second sketch; count. -/

def cmsHist : List (Store → Store) :=
  [ fun s => (cmsInit sSk s).1,
    fun s => (cmsUpdate sSk₂ [0, 1, 2] 4 (cmsInit sSk₂ (cmsCreate sSk₂ s).1).1).1,
    fun s => (cmsUpdate sSk [1, 2, 3] 5 s).1,
    fun s => (cmsUpdate sSk [1, 0, 3] 2 s).1,
    fun s => (cmsMerge sSk sSk₂ s).1,
    fun s => (cmsCount sSk [1, 2, 3] s).1 ]

theorem cmsHist_steps : ∀ t ∈ cmsHist, sSk.Step t := by
  -- the second step is foreign: three operations of `sSk₂`, each framed by `sSk₂.keysOf`
  have hmk : sSk.metadataKey ∉ sSk₂.keysOf := by decide +kernel
  have foreign := ((C19_frame_cms_create sSk₂).keepsKey hmk).comp
    (((C19_frame_cms_init sSk₂).keepsKey hmk).comp
      ((C19_frame_cms_update sSk₂ [0, 1, 2] 4 (by decide)).keepsKey hmk))
  simp only [cmsHist, List.forall_mem_cons, List.not_mem_nil, false_imp_iff, implies_true, and_true]
  exact ⟨.init, .other _ foreign, .update _ _ (by decide), .update _ _ (by decide),
    .mergeFrom sSk₂ (by decide +kernel), .count _ (by decide)⟩

example : cmsAttach (runSteps cmsHist (cmsCreate sSk Store.empty).1) sSk.metadataKey = some sSk :=
  C09_attach_any_time_cms sSk Store.empty cmsHist (Or.inl rfl) (by decide) (by decide) (by decide)
    (by decide) (by decide +kernel) cmsHist_steps

/-- the facts about the store after `cmsHist`,
    decided together so that the store is evaluated once. -/
theorem cmsHist_runs :
    (cmsAttach (runSteps cmsHist (cmsCreate sSk Store.empty).1) sSk.metadataKey = some sSk) ∧
    ((cmsCount sSk [1, 2, 3] (runSteps cmsHist (cmsCreate sSk Store.empty).1)).2 = some 5) ∧
    (runSteps cmsHist (cmsCreate sSk Store.empty).1 "aaaaaaaaaaaaaaaa0" =
      some (.list ["4", "7", "0", "0"])) := by
  decide +kernel

/-- by running the model: the same answer as by the theorem, on a store whose data did change (the count of
    the element at `[1, 2, 3]` is 5, the merged row 0 holds 4 at column 0 and 7 at column 1). -/
example : cmsAttach (runSteps cmsHist (cmsCreate sSk Store.empty).1) sSk.metadataKey = some sSk := cmsHist_runs.1
example : (cmsCount sSk [1, 2, 3] (runSteps cmsHist (cmsCreate sSk Store.empty).1)).2 = some 5 := cmsHist_runs.2.1
example : runSteps cmsHist (cmsCreate sSk Store.empty).1 "aaaaaaaaaaaaaaaa0" =
    some (.list ["4", "7", "0", "0"]) := cmsHist_runs.2.2
example : ∀ n, n ≤ cmsHist.length →
    cmsAttach (runSteps (cmsHist.take n) (cmsCreate sSk Store.empty).1) sSk.metadataKey = some sSk :=
  fun n _ => C09_attach_any_time_cms sSk Store.empty _ (Or.inl rfl) (by decide) (by decide)
    (by decide) (by decide) (by decide +kernel) (fun t ht => cmsHist_steps t (List.mem_of_mem_take ht))

def hllPre : Store := (hllUpdate sHy₂ 1 6 (hllInit sHy₂ (hllCreate sHy₂ Store.empty).1).1).1

def hllHist : List (Store → Store) :=
  [ fun s => (hllInit sHy s).1, fun s => (hllUpdate sHy 2 3 s).1, fun s => (hllUpdate sHy 0 1 s).1,
    fun s => (hllEquals sHy sHy₂ s).1, fun s => (hllMerge sHy sHy₂ s).1,
    fun s => (hllMerge sHy₂ sHy s).1, fun s => (hllEquals sHy₂ sHy s).1 ]

theorem hllHist_steps : ∀ t ∈ hllHist, sHy.Step t := by
  simp only [hllHist, List.forall_mem_cons, List.not_mem_nil, false_imp_iff, implies_true, and_true]
  exact ⟨.init, .update _ _, .update _ _, .equals sHy₂ (by decide +kernel),
    .mergeFrom sHy₂ (by decide +kernel), .mergeInto sHy₂ (by decide +kernel),
    .equalsRev sHy₂ (by decide +kernel)⟩

example : hllAttach (runSteps hllHist (hllCreate sHy hllPre).1) sHy.metadataKey = some sHy :=
  C09_attach_any_time_hll sHy hllPre hllHist (Or.inl (by decide +kernel)) (by decide) (by decide)
    (by decide) (by decide +kernel) hllHist_steps

/-- the facts about the store after `hllHist`,
    decided together so that the store is evaluated once. -/
theorem hllHist_runs :
    (hllAttach (runSteps hllHist (hllCreate sHy hllPre).1) sHy.metadataKey = some sHy) ∧
    (runSteps hllHist (hllCreate sHy hllPre).1 sHy.key = some (.list ["1", "6", "3", "0"])) ∧
    (hllAttach (runSteps hllHist (hllCreate sHy hllPre).1) sHy₂.metadataKey = some sHy₂) := by
  decide +kernel

example : hllAttach (runSteps hllHist (hllCreate sHy hllPre).1) sHy.metadataKey = some sHy := hllHist_runs.1
example : runSteps hllHist (hllCreate sHy hllPre).1 sHy.key = some (.list ["1", "6", "3", "0"]) := hllHist_runs.2.1
/-- the other sketch, created before `sHy`, is still attachable too: every step of the history
    keeps its metadata key as well. -/
example : hllAttach (runSteps hllHist (hllCreate sHy hllPre).1) sHy₂.metadataKey = some sHy₂ := hllHist_runs.2.2

def bloomHist : List (Store → Store) :=
  [ fun s => (bloomInit sBl s).1, fun s => (bloomInsert sBl [3, 9] s).1,
    fun s => (bloomLookup sBl [3, 9] s).1, fun s => (bloomInsert sBl [9, 12] s).1 ]

theorem bloomHist_steps : ∀ t ∈ bloomHist, sBl.Step t := by
  simp only [bloomHist, List.forall_mem_cons, List.not_mem_nil, false_imp_iff, implies_true, and_true]
  exact ⟨.init, .insert _, .lookup _, .insert _⟩

example : bloomAttach (runSteps bloomHist (bloomCreate sBl Store.empty).1) sBl.metadataKey = some sBl :=
  C09_attach_any_time_bloom sBl Store.empty bloomHist (Or.inl rfl) (by decide) (by decide)
    (by decide +kernel) bloomHist_steps

/-- the facts about the store after `bloomHist`,
    decided together so that the store is evaluated once. -/
theorem bloomHist_runs :
    (bloomAttach (runSteps bloomHist (bloomCreate sBl Store.empty).1) sBl.metadataKey = some sBl) ∧
    ((bloomLookup sBl [3, 12] (runSteps bloomHist (bloomCreate sBl Store.empty).1)).2 = some true ∧
      (bloomLookup sBl [3, 4] (runSteps bloomHist (bloomCreate sBl Store.empty).1)).2 = some false) := by
  decide +kernel

example : bloomAttach (runSteps bloomHist (bloomCreate sBl Store.empty).1) sBl.metadataKey = some sBl := bloomHist_runs.1
example : (bloomLookup sBl [3, 12] (runSteps bloomHist (bloomCreate sBl Store.empty).1)).2 = some true ∧
    (bloomLookup sBl [3, 4] (runSteps bloomHist (bloomCreate sBl Store.empty).1)).2 = some false := bloomHist_runs.2

/-! Cuckoo: both buckets created; two fingerprints added (each followed by `incrLength`), one
    looked up and removed (`decrLength`), `Length` read: the metadata hash is rewritten three
    times, attach keeps returning the same handle. -/

def ckHist : List (Store → Store) :=
  [ fun s => (bucketNew (cuckooBucketKey sCk.key 0) s).1,
    fun s => (bucketNew (cuckooBucketKey sCk.key 1) s).1,
    fun s => (bucketIsFree (cuckooBucketKey sCk.key 1) sCk.bsize s).1,
    fun s => (bucketAdd (cuckooBucketKey sCk.key 1) sCk.bsize "41" s).1,
    fun s => (cuckooIncrLength sCk s).1,
    fun s => (bucketAdd (cuckooBucketKey sCk.key 0) sCk.bsize "77" s).1,
    fun s => (cuckooIncrLength sCk s).1,
    fun s => (cuckooIncrLength sCk s).1,
    fun s => (bucketLookup (cuckooBucketKey sCk.key 1) "41" s).1,
    fun s => (bucketRemove (cuckooBucketKey sCk.key 1) "41" s).1,
    fun s => (cuckooDecrLength sCk s).1,
    fun s => (cuckooLength sCk s).1 ]

theorem ckHist_steps : ∀ t ∈ ckHist, sCk.Step t := by
  simp only [ckHist, List.forall_mem_cons, List.not_mem_nil, false_imp_iff, implies_true, and_true]
  exact ⟨.bucketNew 0 (by decide), .bucketNew 1 (by decide), .isFree 1 (by decide) _,
    .add 1 (by decide) _ _, .incrLength, .add 0 (by decide) _ _, .incrLength, .incrLength,
    .lookup 1 (by decide) _, .remove 1 (by decide) _, .decrLength, .length⟩

example : cuckooAttach (runSteps ckHist (cuckooCreate sCk Store.empty).1) sCk.metadataKey = some sCk :=
  C09_attach_any_time_cuckoo sCk 0 Store.empty ckHist (Or.inl rfl) (by decide) (by decide)
    (by decide) (by decide) (by decide +kernel) ckHist_steps

/-- the facts about the store after `ckHist`, decided together so that it is evaluated once. -/
theorem ckHist_runs :
    cuckooAttach (runSteps ckHist (cuckooCreate sCk Store.empty).1) sCk.metadataKey = some sCk ∧
    runSteps ckHist (cuckooCreate sCk Store.empty).1 sCk.metadataKey =
      some (.hash [("size", "2"), ("bucketSize", "2"), ("fingerPrintLength", "2"), ("retries", "5"),
        ("key", "aaaaaaaaaaaaaaak"), ("length", "2")]) ∧
    runSteps ckHist (cuckooCreate sCk Store.empty).1 sCk.metadataKey ≠
      (cuckooCreate sCk Store.empty).1 sCk.metadataKey ∧
    (bucketElements (cuckooBucketKey sCk.key 0) (runSteps ckHist (cuckooCreate sCk Store.empty).1)).2
      = some ["77"] ∧
    (bucketElements (cuckooBucketKey sCk.key 1) (runSteps ckHist (cuckooCreate sCk Store.empty).1)).2
      = some [""] := by decide +kernel

example : cuckooAttach (runSteps ckHist (cuckooCreate sCk Store.empty).1) sCk.metadataKey = some sCk :=
  ckHist_runs.1
/-- the metadata hash is NOT what the constructor wrote (length "2" after +1 +1 +1 -1) … -/
example : runSteps ckHist (cuckooCreate sCk Store.empty).1 sCk.metadataKey =
    some (.hash [("size", "2"), ("bucketSize", "2"), ("fingerPrintLength", "2"), ("retries", "5"),
      ("key", "aaaaaaaaaaaaaaak"), ("length", "2")]) := ckHist_runs.2.1
example : runSteps ckHist (cuckooCreate sCk Store.empty).1 sCk.metadataKey ≠
    (cuckooCreate sCk Store.empty).1 sCk.metadataKey := ckHist_runs.2.2.1
example : (bucketElements (cuckooBucketKey sCk.key 0) (runSteps ckHist (cuckooCreate sCk Store.empty).1)).2
    = some ["77"] ∧
    (bucketElements (cuckooBucketKey sCk.key 1) (runSteps ckHist (cuckooCreate sCk Store.empty).1)).2
    = some [""] := ckHist_runs.2.2.2
/-- even a `length` the library cannot parse, or a negative one, is ignored by attach. -/
example : cuckooAttach (cuckooDecrLength sCk (cuckooCreate sCk Store.empty).1).1 sCk.metadataKey =
    some sCk ∧
    (cuckooDecrLength sCk (cuckooCreate sCk Store.empty).1).1 sCk.metadataKey =
      some (.hash [("size", "2"), ("bucketSize", "2"), ("fingerPrintLength", "2"), ("retries", "5"),
        ("key", "aaaaaaaaaaaaaaak"), ("length", "-1")]) := by decide +kernel

def tkHist : List (Store → Store) :=
  [ fun s => (cmsInit sTk.sketch s).1,
    fun s => (topkInsert sTk "a" [0, 1, 2] 3 s).1,
    fun s => (topkInsert sTk "b" [1, 1, 3] 1 s).1,
    fun s => (topkInsert sTk "c" [2, 0, 0] 2 s).1,
    fun s => (topkInsertCmds sTk.heapKey sTk.k "b" 5 s).1,
    fun s => (topkValues sTk.heapKey s).1 ]

theorem tkHist_steps : ∀ t ∈ tkHist, sTk.Step t := by
  simp only [tkHist, List.forall_mem_cons, List.not_mem_nil, false_imp_iff, implies_true, and_true]
  exact ⟨.sketchInit, .insert _ _ _ (by decide), .insert _ _ _ (by decide), .insert _ _ _ (by decide),
    .insertCmds _ _, .values⟩

example : topkAttach (runSteps tkHist (topkCreate sTk Store.empty).1) sTk.metadataKey = some sTk :=
  C09_attach_any_time_topk sTk Store.empty tkHist (Or.inl rfl) (Or.inl rfl) (by decide +kernel)
    (by decide) (by decide) (by decide) (by decide) (by decide) (by decide +kernel) tkHist_steps

/-- the facts about the store after `tkHist`,
    decided together so that the store is evaluated once. -/
theorem tkHist_runs :
    (topkAttach (runSteps tkHist (topkCreate sTk Store.empty).1) sTk.metadataKey = some sTk) ∧
    ((topkValues sTk.heapKey (runSteps tkHist (topkCreate sTk Store.empty).1)).2 =
      some [("b", 5), ("a", 3)]) ∧
    ((cmsCount sTk.sketch [1, 1, 3] (runSteps tkHist (topkCreate sTk Store.empty).1)).2 = some 1) := by
  decide +kernel

example : topkAttach (runSteps tkHist (topkCreate sTk Store.empty).1) sTk.metadataKey = some sTk := tkHist_runs.1
/-- the heap after the history (k = 2: (b,1) was evicted by (c,2), then b re-offered with 5). -/
example : (topkValues sTk.heapKey (runSteps tkHist (topkCreate sTk Store.empty).1)).2 =
    some [("b", 5), ("a", 3)] := tkHist_runs.2.1
example : (cmsCount sTk.sketch [1, 1, 3] (runSteps tkHist (topkCreate sTk Store.empty).1)).2 = some 1 := tkHist_runs.2.2

end examples

end Gostatix.Redis
