/-
  C03 — the Count-Min estimate never under-counts and is bounded by the stream total.

  Elements are an abstract type `E`; `pos : E → List Nat` is an ARBITRARY position function
  (column of the element in each row) that is well formed for a `rows × cols` sketch (`PosOK`);
  a history is a list of `(element, count)` updates.  The correspondence suite checks that the
  implementation's `getPositions` is the instance `CMS.positionsOf` (see `C03_concrete`).
  Counters are `Nat` (no overflow): the Go counters are uint64, so the statements hold for the
  code as long as `total h < 2^64` (Props/C03Machine.lean).
  Definitions (`run`, `trueCount`, `total`, `PosOK`, `WF`): Proofs/CMS.lean.
-/
import Gostatix.Proofs.CMS
namespace Gostatix.CMS

section props
variable {E : Type}

theorem C03_wf_new (rows cols : Nat) : WF (CMS.new rows cols) := new_shape rows cols

theorem C03_wf_run (pos : E → List Nat) (s : CMS) (h : List (E × Nat)) (hs : WF s) :
    WF (run pos s h) := by
  have hd := foldl_update_rows pos s h
  have := foldl_update_shape pos s.rows s.cols s hs.shape h
  unfold WF run; rw [hd.1, hd.2]; exact this

theorem C03_run_dims (pos : E → List Nat) (s : CMS) (h : List (E × Nat)) :
    (run pos s h).rows = s.rows ∧ (run pos s h).cols = s.cols := foldl_update_rows pos s h

/-- From ANY well-formed state: the estimate of `x` grows by at least the true count of `x` in
    the updates applied since.  `1 ≤ rows` is necessary (`C03_lower_needs_rows`). -/
theorem C03_lower_general [DecidableEq E] (pos : E → List Nat) (s : CMS) (h : List (E × Nat))
    (x : E) (hs : WF s) (hrows : 1 ≤ s.rows) (hpos : PosOK pos s.rows s.cols) :
    s.count (pos x) + trueCount h x ≤ (run pos s h).count (pos x) :=
  foldl_count_lower pos s.rows s.cols hrows hpos s hs.shape h x

/-- From ANY well-formed state: at most the total of the updates applied since. -/
theorem C03_upper_general (pos : E → List Nat) (s : CMS) (h : List (E × Nat)) (x : E)
    (hs : WF s) (hpos : PosOK pos s.rows s.cols) :
    (run pos s h).count (pos x) ≤ s.count (pos x) + total h :=
  foldl_count_upper pos s.rows s.cols hpos s hs.shape h x

theorem C03_exact_single_general [DecidableEq E] (pos : E → List Nat) (s : CMS)
    (h : List (E × Nat)) (x : E) (hall : ∀ ec ∈ h, ec.1 = x)
    (hs : WF s) (hrows : 1 ≤ s.rows) (hpos : PosOK pos s.rows s.cols) :
    (run pos s h).count (pos x) = s.count (pos x) + total h := by
  have lo := C03_lower_general pos s h x hs hrows hpos
  have hi := C03_upper_general pos s h x hs hpos
  have e : trueCount h x = total h := trueCount_eq_total_of_all h x hall
  omega

/-- the cell-level invariant behind all of the above. -/
theorem C03_cell_invariant (pos : E → List Nat) (s : CMS) (h : List (E × Nat))
    (hs : WF s) (hpos : PosOK pos s.rows s.cols) (r c : Nat) (hr : r < s.rows) :
    ((run pos s h).m.getD r []).getD c 0
      = (s.m.getD r []).getD c 0
        + sumL ((h.filter (fun ec => (pos ec.1).getD r 0 = c)).map (·.2)) :=
  foldl_update_cell pos s.rows s.cols hpos s hs.shape h r c hr

theorem C03_empty_zero (rows cols : Nat) (p : List Nat) : (CMS.new rows cols).count p = 0 :=
  count_new rows cols p

/-- **Never under-counts**: `Count(x) ≥` true frequency of `x`, for every history of updates of
    arbitrary elements.  Needs at least one row (`NewCountMinSketch*` guarantee it). -/
theorem C03_lower [DecidableEq E] (pos : E → List Nat) (rows cols : Nat) (h : List (E × Nat))
    (x : E) (hrows : 1 ≤ rows) (hpos : PosOK pos rows cols) :
    trueCount h x ≤ (run pos (CMS.new rows cols) h).count (pos x) := by
  have := C03_lower_general pos (CMS.new rows cols) h x (C03_wf_new rows cols) hrows hpos
  rw [C03_empty_zero] at this; omega

/-- with 0 rows the estimate is 0. -/
theorem C03_lower_needs_rows :
    ¬ (∀ (pos : Unit → List Nat) (rows cols : Nat) (h : List (Unit × Nat)) (x : Unit),
        PosOK pos rows cols → trueCount h x ≤ (run pos (CMS.new rows cols) h).count (pos x)) := by
  intro H
  have := H (fun _ => []) 0 1 [((), 1)] () (by intro e; simp)
  revert this; decide +kernel

/-- **Bounded by the stream total** (no hypothesis on `rows`, `cols` is needed). -/
theorem C03_upper (pos : E → List Nat) (rows cols : Nat) (h : List (E × Nat)) (x : E)
    (hpos : PosOK pos rows cols) :
    (run pos (CMS.new rows cols) h).count (pos x) ≤ total h := by
  have := C03_upper_general pos (CMS.new rows cols) h x (C03_wf_new rows cols) hpos
  rw [C03_empty_zero] at this; omega

/-- **Exact when `x` is the only distinct element updated** (`1 ≤ cols` follows from `PosOK`
    and `1 ≤ rows`, so it is not a hypothesis). -/
theorem C03_exact_single [DecidableEq E] (pos : E → List Nat) (rows cols : Nat)
    (h : List (E × Nat)) (x : E) (hall : ∀ ec ∈ h, ec.1 = x)
    (hrows : 1 ≤ rows) (hpos : PosOK pos rows cols) :
    (run pos (CMS.new rows cols) h).count (pos x) = total h := by
  have := C03_exact_single_general pos (CMS.new rows cols) h x hall (C03_wf_new rows cols)
    hrows hpos
  rw [C03_empty_zero] at this; omega

/-- `getPositions` is in range once `columns ≥ 1` (no out-of-range matrix access). -/
theorem C03_position_in_range (h1 h2 r cols : Nat) (hc : 1 ≤ cols) :
    CMS.position h1 h2 r cols < cols := by
  unfold position; exact Nat.mod_lt _ (by omega)

theorem C03_positionsOf_ok (h1 h2 rows cols : Nat) (hc : 1 ≤ cols) :
    (CMS.positionsOf h1 h2 rows cols).length = rows
    ∧ ∀ p ∈ CMS.positionsOf h1 h2 rows cols, p < cols := by
  refine ⟨by simp [positionsOf], ?_⟩
  intro p hp
  simp only [positionsOf, List.mem_map, List.mem_range] at hp
  obtain ⟨r, _, rfl⟩ := hp
  exact C03_position_in_range h1 h2 r cols hc

theorem C03_positionsOf_PosOK (hash : E → Nat × Nat) (rows cols : Nat) (hc : 1 ≤ cols) :
    PosOK (fun e => CMS.positionsOf (hash e).1 (hash e).2 rows cols) rows cols :=
  fun e => C03_positionsOf_ok (hash e).1 (hash e).2 rows cols hc

/-- End-to-end for the concrete scheme: any two hash words per element, any `rows, cols ≥ 1`. -/
theorem C03_concrete [DecidableEq E] (hash : E → Nat × Nat) (rows cols : Nat)
    (h : List (E × Nat)) (x : E) (hrows : 1 ≤ rows) (hcols : 1 ≤ cols) :
    let pos := fun e => CMS.positionsOf (hash e).1 (hash e).2 rows cols
    trueCount h x ≤ (run pos (CMS.new rows cols) h).count (pos x)
    ∧ (run pos (CMS.new rows cols) h).count (pos x) ≤ total h := by
  intro pos
  have hpos := C03_positionsOf_PosOK hash rows cols hcols
  exact ⟨C03_lower pos rows cols h x hrows hpos, C03_upper pos rows cols h x hpos⟩

theorem C03_concrete_exact_single [DecidableEq E] (hash : E → Nat × Nat) (rows cols : Nat)
    (h : List (E × Nat)) (x : E) (hall : ∀ ec ∈ h, ec.1 = x) (hrows : 1 ≤ rows)
    (hcols : 1 ≤ cols) :
    let pos := fun e => CMS.positionsOf (hash e).1 (hash e).2 rows cols
    (run pos (CMS.new rows cols) h).count (pos x) = total h := by
  intro pos
  exact C03_exact_single pos rows cols h x hall hrows (C03_positionsOf_PosOK hash rows cols hcols)

end props

/-- positions used by the examples: 3 rows, 4 columns; 1, 5, 9, 13 all collide in row 0. -/
def exPos (e : Nat) : List Nat := [e % 4, (e / 2) % 4, (3 * e + e / 4) % 4]

example : PosOK exPos 3 4 := by
  intro e
  refine ⟨rfl, ?_⟩
  intro p hp
  simp only [exPos, List.mem_cons, List.not_mem_nil, or_false] at hp
  omega

/-- the estimate of 1 is exact (5) although 5, 9, 13 collide with it in some rows; the estimate
    of 13 over-counts (true count 6, estimate 7) but stays below the total 19; a single distinct
    element is counted exactly. -/
example :
    let h := [(1, 2), (5, 4), (9, 1), (1, 3), (2, 1), (5, 2), (13, 6)]
    let s := run exPos (CMS.new 3 4) h
    trueCount h 1 = 5 ∧ s.count (exPos 1) = 5 ∧
    trueCount h 13 = 6 ∧ s.count (exPos 13) = 7 ∧ total h = 19 ∧
    (run exPos (CMS.new 3 4) [(7, 2), (7, 5)]).count (exPos 7) = 7 := by decide +kernel

end Gostatix.CMS
