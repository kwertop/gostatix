/-
  C14 — a failed cuckoo insert: it is signalled only when no visited bucket had room, the
  non-destructive mode restores EXACTLY the initial state, the destructive mode displaces at
  most one previously stored fingerprint.
  In-memory filter (`BucketMem.ops emp`, namespace `Gostatix.Cuckoo.Mem`) and, at the end of the file,
  the Redis-backed filter (`BucketRedis.ops emp`, namespace `Gostatix.Cuckoo.Redis`); arbitrary
  fingerprint type `F` with empty value `emp`;
  the random choices (`side`, `slots`) and the alternate-bucket map `alt` are universally
  quantified.  Helper lemmas: `Gostatix/Proofs/Cuckoo*.lean` and, for the walk behind
  `C14_failure_signalled`, `Gostatix/Proofs/C14Strict.lean` (generic in the bucket implementation).
-/
import Gostatix.Proofs.CuckooMem
import Gostatix.Proofs.CuckooRedis
import Gostatix.Proofs.C14Strict
namespace Gostatix.Cuckoo.Mem

section
variable {F : Type} [DecidableEq F] [Inhabited (BucketMem F)]

/-- **Rollback is exact.** A non-destructive insert that fails returns exactly the state it started
    from — for every state (well-formed or not), every `n`, every `alt`, every choice of `side` and
    `slots`.  (Replaying the log newest-first undoes the slot writes one by one.) -/
theorem C14_rollback_exact (emp : F) (alt : Nat → F → Nat) (c : Cuckoo (BucketMem F))
    (fp : F) (i1 i2 : Nat) (side : Bool) (slots : List Nat) (c' : Cuckoo (BucketMem F))
    (h : insert (BucketMem.ops emp) alt c fp i1 i2 false side slots = .full c') : c' = c :=
  insert_full_nondestructive (BucketMem.lawful emp) alt c fp i1 i2 side slots c' h

/-- `Insert` returns true only if a bucket that had room received one more fingerprint:
    exactly one bucket `j0`, free before, gains one occupied slot; no other bucket changes its
    occupancy; `length` and the number of stored fingerprints grow by one. -/
theorem C14_success_means_stored (emp : F) (alt : Nat → F → Nat) (c : Cuckoo (BucketMem F))
    (fp : F) (i1 i2 : Nat) (d side : Bool) (slots : List Nat) (c' : Cuckoo (BucketMem F))
    (hwf : WF emp c) (hAlt : ∀ j f, j < c.n → alt j f < c.n) (hb : 0 < c.bsize) (hfp : fp ≠ emp)
    (hi1 : i1 < c.n) (hi2 : i2 < c.n) (hsl : ∀ x ∈ slots, x < c.bsize)
    (h : insert (BucketMem.ops emp) alt c fp i1 i2 d side slots = .ok c') :
    c'.length = c.length + 1 ∧ stored emp c' = stored emp c + 1 ∧
    ∃ j0, j0 < c.n ∧ (bucketAt c.buckets j0).isFree = true ∧
      ∀ j, occ emp (bucketAt c'.buckets j).elements
        = occ emp (bucketAt c.buckets j).elements + (if j = j0 then 1 else 0) :=
  have sp := insert_ok_spec (BucketMem.lawful emp) alt c fp i1 i2 d side slots c' ((wf_iff emp c).mp hwf)
    hAlt hb hfp hi1 hi2 hsl h
  ⟨sp.length, sp.stored, sp.bucket⟩

/-- **Failure is signalled only when no visited bucket had room.** If `Insert` fails (either mode)
    then both candidate buckets were full, the eviction loop used all `retries` rounds, and every
    bucket it visited (`e.2.1`) as well as every bucket it tested for room (`alt e.2.1 e.1`, the
    alternate bucket of the displaced fingerprint `e.1`) was full. -/
theorem C14_failure_signalled (emp : F) (alt : Nat → F → Nat) (c : Cuckoo (BucketMem F))
    (fp : F) (i1 i2 : Nat) (d side : Bool) (slots : List Nat) (c' : Cuckoo (BucketMem F))
    (hwf : WF emp c) (hAlt : ∀ j f, j < c.n → alt j f < c.n) (hb : 0 < c.bsize) (hfp : fp ≠ emp)
    (hi1 : i1 < c.n) (hi2 : i2 < c.n) (hsl : ∀ x ∈ slots, x < c.bsize)
    (h : insert (BucketMem.ops emp) alt c fp i1 i2 d side slots = .full c') :
    (bucketAt c.buckets i1).isFree = false ∧ (bucketAt c.buckets i2).isFree = false ∧
    ∃ bs log, kick (BucketMem.ops emp) alt c.retries c.buckets (if side then i1 else i2) fp slots []
        = (bs, log, false) ∧ log.length = c.retries ∧
      ∀ e ∈ log, e.2.1 < c.n ∧ (bucketAt c.buckets e.2.1).isFree = false ∧
        (bucketAt c.buckets (alt e.2.1 e.1)).isFree = false :=
  have ⟨f1, f2, bs, log, hk, hl, hall⟩ := insert_full_walk (BucketMem.lawful emp) alt c fp i1 i2 d side slots c'
    (fun _ _ _ => rfl) (WalkShape.of_wf ((wf_iff emp c).mp hwf).bs) hAlt hb hi1 hi2 hsl h
  ⟨f1, f2, bs, log, hk, hl, fun e he => ⟨(hall e he).1, (hall e he).2.2.2⟩⟩

/-- **Destructive failure displaces at most one stored entry.** The resulting filter is
    well-formed, `length`, the occupancy of every bucket and the number of stored fingerprints are
    unchanged, and the multiset of slot contents changes by `+ fp − y` for one `y` that was stored
    before (or `y = fp`, i.e. nothing changed as a multiset). -/
theorem C14_destructive_bound (emp : F) (alt : Nat → F → Nat) (c : Cuckoo (BucketMem F))
    (fp : F) (i1 i2 : Nat) (side : Bool) (slots : List Nat) (c' : Cuckoo (BucketMem F))
    (hwf : WF emp c) (hAlt : ∀ j f, j < c.n → alt j f < c.n) (hb : 0 < c.bsize) (hfp : fp ≠ emp)
    (hi1 : i1 < c.n) (hi2 : i2 < c.n) (hsl : ∀ x ∈ slots, x < c.bsize)
    (h : insert (BucketMem.ops emp) alt c fp i1 i2 true side slots = .full c') :
    WF emp c' ∧ c'.length = c.length ∧ stored emp c' = stored emp c ∧
    (∀ j, occ emp (bucketAt c'.buckets j).elements = occ emp (bucketAt c.buckets j).elements) ∧
    ∃ y, y ≠ emp ∧ (y = fp ∨ y ∈ allSlots c) ∧
      ∀ g, (allSlots c').count g + (if g = y then 1 else 0)
         = (allSlots c).count g + (if g = fp then 1 else 0) :=
  have sp := insert_full_spec (BucketMem.lawful emp) alt c fp i1 i2 true side slots c'
    ((wf_iff emp c).mp hwf) hAlt hb hfp hi1 hi2 hsl h
  ⟨(wf_iff emp c').mpr sp.wf, sp.length, sp.stored, sp.occB, sp.displaced⟩

end

/-! ### non-vacuity: `n = 2`, one slot per bucket, `alt j f = (j ^^^ f) % 2`, both buckets full -/

/-- buckets `[5]`, `[7]`; inserting `9` fails after 2 retries -/
def exFull : Cuckoo (BucketMem Nat) := ⟨2, 1, 0, 2, [⟨1, [5], 1⟩, ⟨1, [7], 1⟩], 2⟩

example : WF 0 exFull := by decide +kernel

/-- the non-destructive insert fails and returns the initial state -/
example : insert (BucketMem.ops 0) (fun j f => (j ^^^ f) % 2) exFull 9 0 1 false true [0, 0]
    = .full exFull := by decide +kernel

/-- the destructive insert fails, keeps `length = 2`, and has displaced the stored `7` by `9` -/
example : insert (BucketMem.ops 0) (fun j f => (j ^^^ f) % 2) exFull 9 0 1 true true [0, 0]
    = .full ⟨2, 1, 0, 2, [⟨1, [9], 1⟩, ⟨1, [5], 1⟩], 2⟩ := by decide +kernel

end Gostatix.Cuckoo.Mem

/-! ## the same theorems for the Redis-backed filter (`BucketRedis.ops emp`) -/
namespace Gostatix.Cuckoo.Redis

section
variable {F : Type} [DecidableEq F] [Inhabited (BucketRedis F)]

theorem C14_rollback_exact (emp : F) (alt : Nat → F → Nat) (c : Cuckoo (BucketRedis F))
    (fp : F) (i1 i2 : Nat) (side : Bool) (slots : List Nat) (c' : Cuckoo (BucketRedis F))
    (h : insert (BucketRedis.ops emp) alt c fp i1 i2 false side slots = .full c') : c' = c :=
  insert_full_nondestructive (BucketRedis.lawful emp) alt c fp i1 i2 side slots c' h

theorem C14_success_means_stored (emp : F) (alt : Nat → F → Nat) (c : Cuckoo (BucketRedis F))
    (fp : F) (i1 i2 : Nat) (d side : Bool) (slots : List Nat) (c' : Cuckoo (BucketRedis F))
    (hwf : WF emp c) (hAlt : ∀ j f, j < c.n → alt j f < c.n) (hb : 0 < c.bsize) (hfp : fp ≠ emp)
    (hi1 : i1 < c.n) (hi2 : i2 < c.n) (hsl : ∀ x ∈ slots, x < c.bsize)
    (h : insert (BucketRedis.ops emp) alt c fp i1 i2 d side slots = .ok c') :
    c'.length = c.length + 1 ∧ stored emp c' = stored emp c + 1 ∧
    ∃ j0, j0 < c.n ∧ (bucketAt c.buckets j0).isFree = true ∧
      ∀ j, occ emp (bucketAt c'.buckets j).list
        = occ emp (bucketAt c.buckets j).list + (if j = j0 then 1 else 0) :=
  have sp := insert_ok_spec (BucketRedis.lawful emp) alt c fp i1 i2 d side slots c' ((wf_iff emp c).mp hwf)
    hAlt hb hfp hi1 hi2 hsl h
  ⟨sp.length, sp.stored, sp.bucket⟩

theorem C14_failure_signalled (emp : F) (alt : Nat → F → Nat) (c : Cuckoo (BucketRedis F))
    (fp : F) (i1 i2 : Nat) (d side : Bool) (slots : List Nat) (c' : Cuckoo (BucketRedis F))
    (hwf : WF emp c) (hAlt : ∀ j f, j < c.n → alt j f < c.n) (hb : 0 < c.bsize) (hfp : fp ≠ emp)
    (hi1 : i1 < c.n) (hi2 : i2 < c.n) (hsl : ∀ x ∈ slots, x < c.bsize)
    (h : insert (BucketRedis.ops emp) alt c fp i1 i2 d side slots = .full c') :
    (bucketAt c.buckets i1).isFree = false ∧ (bucketAt c.buckets i2).isFree = false ∧
    ∃ bs log, kick (BucketRedis.ops emp) alt c.retries c.buckets (if side then i1 else i2) fp slots []
        = (bs, log, false) ∧ log.length = c.retries ∧
      ∀ e ∈ log, e.2.1 < c.n ∧ (bucketAt c.buckets e.2.1).isFree = false ∧
        (bucketAt c.buckets (alt e.2.1 e.1)).isFree = false :=
  have ⟨f1, f2, bs, log, hk, hl, hall⟩ := insert_full_walk (BucketRedis.lawful emp) alt c fp i1 i2 d side slots c'
    (fun _ _ _ => rfl) (WalkShape.of_wf ((wf_iff emp c).mp hwf).bs) hAlt hb hi1 hi2 hsl h
  ⟨f1, f2, bs, log, hk, hl, fun e he => ⟨(hall e he).1, (hall e he).2.2.2⟩⟩

theorem C14_destructive_bound (emp : F) (alt : Nat → F → Nat) (c : Cuckoo (BucketRedis F))
    (fp : F) (i1 i2 : Nat) (side : Bool) (slots : List Nat) (c' : Cuckoo (BucketRedis F))
    (hwf : WF emp c) (hAlt : ∀ j f, j < c.n → alt j f < c.n) (hb : 0 < c.bsize) (hfp : fp ≠ emp)
    (hi1 : i1 < c.n) (hi2 : i2 < c.n) (hsl : ∀ x ∈ slots, x < c.bsize)
    (h : insert (BucketRedis.ops emp) alt c fp i1 i2 true side slots = .full c') :
    WF emp c' ∧ c'.length = c.length ∧ stored emp c' = stored emp c ∧
    (∀ j, occ emp (bucketAt c'.buckets j).list = occ emp (bucketAt c.buckets j).list) ∧
    ∃ y, y ≠ emp ∧ (y = fp ∨ y ∈ allSlots c) ∧
      ∀ g, (allSlots c').count g + (if g = y then 1 else 0)
         = (allSlots c).count g + (if g = fp then 1 else 0) :=
  have sp := insert_full_spec (BucketRedis.lawful emp) alt c fp i1 i2 true side slots c'
    ((wf_iff emp c).mp hwf) hAlt hb hfp hi1 hi2 hsl h
  ⟨(wf_iff emp c').mpr sp.wf, sp.length, sp.stored, sp.occB, sp.displaced⟩

end

/-! ### non-vacuity (Redis): two full one-entry lists -/

example : insert (BucketRedis.ops 0) (fun j f => (j ^^^ f) % 2)
    (⟨2, 1, 0, 2, [⟨1, [5], 1⟩, ⟨1, [7], 1⟩], 2⟩ : Cuckoo (BucketRedis Nat)) 9 0 1 false true [0, 0]
    = .full ⟨2, 1, 0, 2, [⟨1, [5], 1⟩, ⟨1, [7], 1⟩], 2⟩ := by decide +kernel

example : insert (BucketRedis.ops 0) (fun j f => (j ^^^ f) % 2)
    (⟨2, 1, 0, 2, [⟨1, [5], 1⟩, ⟨1, [7], 1⟩], 2⟩ : Cuckoo (BucketRedis Nat)) 9 0 1 true true [0, 0]
    = .full ⟨2, 1, 0, 2, [⟨1, [9], 1⟩, ⟨1, [5], 1⟩], 2⟩ := by decide +kernel

end Gostatix.Cuckoo.Redis
