/-
  ArithTieHLL — arithmetic tie, HyperLogLog `getRegisterIndexAndCount` and the truncations of its callers: the definitions of Generated/Arith.lean
  agree with the hand-written `Nat` model for ALL inputs.  See Props/ArithTie.lean.
-/
import Gostatix.Generated.Arith
import Gostatix.Proofs.GoArith

namespace Gostatix.ArithTie
open Gostatix.Generated.Arith Gostatix.GoArith

/-- `uint64(1 + bits.LeadingZeros64(hash << numBytesPerHash))` is `HLL.indexOf`, for EVERY
    `numBytesPerHash` (for 64 and more both sides shift everything out and give 65). -/
theorem tie_hllRegisterIndex (hash nb : UInt64) :
    (hllRegisterIndex hash nb).toNat = HLL.indexOf hash.toNat nb.toNat :=
  toNat_rank hash nb

/-- the `uint8(registerIndex)` of the Redis `Update` loses nothing (the index is at most 65). -/
theorem tie_hllStoredIndexRedis (hash nb : UInt64) :
    (hllStoredIndexRedis (hllRegisterIndex hash nb)).toNat = HLL.indexOf hash.toNat nb.toNat := by
  have h := HLL.clz64_le ((hash.toNat * 2 ^ nb.toNat) % 2 ^ 64)
  have h' := tie_hllRegisterIndex hash nb
  simp only [HLL.indexOf] at h' ⊢
  simp [hllStoredIndexRedis, toNat_trunc8, h'] at h ⊢
  omega

/-- `count := hash >> uint(32 - numBytesPerHash)`, before the callers' truncation, in the range
    `numBytesPerHash ≤ 32` (p = log2 of the register count). -/
theorem tie_hllCount (hash nb : UInt64) (hp : nb.toNat ≤ 32) :
    (hllCount hash nb).toNat = hash.toNat / 2 ^ (32 - nb.toNat) :=
  toNat_count hash nb hp

/-- Redis `Update`: the `uint8(count)` passed to `updateRegisters` is `HLL.valueOf`. -/
theorem tie_hllStoredValueRedis (hash nb : UInt64) (hp : nb.toNat ≤ 32) :
    (hllStoredValueRedis (hllCount hash nb)).toNat = HLL.valueOf hash.toNat nb.toNat := by
  have h := tie_hllCount hash nb hp
  simp [hllStoredValueRedis, toNat_trunc8, HLL.valueOf, h]

/-- outside the range (more than 2^32 registers) model and code differ: in Go `32 - p` wraps to a
    shift count ≥ 64 and the count is 0, the `Nat` model truncates `32 - p` to 0. -/
theorem hllValue_differs_above_32 :
    (hllStoredValueRedis (hllCount 1 33)).toNat = 0 ∧ HLL.valueOf 1 33 = 1 := by decide +kernel

example : (hllRegisterIndex 1 4).toNat = 60 ∧ HLL.indexOf 1 4 = 60 := by decide +kernel
example : (hllRegisterIndex 5 64).toNat = 65 ∧ HLL.indexOf 5 64 = 65 := by decide +kernel
example : (hllStoredValueRedis (hllCount 0xABCDEF0123456789 4)).toNat = 0x12
    ∧ HLL.valueOf 0xABCDEF0123456789 4 = 0x12 := by decide +kernel


end Gostatix.ArithTie
