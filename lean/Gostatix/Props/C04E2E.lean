/-
  C04E2E — Top-K end to end, with NO hypothesis on the estimates.

  C04 proves the Top-K guarantees for every heap the specification can reach, under the
  hypothesis `EstOK` on the estimates of the event history.  Here `EstOK` is discharged from the
  Count-Min sketch itself: in a run of `TopK.insert` from `⟨k, CMS.new rows cols, #[]⟩` the
  estimate recorded at insert `i` is `count` of the sketch after updates `0..i`, which C03 bounds
  by the element's true count and the stream total, and `C04_insert_run` gives the monotonicity.
  The conclusions (`Reports`) speak of the insertion history `h : List (String × Nat)` alone.

  `pos` is an ARBITRARY position function well formed for the `rows × cols` sketch (`CMS.PosOK`).
  The theorems hold in the MODEL for any `k` and any counts, 0 included; the Go code accepts less:
  both `Insert`s panic on a count of 0, and top_k.go panics at `k = 0` on the first insert
  (Props/C04Exact.lean, "THE RANGE `k ≥ 1`").
  The statements write the run as the `foldl` of `TopK.insert` / `insertRedis` itself;
  `runInserts` / `runInsertsRedis` are names for these folds, equal to them by `rfl`.
  `1 ≤ cols` follows from `PosOK` and `1 ≤ rows`; it is listed because the constructors demand it.
  Counters are `Nat`: the statements hold for the code while `CMS.total h < 2^64`.
-/
import Gostatix.Props.C04
import Gostatix.Proofs.TopKE2E
namespace Gostatix.TopK

variable (pos : String → List Nat) (rows cols k : Nat) (h : List (String × Nat))

/-- **`EstOK` holds for every run from a fresh sketch** (the hypothesis of the C04 theorems). -/
theorem C04_estOK_of_sketch (hrows : 1 ≤ rows) (hpos : CMS.PosOK pos rows cols) :
    EstOK (sketchEvents pos (CMS.new rows cols) h) := by
  apply estOK_of_bounds_mono _ _ (sketchEvents_mono pos _ h)
  intro i hi
  -- the bounds from any well-formed start sketch, at the fresh sketch where every estimate is 0
  have := sketchEvents_bounds_general pos (CMS.new rows cols) (CMS.C03_wf_new rows cols) hrows hpos
    h i hi
  rwa [CMS.C03_empty_zero, Nat.zero_add, Nat.zero_add] at this

theorem C04_sketchEvents_history (pos : String → List Nat) (s : CMS) (h : List (String × Nat)) :
    (sketchEvents pos s h).map (·.x) = h.map (·.1) ∧
    (∀ y, trueTotal (sketchEvents pos s h) y = CMS.trueCount h y) ∧
    total (sketchEvents pos s h) = CMS.total h :=
  ⟨sketchEvents_map_x pos s h, sketchEvents_trueTotal pos s h, sketchEvents_total pos s h⟩

/-- What C04 guarantees about the list `heap` of reported entries after the insertion history `h`
    at capacity `k`.  `C04_reach_sketch` and `C04_end_to_end_mem` return it; `C04_end_to_end_redis`,
    `C04_end_to_end_mem_values` and `C04_end_to_end_mem_concrete` spell the same clauses out in
    their statements and are proved by projecting its fields. -/
structure Reports (h : List (String × Nat)) (k : Nat) (heap : List HElem) : Prop where
  nodup : (heap.map (·.1)).Nodup
  size : heap.length = min k (distinct (h.map (·.1))).length
  bounds : ∀ p ∈ heap, CMS.trueCount h p.1 ≤ p.2 ∧ p.2 ≤ CMS.total h
  light : ∀ y ∈ h.map (·.1), (∀ p ∈ heap, p.1 ≠ y) → ∀ p ∈ heap, CMS.trueCount h y ≤ p.2

theorem C04_reach_sketch (hrows : 1 ≤ rows) (hpos : CMS.PosOK pos rows cols) (heap : List HElem)
    (hr : Reach k (sketchEvents pos (CMS.new rows cols) h) heap) : Reports h k heap := by
  have he := C04_estOK_of_sketch pos rows cols h hrows hpos
  refine ⟨C04_nodup hr, ?_, ?_, ?_⟩
  · have := C04_size hr he
    unfold numDistinct at this
    rwa [sketchEvents_map_x] at this
  · intro p hp
    have := C04_count_bounds hr he p hp
    rwa [sketchEvents_trueTotal, sketchEvents_total] at this
  · intro y hy hno p hp
    have := C04_unreported_light hr he y (sketchEvents_mem_x hy) hno p hp
    rwa [sketchEvents_trueTotal] at this

/-- **Top-K end to end, in-memory variant.**  Run `TopK.insert` over ANY insertion history `h`
    from the fresh state `⟨k, CMS.new rows cols, #[]⟩`.  The final heap `Reports` the history,
    and the array is heap-ordered (`container/heap` invariant). -/
theorem C04_end_to_end_mem (hrows : 1 ≤ rows) (_hcols : 1 ≤ cols)
    (hpos : CMS.PosOK pos rows cols) :
    let t := h.foldl (fun t o => t.insert o.1 (pos o.1) o.2) (⟨k, CMS.new rows cols, #[]⟩ : TopK)
    Reports h k t.heap.toList ∧ HeapInv t.heap := by
  intro t
  obtain ⟨hr, hinv, _⟩ := C04_insert_run pos ⟨k, CMS.new rows cols, #[]⟩ rfl h
  exact ⟨C04_reach_sketch pos rows cols k h hrows hpos _ hr, hinv⟩

/-- the sketch of the run is the sketch of C03 (so `C03_lower`/`C03_upper` speak about it) and
    `k` is unchanged -/
theorem C04_end_to_end_mem_sketch (pos : String → List Nat) (rows cols k : Nat)
    (h : List (String × Nat)) :
    let t := h.foldl (fun t o => t.insert o.1 (pos o.1) o.2) (⟨k, CMS.new rows cols, #[]⟩ : TopK)
    t.sketch = CMS.run pos (CMS.new rows cols) h ∧ t.k = k :=
  ⟨runInserts_sketch pos ⟨k, CMS.new rows cols, #[]⟩ h,
   runInserts_k pos ⟨k, CMS.new rows cols, #[]⟩ h⟩

/-- `Values()` of the final state: the same entries, ordered by count descending then element
    ascending (strictly), hence all of the above about the reported list. -/
theorem C04_end_to_end_mem_values (pos : String → List Nat) (rows cols k : Nat)
    (h : List (String × Nat)) (hrows : 1 ≤ rows) (hcols : 1 ≤ cols)
    (hpos : CMS.PosOK pos rows cols) :
    let t := h.foldl (fun t o => t.insert o.1 (pos o.1) o.2) (⟨k, CMS.new rows cols, #[]⟩ : TopK)
    (values t.heap.toList).Perm t.heap.toList ∧
    (values t.heap.toList).length = min k (distinct (h.map (·.1))).length ∧
    List.Pairwise (fun a b => a.2 > b.2 ∨ (a.2 = b.2 ∧ a.1 < b.1)) (values t.heap.toList) ∧
    (∀ p ∈ values t.heap.toList, CMS.trueCount h p.1 ≤ p.2 ∧ p.2 ≤ CMS.total h) := by
  intro t
  obtain ⟨r, _⟩ := C04_end_to_end_mem pos rows cols k h hrows hcols hpos
  have hp := values_perm t.heap.toList
  exact ⟨hp, hp.length_eq.trans r.size, C04_values_sorted_strict _ r.nodup,
    fun p hm => r.bounds p (hp.mem_iff.1 hm)⟩

theorem C04_redis_run (pos : String → List Nat) (s : CMS) (k : Nat) (h : List (String × Nat)) :
    let st := h.foldl (fun st o => insertRedis k st o.1 (pos o.1) o.2) (s, [])
    Reach k (sketchEvents pos s h) st.2 ∧ st.2.Pairwise (fun a b => zLt a b = true) := by
  intro st
  have hz : st.2 = _ := runInsertsRedis_zset pos k (s, []) h
  obtain ⟨hr, hsorted, _⟩ := C04_redis_reach k (sketchEvents pos s h)
  rw [← hz] at hr hsorted
  exact ⟨hr, hsorted⟩

/-- **Top-K end to end, Redis variant.**  The same run with the sorted set in place of the heap
    (`insertRedis`: sketch update, estimate, `offerRedis`), from the fresh sketch and the empty
    sorted set.  Same conclusions; in place of the heap order the list is sorted by
    (score, member) — the order of the Redis sorted set. -/
theorem C04_end_to_end_redis (pos : String → List Nat) (rows cols k : Nat)
    (h : List (String × Nat)) (hrows : 1 ≤ rows) (_hcols : 1 ≤ cols)
    (hpos : CMS.PosOK pos rows cols) :
    let st := h.foldl (fun st o => insertRedis k st o.1 (pos o.1) o.2) (CMS.new rows cols, [])
    (st.2.map (·.1)).Nodup ∧
    st.2.length = min k (distinct (h.map (·.1))).length ∧
    (∀ p ∈ st.2, CMS.trueCount h p.1 ≤ p.2 ∧ p.2 ≤ CMS.total h) ∧
    (∀ y ∈ h.map (·.1), (∀ p ∈ st.2, p.1 ≠ y) → ∀ p ∈ st.2, CMS.trueCount h y ≤ p.2) ∧
    st.2.Pairwise (fun a b => zLt a b = true) := by
  intro st
  obtain ⟨hr, hsorted⟩ := C04_redis_run pos (CMS.new rows cols) k h
  have r := C04_reach_sketch pos rows cols k h hrows hpos _ hr
  exact ⟨r.nodup, r.size, r.bounds, r.light, hsorted⟩

/-- the two variants see the same estimates: the sorted set of the Redis run is the fold of
    `offerRedis` over the events `(x, c, estimate)` of the in-memory run, and both hold the same
    sketch -/
theorem C04_end_to_end_redis_same_estimates (pos : String → List Nat) (rows cols k : Nat)
    (h : List (String × Nat)) :
    let st := h.foldl (fun st o => insertRedis k st o.1 (pos o.1) o.2) (CMS.new rows cols, [])
    let t := h.foldl (fun t o => t.insert o.1 (pos o.1) o.2) (⟨k, CMS.new rows cols, #[]⟩ : TopK)
    st.2 = (sketchEvents pos (CMS.new rows cols) h).foldl (fun z e => offerRedis k z e.x e.f) [] ∧
    t.heap = (sketchEvents pos (CMS.new rows cols) h).foldl (fun a e => offer k a e.x e.f) #[] ∧
    st.1 = t.sketch := by
  refine ⟨runInsertsRedis_zset pos k (CMS.new rows cols, []) h,
    runInserts_heap pos ⟨k, CMS.new rows cols, #[]⟩ h, ?_⟩
  exact (runInsertsRedis_sketch pos k (CMS.new rows cols, []) h).trans
    (runInserts_sketch pos ⟨k, CMS.new rows cols, #[]⟩ h).symm

/-- the concrete position scheme of the code (`getPositions`): any two hash words per element -/
theorem C04_end_to_end_mem_concrete (hash : String → Nat × Nat) (rows cols k : Nat)
    (h : List (String × Nat)) (hrows : 1 ≤ rows) (hcols : 1 ≤ cols) :
    let pos := fun e => CMS.positionsOf (hash e).1 (hash e).2 rows cols
    let t := h.foldl (fun t o => t.insert o.1 (pos o.1) o.2) (⟨k, CMS.new rows cols, #[]⟩ : TopK)
    (t.heap.toList.map (·.1)).Nodup ∧
    t.heap.size = min k (distinct (h.map (·.1))).length ∧
    (∀ p ∈ t.heap.toList, CMS.trueCount h p.1 ≤ p.2 ∧ p.2 ≤ CMS.total h) ∧
    (∀ y ∈ h.map (·.1), (∀ p ∈ t.heap.toList, p.1 ≠ y) →
      ∀ p ∈ t.heap.toList, CMS.trueCount h y ≤ p.2) ∧
    HeapInv t.heap := by
  intro pos
  have r := C04_end_to_end_mem pos rows cols k h hrows hcols
    (CMS.C03_positionsOf_PosOK hash rows cols hcols)
  exact ⟨r.1.nodup, r.1.size, r.1.bounds, r.1.light, r.2⟩

/-- positions used by the example: 2 rows, 3 columns; "a" and "dddd" collide in both rows
    (defined by cases on the string so that the examples evaluate in the kernel) -/
def exPosS (s : String) : List Nat :=
  if s = "a" ∨ s = "dddd" then [1, 2] else if s = "bb" then [2, 1] else [0, 0]

theorem exPosS_ok : CMS.PosOK exPosS 2 3 := fun _ =>
  posOK_ite (by decide +kernel) <| posOK_ite (by decide +kernel) (by decide +kernel)

def exOps : List (String × Nat) := [("a", 2), ("bb", 1), ("dddd", 1), ("bb", 2)]

/-- the final heap of the run: "dddd" is reported with the over-estimate 3 (true count 1; it
    collides with "a"), "bb" with its exact count 3, and "a" (true count 2 ≤ 3) is not reported -/
example :
    (exOps.foldl (fun t o => t.insert o.1 (exPosS o.1) o.2) (⟨2, CMS.new 2 3, #[]⟩ : TopK)).heap
      = #[("bb", 3), ("dddd", 3)] := by
  refine (runInserts_heap exPosS ⟨2, CMS.new 2 3, #[]⟩ exOps).trans ?_
  rw [offer_eq_offerL]
  decide +kernel

example :
    (exOps.foldl (fun st o => insertRedis 2 st o.1 (exPosS o.1) o.2) (CMS.new 2 3, [])).2
      = [("bb", 3), ("dddd", 3)] := by decide +kernel

example : CMS.trueCount exOps "dddd" = 1 ∧ CMS.trueCount exOps "a" = 2 ∧ CMS.total exOps = 6 ∧
    (distinct (exOps.map (·.1))).length = 3 := by decide +kernel

example :=
  C04_end_to_end_mem exPosS 2 3 2 exOps (by decide +kernel) (by decide +kernel) exPosS_ok

example :=
  C04_end_to_end_redis exPosS 2 3 2 exOps (by decide +kernel) (by decide +kernel) exPosS_ok

example :
    (exOps.foldl (fun t o => t.insert o.1 (exPosS o.1) o.2)
      (⟨2, CMS.new 2 3, #[]⟩ : TopK)).heap.size = 2 := by
  have := (C04_end_to_end_mem exPosS 2 3 2 exOps (by decide +kernel) (by decide +kernel) exPosS_ok).1.size
  have hd : (distinct (exOps.map (·.1))).length = 3 := by decide +kernel
  rw [hd] at this
  exact this

end Gostatix.TopK
