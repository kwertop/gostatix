/-
  C18 (read errors are returned) — decided over the decoder table REGENERATED from /repo's current sources
  on every run (`Gostatix/Generated/DecoderTable.lean`): every fallible read (`binary.Read`,
  `io.ReadFull`, nested `readFrom`, `json.Unmarshal`) inside ReadFrom / readFrom / Import of the
  in-memory structures has its error tested and returned by the very next statement.
-/
import Gostatix.Generated.DecoderTable
namespace Gostatix.Generated

theorem C18_errors_propagated : decoderTable.all (fun r => r.propagated) = true := by decide +kernel

theorem C18_decoder_table_covers :
    ["BloomFilter.ReadFrom", "BitSetMem.readFrom", "CuckooFilter.ReadFrom", "BucketMem.readFrom",
     "CountMinSketch.ReadFrom", "HyperLogLog.ReadFrom", "TopK.ReadFrom",
     "BloomFilter.Import", "CuckooFilter.Import", "CountMinSketch.Import", "HyperLogLog.Import", "TopK.Import"].all
      (fun fn => decoderTable.any (fun r => r.fn == fn)) = true := by decide +kernel

end Gostatix.Generated
