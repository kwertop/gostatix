/-
  C05 (estimate) — the refutation of the HyperLogLog accuracy clause (finding D4) and its true
  half, over the real numbers.

  THE CODE (base_hyperloglog.go, hyperloglog.go, pinned version).
    getRegisterIndexAndCount:  registerIndex := 1 + bits.LeadingZeros64(hash << p)     -- the RANK
                               count         := hash >> (32 - p)                       -- hash bits
    Update:                    registers[registerIndex] = max(registers[registerIndex], uint8(count))
    Count:                     harmonicMean = Σ_j 2^(-registers[j]);
                               estimation   = alpha · m² / harmonicMean   (+ large-range correction
                                                                            and rounding)
  Index and value are swapped with respect to the HyperLogLog algorithm: the rank (1..65) selects
  the register and a byte of hash bits is stored in it.  The models are `HLL.indexOf`, `HLL.valueOf`,
  `HLL.update` (partial, as coded) and `HLL.upd` (total) of `Model/HLL.lean`; runs are `runR` /
  `run` / `runU` of `Props/C06.lean` with `iv := hashIV p`.

  Consequence: at most 65 registers are ever touched, so for m > 65 registers the raw estimate
  `α·m²/Σ_j 2^(-reg_j)` of EVERY hash history lies in [α·m, α·m²/(m-65)], a window that does not
  depend on the input; and `Update` is total iff there are at least 66 registers.

  WHAT IS NOT PROVED
   * nothing about float64: `rawEstimate` is the exact real value; rounding, the large-range
     correction (only applied when E > 2^32/30; not reached for m = 2^14, `C05_window_16384`) and
     `math.Round` / `uint64(·)` are left out;
   * nothing about metro.Hash128: the hash is an arbitrary natural number; the witnesses
     `hash = 0`, `hash = 1` are values of the hash, not byte strings known to hash to them;
   * the constructor only accepts m a power of two and sets p = log2 m — the theorems do not
     assume it.
-/
import Gostatix.Props.C05
import Gostatix.Props.C06
import Gostatix.Proofs.C05Est
namespace Gostatix.HLL

/-- `getEstimation` before correction and rounding: `α · m² / Σ_j 2^(-reg_j)` over ℝ.  The sum is
    written out (it is `harmonic regs` of Proofs/C05Est.lean, `rawEstimate_eq`) so that the
    statements can be read without the helper file; likewise in `C05_harmonic_ge`. -/
noncomputable def rawEstimate (α : ℝ) (regs : List Nat) : ℝ :=
  α * (regs.length : ℝ) ^ 2 / (regs.map fun (r : Nat) => (2 : ℝ) ^ (-(r : ℤ))).sum

theorem rawEstimate_eq (α : ℝ) (regs : List Nat) :
    rawEstimate α regs = α * (regs.length : ℝ) ^ 2 / harmonic regs := by
  unfold rawEstimate harmonic; rfl

/-- `getAlpha` (base_hyperloglog.go), decimal constants read as exact rationals -/
noncomputable def alpha (m : Nat) : ℝ :=
  if m = 16 then 0.673 else if m = 32 then 0.697 else if m = 64 then 0.709
  else 0.7213 / (1 + 1.079 / (m : ℝ))

theorem alpha_of_large (m : Nat) (hm : 64 < m) : alpha m = 0.7213 / (1 + 1.079 / (m : ℝ)) := by
  unfold alpha
  rw [if_neg (by omega), if_neg (by omega), if_neg (by omega)]

theorem alpha_pos (m : Nat) : 0 < alpha m := by
  unfold alpha
  split_ifs
  · norm_num
  · norm_num
  · norm_num
  · exact div_pos (by norm_num)
      (add_pos_of_pos_of_nonneg one_pos (div_nonneg (by norm_num) (Nat.cast_nonneg m)))

/-- `getRegisterIndexAndCount` as a map hash ↦ (index, value) at precision `p` -/
def hashIV (p : Nat) (hash : Nat) : Nat × Nat := (indexOf hash p, valueOf hash p)

theorem C05_untouched_stay (regs : List Nat) (h : List (Nat × Nat)) (j : Nat)
    (hj : j ∉ h.map Prod.fst) : (h.foldl upd regs).getD j 0 = regs.getD j 0 :=
  foldl_upd_getD_untouched regs h j (fun _ hiv e => hj (e ▸ List.mem_map_of_mem hiv))

theorem C05_harmonic_ge (T : Finset Nat) (regs : List Nat)
    (h : ∀ j, j ∉ T → regs.getD j 0 = 0) :
    (regs.length : ℝ) - T.card ≤ (regs.map fun (r : Nat) => (2 : ℝ) ^ (-(r : ℤ))).sum :=
  harmonic_ge_of_untouched T regs h

/-- at least m - 65 registers are still 0 -/
theorem C05_harmonic_ge_any_history (m : Nat) (h : List (Nat × Nat))
    (hidx : ∀ iv ∈ h, 1 ≤ iv.1 ∧ iv.1 ≤ 65) :
    (m : ℝ) - 65 ≤ harmonic (h.foldl upd (List.replicate m 0)) := by
  have key := harmonic_ge_of_untouched (Finset.Icc 1 65) (h.foldl upd (List.replicate m 0)) (by
    intro j hj
    rw [foldl_upd_getD_untouched _ h j]
    · simp only [List.getD_eq_getElem?_getD, List.getElem?_replicate]; split <;> rfl
    · intro iv hiv e
      exact hj (Finset.mem_Icc.mpr (e ▸ hidx iv hiv)))
  rw [foldl_upd_length', List.length_replicate] at key
  simpa using key

/-- the bound holds whatever the number of (distinct) elements -/
theorem C05_estimate_independent_of_n (α : ℝ) (hα : 0 ≤ α) (m : Nat) (hm : 65 < m)
    (h : List (Nat × Nat)) (hidx : ∀ iv ∈ h, 1 ≤ iv.1 ∧ iv.1 ≤ 65) :
    rawEstimate α (h.foldl upd (List.replicate m 0)) ≤ α * (m : ℝ) ^ 2 / ((m : ℝ) - 65) := by
  rw [rawEstimate_eq, foldl_upd_length', List.length_replicate]
  have hpos : (0 : ℝ) < (m : ℝ) - 65 := sub_pos.2 (by exact_mod_cast hm)
  exact div_le_div_of_nonneg_left (mul_nonneg hα (sq_nonneg _)) hpos
    (C05_harmonic_ge_any_history m h hidx)

theorem runR_hashIV (p : Nat) (regs : List Nat) (hs : List Nat) :
    runR (hashIV p) regs hs = (hs.map (hashIV p)).foldl upd regs := by
  unfold runR; rw [List.foldl_map]

/-- the same for histories of HASHES: no hypothesis on them is needed -/
theorem C05_estimate_independent_of_n_hashes (α : ℝ) (hα : 0 ≤ α) (m : Nat) (hm : 65 < m)
    (p : Nat) (hs : List Nat) :
    rawEstimate α (run (hashIV p) m hs).regs ≤ α * (m : ℝ) ^ 2 / ((m : ℝ) - 65) := by
  show rawEstimate α (runR (hashIV p) (List.replicate m 0) hs) ≤ _
  rw [runR_hashIV]
  apply C05_estimate_independent_of_n α hα m hm
  intro iv hiv
  obtain ⟨x, _, rfl⟩ := List.mem_map.mp hiv
  exact C05_index_range x p

/-- an EMPTY sketch "counts" α·m, not 0 (true for every m and α; for m = 0 both sides are 0) -/
theorem C05_empty_not_zero (α : ℝ) (m : Nat) :
    rawEstimate α (List.replicate m 0) = α * (m : ℝ) := by
  rw [rawEstimate_eq, harmonic_replicate_zero, List.length_replicate]
  rcases Nat.eq_zero_or_pos m with rfl | hm
  · simp
  · have : (m : ℝ) ≠ 0 := by exact_mod_cast hm.ne'
    field_simp

/-- all registers ≥ 0, so Σ 2^(-reg) ≤ m -/
theorem C05_lower_bound_any_state (α : ℝ) (hα : 0 ≤ α) (regs : List Nat) :
    α * (regs.length : ℝ) ≤ rawEstimate α regs := by
  rw [rawEstimate_eq]
  rcases regs with _ | ⟨a, l⟩
  · simp
  · have hpos := harmonic_pos (a :: l) (by simp)
    have hle := harmonic_le_length (a :: l)
    rw [le_div_iff₀ hpos, sq, ← mul_assoc]
    exact mul_le_mul_of_nonneg_left hle (mul_nonneg hα (Nat.cast_nonneg _))

theorem C05_estimate_window (α : ℝ) (hα : 0 ≤ α) (m : Nat) (hm : 65 < m) (p : Nat)
    (hs : List Nat) :
    α * (m : ℝ) ≤ rawEstimate α (run (hashIV p) m hs).regs ∧
    rawEstimate α (run (hashIV p) m hs).regs ≤ α * (m : ℝ) ^ 2 / ((m : ℝ) - 65) := by
  refine ⟨?_, C05_estimate_independent_of_n_hashes α hα m hm p hs⟩
  have := C05_lower_bound_any_state α hα (run (hashIV p) m hs).regs
  rwa [show (run (hashIV p) m hs).regs.length = m by
    show (runR (hashIV p) (List.replicate m 0) hs).length = m
    rw [C06_runR_length, List.length_replicate]] at this

/-- the estimate cannot track n: once n is twice the ceiling, the error is at least n/2 -/
theorem C05_cannot_track (α : ℝ) (hα : 0 ≤ α) (m : Nat) (hm : 65 < m) (p : Nat) (hs : List Nat)
    (n : ℝ) (hn : 2 * (α * (m : ℝ) ^ 2 / ((m : ℝ) - 65)) ≤ n) :
    n / 2 ≤ |rawEstimate α (run (hashIV p) m hs).regs - n| := by
  have h := (C05_estimate_independent_of_n_hashes α hα m hm p hs).trans
    ((le_div_iff₀' two_pos).2 hn)
  rw [abs_sub_comm]
  refine le_trans ?_ (le_abs_self _)
  rwa [le_sub_comm, sub_half]

/-- m = 2^14 registers with the code's own α; 2^32/30 is the large-range threshold -/
theorem C05_window_16384 (p : Nat) (hs : List Nat) :
    11816 < rawEstimate (alpha 16384) (run (hashIV p) 16384 hs).regs ∧
    rawEstimate (alpha 16384) (run (hashIV p) 16384 hs).regs < 11865 ∧
    rawEstimate (alpha 16384) (run (hashIV p) 16384 hs).regs < 2 ^ 32 / 30 := by
  have h := C05_estimate_window (alpha 16384) (alpha_pos _).le 16384 (by decide) p hs
  rw [alpha_of_large 16384 (by decide)] at h ⊢
  have h2 := h.2.trans_lt (show _ < (11865 : ℝ) by norm_num)
  exact ⟨lt_of_lt_of_le (by norm_num) h.1, h2, h2.trans (by norm_num)⟩

/-! ### the true half: with at least 66 registers every Update completes -/

theorem C05_update_total_of_large (s : HLL) (hm : 66 ≤ s.regs.length) (hash p : Nat) :
    s.update (indexOf hash p) (valueOf hash p)
      = .ok { s with regs := upd s.regs (indexOf hash p, valueOf hash p) } :=
  C06_update_ok s _ _ (by have := (C05_index_range hash p).2; omega)

theorem C05_update_total_of_large' (s : HLL) (hm : 66 ≤ s.regs.length) (hash p : Nat) :
    ∃ s', s.update (indexOf hash p) (valueOf hash p) = .ok s' :=
  ⟨_, C05_update_total_of_large s hm hash p⟩

/-- whole histories: on a fresh sketch of m ≥ 66 registers the partial `Update` of the code never
    aborts and computes `run` -/
theorem C05_run_total_of_large (m : Nat) (hm : 66 ≤ m) (p : Nat) (hs : List Nat) :
    runU (hashIV p) (HLL.new m) hs = .ok (run (hashIV p) m hs) :=
  C06_runU_fresh (hashIV p) m hs (fun x _ => by
    have := (C05_index_range x p).2
    show indexOf x p < m
    omega)

/-! ### the false half: small sketches panic -/

/-- `.err` is never returned by the in-memory variant -/
theorem C05_update_panic_iff (s : HLL) (idx val : Nat) :
    s.update idx val = .panic ↔ s.regs.length ≤ idx := by
  unfold update
  constructor
  · intro h; split at h
    · exact absurd h (by simp)
    · omega
  · intro h; rw [if_neg (by omega)]

theorem C05_update_fails_iff (s : HLL) (hash p : Nat) :
    s.update (indexOf hash p) (valueOf hash p) = .panic ↔ s.regs.length ≤ indexOf hash p :=
  C05_update_panic_iff s _ _

/-- m = 2^p ≤ 32 registers: the hash 1 has rank 64 - p -/
theorem C05_update_can_fail_small (p : Nat) (hp : p ≤ 5) :
    (HLL.new (2 ^ p)).update (indexOf 1 p) (valueOf 1 p) = .panic := by
  rw [C05_update_panic_iff, indexOf_one p hp]
  show (List.replicate (2 ^ p) 0).length ≤ 64 - p
  rw [List.length_replicate]
  interval_cases p <;> decide

/-- the threshold 66 of `C05_update_total_of_large` is sharp -/
theorem C05_update_can_fail_le_65 (s : HLL) (hm : s.regs.length ≤ 65) (p : Nat) :
    s.update (indexOf 0 p) (valueOf 0 p) = .panic := by
  rw [C05_update_panic_iff, indexOf_zero]; exact hm

/-! ### counterexamples: every hypothesis is needed -/

/-- without "indices in 1..65" a register above 65 can become non-zero -/
example : (([(70, 3)] : List (Nat × Nat)).foldl upd (List.replicate 80 0)).getD 70 0 = 3 := by
  decide +kernel

/-- … and the bound on the estimate fails for such states (m = 130, all registers 8) -/
example : ¬ rawEstimate 1 (List.replicate 130 8) ≤ 1 * ((130 : ℕ) : ℝ) ^ 2 / (((130 : ℕ) : ℝ) - 65) := by
  simp only [rawEstimate, List.map_replicate, List.sum_replicate, List.length_replicate]
  norm_num

/-- `0 ≤ α` is needed for the upper bound (m = 66, empty sketch, α = -1) -/
example : ¬ rawEstimate (-1) (List.replicate 66 0) ≤ (-1) * ((66 : ℕ) : ℝ) ^ 2 / (((66 : ℕ) : ℝ) - 65) := by
  rw [C05_empty_not_zero]; norm_num

/-- `0 ≤ α` is needed for the lower bound (one register holding 1, α = -1) -/
example : ¬ (-1 : ℝ) * (([1] : List Nat).length : ℝ) ≤ rawEstimate (-1) [1] := by
  simp only [rawEstimate]; norm_num

/-- `65 < m` is needed: for m = 65 the right-hand side is `α·65²/0 = 0` but the estimate is 65α -/
example : ¬ rawEstimate 1 (List.replicate 65 0) ≤ 1 * ((65 : ℕ) : ℝ) ^ 2 / (((65 : ℕ) : ℝ) - 65) := by
  rw [C05_empty_not_zero]; norm_num

/-- `p ≤ 5` is needed for the witness hash 1: at p = 6 (m = 64) it has rank 58 < 64 and succeeds
    (there the hash 0 is the failing witness, `C05_update_can_fail_le_65`) -/
example : ∃ s', (HLL.new (2 ^ 6)).update (indexOf 1 6) (valueOf 1 6) = .ok s' :=
  (C05_update_ok_iff _ _ _).mpr (by decide)

/-- `66 ≤ m` is needed for totality: 65 registers, hash 0 -/
example : (HLL.new 65).update (indexOf 0 14) (valueOf 0 14) = .panic := by decide +kernel

/-- five 64-bit hashes at precision p = 7 -/
def exHashes : List Nat :=
  [12345678901234567, 18446744073709551615, 1125901148356608, 77, 0]

example : exHashes.map (hashIV 7) = [(4, 46), (1, 255), (7, 37), (51, 0), (65, 0)] := by decide +kernel

/-- a sketch with 128 registers survives them, and only registers 1, 4, 7, 51, 65 were touched -/
example : runU (hashIV 7) (HLL.new 128) exHashes = .ok (run (hashIV 7) 128 exHashes) :=
  C05_run_total_of_large 128 (by decide) 7 exHashes

example : (run (hashIV 7) 128 exHashes).regs.getD 1 0 = 255 := by decide +kernel
example : (run (hashIV 7) 128 exHashes).regs.getD 4 0 = 46 := by decide +kernel
example : (run (hashIV 7) 128 exHashes).regs.getD 100 0 = 0 := by decide +kernel

/-- the window for m = 128 with the code's α: every stream is reported as something in (91, 187) -/
example (hs : List Nat) :
    91 < rawEstimate (alpha 128) (run (hashIV 7) 128 hs).regs ∧
    rawEstimate (alpha 128) (run (hashIV 7) 128 hs).regs < 187 := by
  have h := C05_estimate_window (alpha 128) (alpha_pos _).le 128 (by decide) 7 hs
  rw [alpha_of_large 128 (by decide)] at h ⊢
  exact ⟨lt_of_lt_of_le (by norm_num) h.1, h.2.trans_lt (by norm_num)⟩

/-- so a stream of a million distinct elements is off by at least half a million -/
example (hs : List Nat) :
    (500000 : ℝ) ≤ |rawEstimate (alpha 128) (run (hashIV 7) 128 hs).regs - 1000000| := by
  have h := C05_cannot_track (alpha 128) (alpha_pos _).le 128 (by decide) 7 hs 1000000 (by
    rw [alpha_of_large 128 (by decide)]; norm_num)
  exact le_trans (by norm_num) h

/-- the empty sketch of 16 registers reports 0.673 · 16 = 10.768 -/
example : rawEstimate (alpha 16) (List.replicate 16 0) = 10.768 := by
  rw [C05_empty_not_zero]; unfold alpha; norm_num

example : (HLL.new 16).update (indexOf 1 4) (valueOf 1 4) = .panic :=
  C05_update_can_fail_small 4 (by decide)

end Gostatix.HLL
