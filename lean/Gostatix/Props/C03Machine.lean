/-
  C03Machine — the counters are `uint64`: the machine-integer Count-Min model `CMSM`
  (Model/CMSM.lean: `UInt64` cells, wrapping `+`, `<`/min on `UInt64`, `allSum : UInt64`) REFINES the
  `Nat` model `CMS` (Model/CMS.lean) on which C03 and C12 are proved.  `absM : CMSM → CMS` is
  `toNat` on every cell (`allSum` is not part of `CMS`; it is compared with `CMSHist.ownSum`).
  The hypothesis `total < 2^64` of the image theorems of Props/C11Reach.lean is the boundary:
  below it no step overflows, the two models agree and C03/C12 transfer (the upper bound of C03
  needs no bound at all); from 2^64 on every cell is the `Nat` cell modulo 2^64, merge = union
  still holds on the matrices, and estimates can DROP (two updates of 2^63 of one element
  estimate 0), so C03's lower bound and exactness are false of the code there, while each single
  `uint64` argument is perfectly legal.

  Histories are the trees `Reach.CMSHist` of Proofs/C11Reach.lean, run by `runM`; a count
  `c : Nat` enters as `UInt64.ofNat c` (every `uint64` argument `u` of the Go `Update` is
  `UInt64.ofNat u.toNat`, see `C03_machine_uint64_history`).  List histories (`CMS.run` of
  Props/C03.lean) are run by `runLM`.  Positions are `List Nat` as in the `Nat` model.

  WHAT IS NOT PROVED
    * here: that the Go loops are the list recursions of `CMSM`; the arithmetic statements are tied
      to the source in Props/ArithTieCMSCells.lean, the loops in Props/LoopTieCMS.lean;
    * anything about the Redis variant (Lua doubles, exact below 2^53): out of scope;
    * `rows`/`cols` are `Nat` in both models (Go `uint`); out-of-range positions are no-ops in both
      models whereas the Go code would panic (`C03_position_in_range` shows they do not occur).
-/
import Gostatix.Proofs.C03Machine
import Gostatix.Props.C12
import Gostatix.Props.ArithTieCMSCells

namespace Gostatix.CMSM
open Gostatix.CMS (Res run total trueCount PosOK)
open Gostatix.Reach (CMSHist)

/-- **Update refines**, under the no-overflow condition of this one step. -/
theorem C03_machine_refines_update (s : CMSM) (pos : List Nat) (c : UInt64)
    (hno : NoOvfUpdate s pos c) :
    absM (s.updateM pos c) = (absM s).update pos c.toNat :=
  CMS.cms_ext _ _ rfl rfl (updRowsM_abs s.m pos c hno)

theorem C03_machine_refines_allSum (s : CMSM) (pos : List Nat) (c : UInt64)
    (hno : (allSumM s).toNat + c.toNat < 2 ^ 64) :
    (allSumM (s.updateM pos c)).toNat = (allSumM s).toNat + c.toNat := by
  have hno' : s.allSum.toNat + c.toNat < 2 ^ 64 := hno
  show (s.allSum + c).toNat = s.allSum.toNat + c.toNat
  rw [UInt64.toNat_add, Nat.mod_eq_of_lt hno']

/-- **Count refines**, unconditionally: the `uint64` minimum is the `Nat` minimum. -/
theorem C03_machine_refines_count (s : CMSM) (pos : List Nat) :
    (s.countM pos).toNat = (absM s).count pos :=
  countM_abs s pos

/-- **Merge refines**: `.err` on a dimension mismatch in both models, and under the no-overflow
    condition of this merge the merged sketches agree. -/
theorem C03_machine_refines_merge (a b : CMSM) (hno : NoOvfMerge a b) :
    resAbs (mergeM a b) = CMS.merge (absM a) (absM b) :=
  resAbs_mergeM a b id id (fun _ => rfl) rfl (addRowsM_abs a.m b.m hno)

/-- `Merge` does not touch `allSum` (nor the dimensions) of the receiver. -/
theorem C03_machine_merge_allSum (a b s : CMSM) (h : mergeM a b = .ok s) :
    allSumM s = allSumM a ∧ s.rows = a.rows ∧ s.cols = a.cols := by
  unfold mergeM at h
  split at h
  · cases h
  · split at h
    · cases h
    · cases h; exact ⟨rfl, rfl, rfl⟩

/-- 1×1 sketch holding 2^63, update by 2^63: the machine cell is 0, the `Nat` cell 2^64. -/
theorem C03_machine_refines_update_needs_noovf :
    ¬ (∀ (s : CMSM) (pos : List Nat) (c : UInt64),
        absM (s.updateM pos c) = (absM s).update pos c.toNat) := by
  intro H
  have := H ⟨1, 1, 0, [[9223372036854775808]]⟩ [0] 9223372036854775808
  revert this; decide +kernel

theorem C03_machine_refines_merge_needs_noovf :
    ¬ (∀ (a b : CMSM), resAbs (mergeM a b) = CMS.merge (absM a) (absM b)) := by
  intro H
  have := H ⟨1, 1, 0, [[9223372036854775808]]⟩ ⟨1, 1, 0, [[9223372036854775808]]⟩
  revert this; decide +kernel

theorem C03_machine_mod_update (s : CMSM) (pos : List Nat) (c : UInt64) :
    absM (s.updateM pos c) = modM ((absM s).update pos c.toNat) :=
  CMS.cms_ext _ _ rfl rfl (updRowsM_mod s.m pos c)

theorem C03_machine_mod_merge (a b : CMSM) :
    resAbs (mergeM a b) = resMod (CMS.merge (absM a) (absM b)) :=
  resAbs_mergeM a b modMat resMod (fun _ => rfl) rfl (addRowsM_mod a.m b.m)

/-- **No overflow**: if everything that reaches the matrix sums to less than 2^64 (`h.total`:
    own updates plus the totals of the successfully merged sketches), then every step of the
    machine run satisfies the no-overflow condition of that step. -/
theorem C03_machine_no_overflow (h : CMSHist) (hT : h.total < 2 ^ 64) : StepsOK h :=
  (runM_refines h hT).1

/-- **Refinement** along a history. -/
theorem C03_machine_refines_history (h : CMSHist) (hT : h.total < 2 ^ 64) :
    absM (runM h) = h.state :=
  (runM_refines h hT).2.1

/-- the value `C11_reachable_wf_cms_ownSum` and `C10_roundtrip_reachable_cms` assume for `allSum`. -/
theorem C03_machine_allSum_history (h : CMSHist) (hT : h.total < 2 ^ 64) :
    (allSumM (runM h)).toNat = h.ownSum :=
  (runM_refines h hT).2.2

theorem C03_machine_count_history (h : CMSHist) (hT : h.total < 2 ^ 64) (p : List Nat) :
    ((runM h).countM p).toNat = h.state.count p := by
  rw [C03_machine_refines_count, C03_machine_refines_history h hT]

/-- for EVERY history: from 2^64 on because a `uint64` is below 2^64. -/
theorem C03_machine_count_le_total (h : CMSHist) (p : List Nat) :
    ((runM h).countM p).toNat ≤ h.total := by
  by_cases hT : h.total < 2 ^ 64
  · rw [C03_machine_count_history h hT]
    exact Reach.count_le_of_bounded _ _ _ h.bounded
  · have := ((runM h).countM p).toNat_lt
    omega

/-- the bound `total < 2^64` is sharp. -/
theorem C03_machine_bound_sharp :
    let h : CMSHist := .update (.update (.new 1 1) [0] (2 ^ 63)) [0] (2 ^ 63)
    h.total = 2 ^ 64 ∧ absM (runM h) ≠ h.state ∧ ¬ StepsOK h
      ∧ (runM h).m = [[0]] ∧ h.state.m = [[2 ^ 64]] := by
  refine ⟨by decide +kernel, by decide +kernel, ?_, by decide +kernel, by decide +kernel⟩
  intro hs
  have := hs.2.2.1 (9223372036854775808 : UInt64) (by decide)
  revert this; decide +kernel

section lists
variable {E : Type}

/-- `UInt64.ofNat` in `runLM`/`runM` loses nothing on actual `uint64` arguments of `Update`. -/
theorem C03_machine_uint64_history (pos : E → List Nat) (s : CMSM) (h : List (E × UInt64)) :
    runLM pos s (h.map (fun ec => (ec.1, ec.2.toNat)))
      = h.foldl (fun s ec => s.updateM (pos ec.1) ec.2) s := by
  unfold runLM
  rw [List.foldl_map]
  simp only [UInt64.ofNat_toNat]

theorem C03_machine_refines_run (pos : E → List Nat) (t : CMSHist) (h : List (E × Nat))
    (hT : t.total + total h < 2 ^ 64) :
    absM (runLM pos (runM t) h) = run pos t.state h := by
  rw [← runM_histOf, ← histOf_state]
  exact C03_machine_refines_history _ (by rw [histOf_total]; exact hT)

theorem C03_machine_refines_run_new (pos : E → List Nat) (rows cols : Nat) (h : List (E × Nat))
    (hT : total h < 2 ^ 64) :
    absM (runLM pos (CMSM.new rows cols) h) = run pos (CMS.new rows cols) h := by
  have := C03_machine_refines_run pos (.new rows cols) h (by simpa [CMSHist.total] using hT)
  exact this

theorem C03_machine_mod_run (pos : E → List Nat) (t : CMSHist) (h : List (E × Nat)) :
    absM (runLM pos (runM t) h) = modM (run pos t.state h) := by
  rw [← runM_histOf, ← histOf_state]
  exact (runM_mod _).1

/-- **C03, lower bound, on `uint64` counters**: if the stream total is below 2^64 the machine
    estimate never under-counts. -/
theorem C03_machine_lower [DecidableEq E] (pos : E → List Nat) (rows cols : Nat)
    (h : List (E × Nat)) (x : E) (hrows : 1 ≤ rows) (hpos : PosOK pos rows cols)
    (hT : total h < 2 ^ 64) :
    trueCount h x ≤ ((runLM pos (CMSM.new rows cols) h).countM (pos x)).toNat := by
  rw [C03_machine_refines_count, C03_machine_refines_run_new pos rows cols h hT]
  exact CMS.C03_lower pos rows cols h x hrows hpos

/-- **C03, upper bound, on `uint64` counters**: NO bound on the total is needed — from 2^64 on
    because the estimate is a `uint64`. -/
theorem C03_machine_upper (pos : E → List Nat) (rows cols : Nat) (h : List (E × Nat)) (x : E)
    (hpos : PosOK pos rows cols) :
    ((runLM pos (CMSM.new rows cols) h).countM (pos x)).toNat ≤ total h := by
  by_cases hT : total h < 2 ^ 64
  · rw [C03_machine_refines_count, C03_machine_refines_run_new pos rows cols h hT]
    exact CMS.C03_upper pos rows cols h x hpos
  · have := ((runLM pos (CMSM.new rows cols) h).countM (pos x)).toNat_lt
    omega

/-- **C03, exactness for a single distinct element, on `uint64` counters**. -/
theorem C03_machine_exact_single [DecidableEq E] (pos : E → List Nat) (rows cols : Nat)
    (h : List (E × Nat)) (x : E) (hall : ∀ ec ∈ h, ec.1 = x) (hrows : 1 ≤ rows)
    (hpos : PosOK pos rows cols) (hT : total h < 2 ^ 64) :
    ((runLM pos (CMSM.new rows cols) h).countM (pos x)).toNat = total h := by
  rw [C03_machine_refines_count, C03_machine_refines_run_new pos rows cols h hT]
  exact CMS.C03_exact_single pos rows cols h x hall hrows hpos

theorem total_append (a b : List (E × Nat)) : total (a ++ b) = total a + total b := by
  simp [total, sumL_append]

theorem mergeTree_facts (pos : E → List Nat) (rows cols : Nat) (a b : List (E × Nat))
    (hpos : PosOK pos rows cols) :
    let T : CMSHist := .merge (histOf pos (.new rows cols) a) (histOf pos (.new rows cols) b)
    mergeM (runLM pos (CMSM.new rows cols) a) (runLM pos (CMSM.new rows cols) b) = .ok (runM T)
      ∧ T.state = run pos (CMS.new rows cols) (a ++ b)
      ∧ T.total = total a + total b := by
  intro T
  have a1 := histOf_state pos (.new rows cols) a
  have b1 := histOf_state pos (.new rows cols) b
  have a2 := runM_histOf pos (.new rows cols) a
  have b2 := runM_histOf pos (.new rows cols) b
  have a3 := histOf_total pos (.new rows cols) a
  have b3 := histOf_total pos (.new rows cols) b
  obtain ⟨a5, a6⟩ := histOf_dims pos (.new rows cols) a
  obtain ⟨b5, b6⟩ := histOf_dims pos (.new rows cols) b
  have hd : (histOf pos (.new rows cols) a).rows = (histOf pos (.new rows cols) b).rows
      ∧ (histOf pos (.new rows cols) a).cols = (histOf pos (.new rows cols) b).cols := by
    rw [a5, a6, b5, b6]; exact ⟨rfl, rfl⟩
  have a2' : runM (histOf pos (.new rows cols) a) = runLM pos (CMSM.new rows cols) a := a2
  have b2' : runM (histOf pos (.new rows cols) b) = runLM pos (CMSM.new rows cols) b := b2
  refine ⟨?_, ?_, ?_⟩
  · rw [show runM T = _ from runM_merge _ _, if_pos hd, ← a2', ← b2']
    exact mergeM_ok _ _
      (by rw [(runM_dims _).1, (runM_dims (histOf pos (.new rows cols) b)).1, hd.1])
      (by rw [(runM_dims _).2, (runM_dims (histOf pos (.new rows cols) b)).2, hd.2])
  · show (match CMS.merge (histOf pos (.new rows cols) a).state
        (histOf pos (.new rows cols) b).state with | .ok s => s | .err => _) = _
    rw [a1, b1]
    show (match CMS.merge (run pos (CMS.new rows cols) a) (run pos (CMS.new rows cols) b) with
      | .ok s => s | .err => _) = _
    rw [CMS.C12_merge_union pos rows cols a b hpos]
  · rw [total_merge_ok hd, a3, b3]; simp [CMSHist.total]

/-- **C12, merge = union, on `uint64` counters**: if the two stream totals together stay below
    2^64, `Merge` succeeds and the merged machine sketch abstracts to the `Nat` sketch of the
    combined stream; its matrix is literally the matrix of the machine sketch of that stream. -/
theorem C12_machine_merge_union (pos : E → List Nat) (rows cols : Nat) (a b : List (E × Nat))
    (hpos : PosOK pos rows cols) (hT : total a + total b < 2 ^ 64) :
    ∃ s, mergeM (runLM pos (CMSM.new rows cols) a) (runLM pos (CMSM.new rows cols) b) = .ok s
      ∧ absM s = run pos (CMS.new rows cols) (a ++ b)
      ∧ s.m = (runLM pos (CMSM.new rows cols) (a ++ b)).m := by
  obtain ⟨f1, f2, f3⟩ := mergeTree_facts pos rows cols a b hpos
  have hr := C03_machine_refines_history _ (by rw [f3]; exact hT)
  rw [f2] at hr
  refine ⟨_, f1, hr, ?_⟩
  apply absMat_inj
  have hab := C03_machine_refines_run_new pos rows cols (a ++ b) (by rw [total_append]; exact hT)
  exact (congrArg CMS.m hr).trans (congrArg CMS.m hab).symm

/-- the merged machine estimate obeys the C03 bounds w.r.t. the combined stream. -/
theorem C12_machine_merged_bounds [DecidableEq E] (pos : E → List Nat) (rows cols : Nat)
    (a b : List (E × Nat)) (x : E) (hrows : 1 ≤ rows) (hpos : PosOK pos rows cols)
    (hT : total a + total b < 2 ^ 64) :
    ∃ s, mergeM (runLM pos (CMSM.new rows cols) a) (runLM pos (CMSM.new rows cols) b) = .ok s
      ∧ trueCount a x + trueCount b x ≤ (s.countM (pos x)).toNat
      ∧ (s.countM (pos x)).toNat ≤ total a + total b := by
  obtain ⟨s, h1, h2, _⟩ := C12_machine_merge_union pos rows cols a b hpos hT
  obtain ⟨s', h1', lo, hi⟩ := CMS.C12_merged_bounds pos rows cols a b x hrows hpos
  rw [CMS.C12_merge_union pos rows cols a b hpos] at h1'
  cases h1'
  refine ⟨s, h1, ?_, ?_⟩
  · rw [C03_machine_refines_count, h2]; exact lo
  · rw [C03_machine_refines_count, h2]; exact hi

/-- **merge = union for ANY totals** (matrices): wrapping addition is still commutative and
    associative, so the merged machine matrix is that of the combined stream even when cells wrap. -/
theorem C12_machine_merge_union_mod (pos : E → List Nat) (rows cols : Nat) (a b : List (E × Nat))
    (hpos : PosOK pos rows cols) :
    ∃ s, mergeM (runLM pos (CMSM.new rows cols) a) (runLM pos (CMSM.new rows cols) b) = .ok s
      ∧ s.m = (runLM pos (CMSM.new rows cols) (a ++ b)).m := by
  obtain ⟨f1, f2, _⟩ := mergeTree_facts pos rows cols a b hpos
  have hr := (runM_mod (.merge (histOf pos (.new rows cols) a) (histOf pos (.new rows cols) b))).1
  rw [f2] at hr
  refine ⟨_, f1, ?_⟩
  apply absMat_inj
  have hab := C03_machine_mod_run pos (.new rows cols) (a ++ b)
  exact (congrArg CMS.m hr).trans (congrArg CMS.m hab).symm

end lists

/-- `Merge` does not merge `allSum`: the merged sketch and the sketch of the combined stream
    differ in that field (already below the bound). -/
theorem C12_machine_merge_allSum_differs :
    let pos : Unit → List Nat := fun _ => [0]
    ∃ s, mergeM (runLM pos (CMSM.new 1 1) [((), 1)]) (runLM pos (CMSM.new 1 1) [((), 2)]) = .ok s
      ∧ s.m = (runLM pos (CMSM.new 1 1) [((), 1), ((), 2)]).m
      ∧ allSumM s = 1 ∧ allSumM (runLM pos (CMSM.new 1 1) [((), 1), ((), 2)]) = 3 :=
  ⟨_, rfl, by decide +kernel, by decide +kernel, by decide +kernel⟩

/-- **the machine model under-counts once the total reaches 2^64**: two legal updates of 2^63 of
    the same element (a 1×1 sketch; the same happens in any sketch) give the estimate 0. -/
theorem C03_machine_wraps :
    let pos : Unit → List Nat := fun _ => [0]
    let h : List (Unit × Nat) := [((), 2 ^ 63), ((), 2 ^ 63)]
    (∀ ec ∈ h, ec.2 < 2 ^ 64) ∧ total h = 2 ^ 64 ∧ trueCount h () = 2 ^ 64
      ∧ (run pos (CMS.new 1 1) h).count (pos ()) = 2 ^ 64
      ∧ (runLM pos (CMSM.new 1 1) h).countM (pos ()) = 0
      ∧ allSumM (runLM pos (CMSM.new 1 1) h) = 0 := by
  refine ⟨by decide +kernel, by decide +kernel, by decide +kernel, by decide +kernel, by decide +kernel, by decide +kernel⟩

/-- the hypothesis `total h < 2^64` of `C03_machine_lower` (and of `C03_machine_exact_single`)
    cannot even be weakened to `total h ≤ 2^64`, although every single count is a `uint64`. -/
theorem C03_machine_lower_needs_bound :
    ¬ (∀ (pos : Unit → List Nat) (rows cols : Nat) (h : List (Unit × Nat)) (x : Unit),
        1 ≤ rows → PosOK pos rows cols → (∀ ec ∈ h, ec.2 < 2 ^ 64) → total h ≤ 2 ^ 64 →
        trueCount h x ≤ ((runLM pos (CMSM.new rows cols) h).countM (pos x)).toNat) := by
  intro H
  have := H (fun _ => [0]) 1 1 [((), 2 ^ 63), ((), 2 ^ 63)] () (Nat.le_refl _)
    (by intro e; simp) (by decide) (by decide)
  revert this; decide +kernel

/-- the same through `Merge`: two sketches that each hold 2^63 of one element (each far from
    overflowing) merge into a sketch that estimates 0. -/
theorem C12_machine_wraps :
    let pos : Unit → List Nat := fun _ => [0]
    let a : List (Unit × Nat) := [((), 2 ^ 63)]
    total a < 2 ^ 64 ∧ trueCount (a ++ a) () = 2 ^ 64
      ∧ ∃ s, mergeM (runLM pos (CMSM.new 1 1) a) (runLM pos (CMSM.new 1 1) a) = .ok s
          ∧ s.countM (pos ()) = 0 :=
  ⟨by decide +kernel, by decide +kernel, _, rfl, by decide +kernel⟩

/-- **what holds for every history, whatever the totals**. -/
theorem C03_machine_mod (h : CMSHist) :
    absM (runM h) = modM h.state ∧ (allSumM (runM h)).toNat = h.ownSum % 2 ^ 64 :=
  runM_mod h

theorem C03_machine_mod_cell (h : CMSHist) (r c : Nat) :
    (cellM (runM h).m r c).toNat = CMS.cell h.state.m r c % 2 ^ 64 := by
  rw [← cell_absMat, ← cell_modMat]
  exact congrArg (fun s : CMS => CMS.cell s.m r c) (runM_mod h).1

/-- NOT the reduced minimum: the reduction does not preserve the order. -/
theorem C03_machine_mod_count (h : CMSHist) (p : List Nat) :
    ((runM h).countM p).toNat = CMS.minInit ((CMS.cells h.state.m p).map (· % 2 ^ 64)) := by
  rw [C03_machine_refines_count, (runM_mod h).1]
  show CMS.minInit (CMS.cells (modMat h.state.m) p) = _
  rw [cells_modMat]

section modlists
variable {E : Type}

/-- **estimate = true count modulo 2^64** when `x` collides with no other element in any row
    (`hfree`); any totals. -/
theorem C03_machine_mod_collision_free [DecidableEq E] (pos : E → List Nat) (rows cols : Nat)
    (h : List (E × Nat)) (x : E) (hrows : 1 ≤ rows) (hpos : PosOK pos rows cols)
    (hfree : ∀ r, r < rows → CMS.weight pos h r ((pos x).getD r 0) = trueCount h x) :
    ((runLM pos (CMSM.new rows cols) h).countM (pos x)).toNat = trueCount h x % 2 ^ 64 := by
  have hm := C03_machine_mod_run pos (.new rows cols) h
  rw [C03_machine_refines_count]
  have hm' : absM (runLM pos (CMSM.new rows cols) h) = modM (run pos (CMS.new rows cols) h) := hm
  rw [hm']
  show CMS.minInit (CMS.cells (modMat (run pos (CMS.new rows cols) h).m) (pos x)) = _
  rw [cells_modMat]
  have hs := CMS.foldl_update_shape pos rows cols (CMS.new rows cols) (CMS.new_shape rows cols) h
  have hall : ∀ v ∈ CMS.cells (run pos (CMS.new rows cols) h).m (pos x), v = trueCount h x := by
    intro v hv
    obtain ⟨r, h1, _, rfl⟩ := (CMS.mem_cells _ _ v).mp hv
    have hr : r < rows := by
      have : (run pos (CMS.new rows cols) h).m.length = rows := hs.1
      omega
    have := CMS.foldl_update_cell pos rows cols hpos (CMS.new rows cols)
      (CMS.new_shape rows cols) h r ((pos x).getD r 0) hr
    rw [CMS.new_cell, Nat.zero_add, hfree r hr] at this
    exact this
  have hne : CMS.cells (run pos (CMS.new rows cols) h).m (pos x) ≠ [] :=
    CMS.cells_ne_nil _ _ (by rw [show (run pos (CMS.new rows cols) h).m.length = rows from hs.1]; exact hrows)
      (by rw [(hpos x).1]; exact hrows)
  have hmem := CMS.minInit_mem ((CMS.cells (run pos (CMS.new rows cols) h).m (pos x)).map
    (· % 2 ^ 64)) (by simpa using hne)
  obtain ⟨v, hv, e⟩ := List.mem_map.1 hmem
  rw [← e, hall v hv]

theorem C03_machine_mod_single [DecidableEq E] (pos : E → List Nat) (rows cols : Nat)
    (h : List (E × Nat)) (x : E) (hall : ∀ ec ∈ h, ec.1 = x) (hrows : 1 ≤ rows)
    (hpos : PosOK pos rows cols) :
    ((runLM pos (CMSM.new rows cols) h).countM (pos x)).toNat = total h % 2 ^ 64 := by
  have ht : trueCount h x = total h := CMS.trueCount_eq_total_of_all h x hall
  rw [← ht]
  apply C03_machine_mod_collision_free pos rows cols h x hrows hpos
  intro r _
  rw [ht]
  unfold CMS.weight total
  have : h.filter (fun ec => (pos ec.1).getD r 0 = (pos x).getD r 0) = h := by
    apply List.filter_eq_self.mpr
    intro ec hec; simp [hall ec hec]
  rw [this]

end modlists

/-- the 3×4 example of Props/C03.lean on `uint64` counters. -/
example :
    let h := [(1, 2), (5, 4), (9, 1), (1, 3), (2, 1), (5, 2), (13, 6)]
    let s := runLM CMS.exPos (CMSM.new 3 4) h
    absM s = run CMS.exPos (CMS.new 3 4) h ∧ s.countM (CMS.exPos 1) = 5
      ∧ s.countM (CMS.exPos 13) = 7 ∧ allSumM s = 19 ∧ total h = 19
      ∧ s.m ≠ (CMSM.new 3 4).m := by decide +kernel

example :
    let a := [(1, 2), (5, 4), (9, 1)]
    let b := [(1, 3), (2, 1), (5, 2), (13, 6)]
    ∃ s, mergeM (runLM CMS.exPos (CMSM.new 3 4) a) (runLM CMS.exPos (CMSM.new 3 4) b) = .ok s
      ∧ s.m = (runLM CMS.exPos (CMSM.new 3 4) (a ++ b)).m ∧ s.countM (CMS.exPos 13) = 7
      ∧ mergeM (runLM CMS.exPos (CMSM.new 3 4) a) (CMSM.new 3 5) = .err :=
  ⟨_, rfl, by decide +kernel, by decide +kernel, by decide +kernel⟩

/-- a tree with a merge; and a wrapped history (total 2^64 + 5). -/
example :
    let h : CMSHist := .merge (.update (.update (.new 2 3) [0, 1] 5) [1, 0] 7)
      (.update (.new 2 3) [2, 0] 4)
    h.total = 16 ∧ (runM h).m = [[5, 7, 4], [11, 5, 0]] ∧ allSumM (runM h) = 12
      ∧ absM (runM h) = h.state := by decide +kernel

example :
    let h : CMSHist := .update (.update (.update (.new 1 1) [0] (2 ^ 63)) [0] (2 ^ 63)) [0] 5
    h.total = 2 ^ 64 + 5 ∧ (runM h).countM [0] = 5 ∧ h.state.count [0] = 2 ^ 64 + 5 := by decide +kernel

/-! ## Top-K

  The sketch inside `TopK` (top_k.go: `sketch *CountMinSketch`) IS a `CountMinSketch`;
  `TopK.Insert(x, c)` calls `sketch.Update(x, c)` and offers `sketch.Count(x)` to the heap.  So
  while the inserted counts sum to less than 2^64 (`hno` of `C11_reachable_wf_topk`) the C04
  theorems (Props/C04*.lean, stated on the `Nat` model) hold of the code.  From 2^64 on they do
  NOT: `CMS.count_update_ge` (the monotonicity part of `EstOK`, Model/TopKSpec.lean) fails when a
  cell wraps, and a wrapped element would be offered with a frequency below that of elements it
  dominates.  The Redis Top-K (Lua doubles) is out of scope.
-/

section topk
open Gostatix.Reach (TKOp tkRun tkInit tkTotal tkStep)

def tkHist (ops : List TKOp) : List (TKOp × Nat) := ops.map (fun o => (o, o.2.2))

theorem tkRun_sketch (t : TopK) (ops : List TKOp) :
    (tkRun t ops).sketch = run (fun o : TKOp => o.2.1) t.sketch (tkHist ops) := by
  induction ops generalizing t with
  | nil => rfl
  | cons o ops ih =>
    simp only [tkRun, List.foldl_cons, tkHist, List.map_cons, run] at ih ⊢
    rw [ih]; rfl

/-- **the sketch inside Top-K**: while the inserted counts sum to less than 2^64, the `uint64`
    sketch abstracts to the sketch of the Top-K model, so every frequency offered to the heap is
    the `Nat` estimate. -/
theorem C04_machine_sketch (k rows cols : Nat) (ops : List TKOp) (hT : tkTotal ops < 2 ^ 64) :
    absM (runLM (fun o : TKOp => o.2.1) (CMSM.new rows cols) (tkHist ops))
        = (tkRun (tkInit k rows cols) ops).sketch
    ∧ ∀ p, ((runLM (fun o : TKOp => o.2.1) (CMSM.new rows cols) (tkHist ops)).countM p).toNat
        = (tkRun (tkInit k rows cols) ops).sketch.count p := by
  have ht : total (tkHist ops) = tkTotal ops := by
    simp [total, tkHist, tkTotal, List.map_map, Function.comp_def]
  have h1 := C03_machine_refines_run_new (fun o : TKOp => o.2.1) rows cols (tkHist ops)
    (by rw [ht]; exact hT)
  rw [tkRun_sketch]
  refine ⟨h1, fun p => ?_⟩
  rw [C03_machine_refines_count, h1]; rfl

/-- on `uint64` counters an update can LOWER an estimate (from 2^63 to 0). -/
theorem C04_machine_estimate_drops :
    let s := (CMSM.new 1 1).updateM [0] 9223372036854775808
    (s.updateM [0] 9223372036854775808).countM [0] < s.countM [0] := by decide +kernel

end topk

end Gostatix.CMSM
