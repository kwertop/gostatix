/-
  C12 — merging Count-Min sketches = sketching the combined stream.

  Same setting as C03: arbitrary well-formed position function, histories of `(element, count)`
  updates.  The model is functional: `CMS.merge a b` returns the new receiver (`.ok`) or `.err`;
  in the `.err` case nothing is produced, i.e. the receiver `a` is simply still `a`.
-/
import Gostatix.Props.C03
namespace Gostatix.CMS

/-- sequencing of `Merge` results (an error aborts). -/
def Res.bind {α β : Type} : Res α → (α → Res β) → Res β
  | .ok a, f => f a
  | .err, _ => .err

section props
variable {E : Type}

/-- from any two well-formed states of equal dimensions. -/
theorem C12_merge_union_general (pos : E → List Nat) (s₁ s₂ : CMS) (a b : List (E × Nat))
    (h₁ : WF s₁) (h₂ : WF s₂) (hr : s₁.rows = s₂.rows) (hc : s₁.cols = s₂.cols)
    (hpos : PosOK pos s₁.rows s₁.cols) :
    CMS.merge (run pos s₁ a) (run pos s₂ b) = (CMS.merge s₁ s₂).bind
      (fun s => .ok (run pos s (a ++ b))) := by
  have da := C03_run_dims pos s₁ a
  have db := C03_run_dims pos s₂ b
  have h₂' : Shape s₂.m s₁.rows s₁.cols := by rw [hr, hc]; exact h₂.shape
  have hm := addRows_foldl pos s₁.rows s₁.cols hpos s₁ s₂ h₁.shape h₂' a b
  have dab := C03_run_dims pos { s₁ with m := addRows s₁.m s₂.m } (a ++ b)
  rw [merge_ok s₁ s₂ hr hc, merge_ok _ _ (by rw [da.1, db.1, hr]) (by rw [da.2, db.2, hc])]
  show Res.ok _ = Res.ok _
  congr 1
  exact cms_ext _ _ (by rw [dab.1]; exact da.1) (by rw [dab.2]; exact da.2) hm

/-- **Merge = union of streams**: merging the sketches of `a` and `b` (same dimensions, same
    position function) gives exactly the sketch of `a ++ b`. -/
theorem C12_merge_union (pos : E → List Nat) (rows cols : Nat) (a b : List (E × Nat))
    (hpos : PosOK pos rows cols) :
    CMS.merge (run pos (CMS.new rows cols) a) (run pos (CMS.new rows cols) b)
      = .ok (run pos (CMS.new rows cols) (a ++ b)) := by
  rw [C12_merge_union_general pos _ _ a b (new_shape rows cols) (new_shape rows cols) rfl rfl hpos,
    merge_ok _ _ rfl rfl]
  show Res.ok (run pos { CMS.new rows cols with m := addRows _ _ } (a ++ b)) = _
  rw [addRows_new]

/-- `Merge` is commutative on well-formed sketches (as whole results, including the error case). -/
theorem C12_merge_comm (a b : CMS) (ha : WF a) (hb : WF b) : CMS.merge a b = CMS.merge b a := by
  rw [merge_eq a b, merge_eq b a]
  by_cases h : a.rows = b.rows ∧ a.cols = b.cols
  · rw [if_pos h, if_pos ⟨h.1.symm, h.2.symm⟩]
    exact congrArg Res.ok
      (cms_ext _ _ h.1 h.2 (addRows_comm a.m b.m a.rows a.cols ha.shape (h.1 ▸ h.2 ▸ hb.shape)))
  · rw [if_neg h, if_neg fun h' => h ⟨h'.1.symm, h'.2.symm⟩]

theorem C12_merge_comm_m (a b : CMS) (ha : WF a) (hb : WF b)
    (hr : a.rows = b.rows) (hc : a.cols = b.cols) :
    ∃ x y, CMS.merge a b = .ok x ∧ CMS.merge b a = .ok y ∧ x.m = y.m := by
  have h := C12_merge_comm a b ha hb
  refine ⟨_, _, merge_ok a b hr hc, ?_, rfl⟩
  rw [← h]; exact merge_ok a b hr hc

theorem C12_merge_wf (a b s : CMS) (ha : WF a) (hb : WF b) (h : CMS.merge a b = .ok s) : WF s := by
  rw [merge_eq] at h
  split at h
  · next hd =>
    cases h
    exact addRows_shape a.m b.m a.rows a.cols ha.shape (hd.1 ▸ hd.2 ▸ hb.shape)
  · cases h

/-- `Merge` is associative on well-formed sketches (the same error when the dimensions differ). -/
theorem C12_merge_assoc (a b c : CMS) (ha : WF a) (hb : WF b) (hc : WF c) :
    (CMS.merge a b).bind (fun ab => CMS.merge ab c)
      = (CMS.merge b c).bind (fun bc => CMS.merge a bc) := by
  rw [merge_eq a b, merge_eq b c]
  by_cases h₁ : a.rows = b.rows ∧ a.cols = b.cols <;>
    by_cases h₂ : b.rows = c.rows ∧ b.cols = c.cols
  · rw [if_pos h₁, if_pos h₂]
    show CMS.merge _ c = CMS.merge a _
    rw [merge_eq, merge_eq, if_pos ⟨h₁.1.trans h₂.1, h₁.2.trans h₂.2⟩, if_pos h₁]
    exact congrArg Res.ok (cms_ext _ _ rfl rfl (addRows_assoc a.m b.m c.m a.rows a.cols ha.shape
      (h₁.1 ▸ h₁.2 ▸ hb.shape) (h₁.1 ▸ h₁.2 ▸ h₂.1 ▸ h₂.2 ▸ hc.shape)))
  · rw [if_pos h₁, if_neg h₂]
    show CMS.merge _ c = Res.err
    rw [merge_eq, if_neg fun h => h₂ ⟨h₁.1.symm.trans h.1, h₁.2.symm.trans h.2⟩]
  · rw [if_neg h₁, if_pos h₂]
    show Res.err = CMS.merge a _
    rw [merge_eq, if_neg h₁]
  · rw [if_neg h₁, if_neg h₂]
    rfl

theorem C12_merge_assoc_comm (a b c : CMS) (ha : WF a) (hb : WF b) (hc : WF c) :
    (CMS.merge a b).bind (fun ab => CMS.merge ab c)
      = (CMS.merge c b).bind (fun cb => CMS.merge cb a) := by
  rw [C12_merge_assoc a b c ha hb hc, C12_merge_comm b c hb hc]
  cases h : CMS.merge c b with
  | err => rfl
  | ok cb => exact C12_merge_comm a cb ha (C12_merge_wf c b cb hc hb h)

/-- merging and then continuing to update = sketching the whole stream. -/
theorem C12_merge_then_update (pos : E → List Nat) (rows cols : Nat) (a b c : List (E × Nat))
    (hpos : PosOK pos rows cols) :
    (CMS.merge (run pos (CMS.new rows cols) a) (run pos (CMS.new rows cols) b)).bind
        (fun s => .ok (run pos s c))
      = .ok (run pos (CMS.new rows cols) (a ++ b ++ c)) := by
  rw [C12_merge_union pos rows cols a b hpos]
  show Res.ok _ = Res.ok _
  congr 1
  simp only [run, List.foldl_append]

/-- every estimate on the merged sketch equals the estimate on the single sketch of the combined
    stream. -/
theorem C12_counts_after_merge (pos : E → List Nat) (rows cols : Nat) (a b : List (E × Nat))
    (hpos : PosOK pos rows cols) :
    ∃ s, CMS.merge (run pos (CMS.new rows cols) a) (run pos (CMS.new rows cols) b) = .ok s
      ∧ ∀ x, s.count (pos x) = (run pos (CMS.new rows cols) (a ++ b)).count (pos x) :=
  ⟨_, C12_merge_union pos rows cols a b hpos, fun _ => rfl⟩

/-- the merged estimate obeys the C03 bounds w.r.t. the combined stream. -/
theorem C12_merged_bounds [DecidableEq E] (pos : E → List Nat) (rows cols : Nat)
    (a b : List (E × Nat)) (x : E) (hrows : 1 ≤ rows) (hpos : PosOK pos rows cols) :
    ∃ s, CMS.merge (run pos (CMS.new rows cols) a) (run pos (CMS.new rows cols) b) = .ok s
      ∧ trueCount a x + trueCount b x ≤ s.count (pos x)
      ∧ s.count (pos x) ≤ total a + total b := by
  refine ⟨_, C12_merge_union pos rows cols a b hpos, ?_, ?_⟩
  · have := C03_lower pos rows cols (a ++ b) x hrows hpos
    simpa [trueCount, List.filter_append, sumL_append] using this
  · have := C03_upper pos rows cols (a ++ b) x hpos
    simpa [total, sumL_append] using this

/-- dimension mismatch is an error (the receiver is not modified). -/
theorem C12_mismatch (a b : CMS) (h : a.rows ≠ b.rows ∨ a.cols ≠ b.cols) :
    CMS.merge a b = .err :=
  merge_err a b h

theorem C12_match_ok (a b : CMS) (hr : a.rows = b.rows) (hc : a.cols = b.cols) :
    CMS.merge a b = .ok { a with m := addRows a.m b.m } :=
  merge_ok a b hr hc

end props

example :
    let a := [(1, 2), (5, 4), (9, 1)]
    let b := [(1, 3), (2, 1), (5, 2), (13, 6)]
    let sa := run exPos (CMS.new 3 4) a
    let sb := run exPos (CMS.new 3 4) b
    CMS.merge sa sb = .ok (run exPos (CMS.new 3 4) (a ++ b))
    ∧ CMS.merge sa sb = CMS.merge sb sa
    ∧ sa ≠ sb ∧ sa.m ≠ (CMS.new 3 4).m
    ∧ (CMS.merge sa sb).bind (fun s => .ok (s.count (exPos 13))) = .ok 7
    ∧ CMS.merge sa (CMS.new 3 5) = .err ∧ CMS.merge sa (CMS.new 2 4) = .err := by decide +kernel

end Gostatix.CMS
