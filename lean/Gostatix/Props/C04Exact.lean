/-
  C04Exact — the EXACTNESS clause of C04 (Top-K) end to end, from collision-freeness of the
  position function.

  `C04_exact_without_collisions` (Props/C04.lean) has the hypothesis `Exact evs` on the event list.
  Here it is discharged from the Count-Min sketch, by a condition on the position function and
  the insertion history alone: `NoCollision` (every inserted element has a row in which it
  shares its cell with no other inserted element) or the weaker, order-aware `PrefixFree`, which
  for positive counts is exactly the condition.  `1 ≤ rows` is not a hypothesis: `NoCollision`
  with a non-empty history implies it.

  THE RANGE `k ≥ 1`
  All Top-K theorems hold in the MODEL for every `k`, also 0.  The in-memory CODE has no run at
  `k = 0`: top_k.go evaluates `uint(len(t.heap)) < t.k || frequency >= t.heap[0].frequency`; then
  the first disjunct is false and `t.heap[0]` on the empty slice PANICS at the very first
  `Insert`.  The model reads `heap.getD 0 ("", 0)`, the guard is true, the entry is pushed and
  popped again, and the heap stays empty (`C04_k_zero_model_differs`, `C04_k_zero_run`).
  Convention: the general theorems (`C04_end_to_end_mem*` of C04E2E, the `_of_prefixFree` forms
  here) are stated for every `k`, as facts about the model; `C04_end_to_end_exact_mem` and
  `C04_end_to_end_exact_mem_values` carry the hypothesis `1 ≤ k` to mark the range in which they
  speak about the code (their proofs do not use it).  top_k_redis.go guards with
  `len(minElement) > 0 && …`, does not panic at `k = 0` and leaves the sorted set empty, as
  `offerRedis` does, so the Redis theorem has no such hypothesis.
  Likewise `Insert(x, 0)` panics in BOTH Go variants; the model accepts a count of 0 and the
  theorems hold for it, but only histories with all counts ≥ 1 are runs of the code.

  NOT PROVED: that the concrete `getPositions` satisfies `NoCollision` for a given history (it is
  a hypothesis, checkable by `decide` for concrete data); anything about uint64 overflow (the
  statements hold for the code while `CMS.total h < 2^64`).
-/
import Gostatix.Props.C04E2E
import Gostatix.Proofs.C04Exact
namespace Gostatix.TopK

/-- every inserted element has a row in which it shares its cell with no other inserted element -/
def NoCollision (pos : String → List Nat) (rows : Nat) (h : List (String × Nat)) : Prop :=
  ∀ x ∈ h.map (·.1), ∃ r, r < rows ∧
    ∀ y ∈ h.map (·.1), y ≠ x → (pos y).getD r 0 ≠ (pos x).getD r 0

/-- order-aware form: insert `i` has a row in which its element shares its cell with no other
    element inserted up to and including `i` -/
def PrefixFree (pos : String → List Nat) (rows : Nat) (h : List (String × Nat)) : Prop :=
  ∀ i (hi : i < h.length), ∃ r, r < rows ∧
    ∀ ec ∈ h.take (i + 1), ec.1 ≠ h[i].1 → (pos ec.1).getD r 0 ≠ (pos h[i].1).getD r 0

instance (pos : String → List Nat) (rows : Nat) (h : List (String × Nat)) :
    Decidable (NoCollision pos rows h) := by
  unfold NoCollision; infer_instance

instance (pos : String → List Nat) (rows : Nat) (h : List (String × Nat)) :
    Decidable (PrefixFree pos rows h) := by
  unfold PrefixFree; infer_instance

theorem C04_noCollision_prefixFree {pos : String → List Nat} {rows : Nat}
    {h : List (String × Nat)} (hnc : NoCollision pos rows h) : PrefixFree pos rows h := by
  intro i hi
  obtain ⟨r, hr, hf⟩ := hnc h[i].1 (List.mem_map.2 ⟨h[i], List.getElem_mem hi, rfl⟩)
  refine ⟨r, hr, fun ec hec hne => hf ec.1 ?_ hne⟩
  exact List.mem_map.2 ⟨ec, List.mem_of_mem_take hec, rfl⟩

/-- `NoCollision` on a non-empty history forces at least one row (so `1 ≤ rows` is not a
    hypothesis of the theorems below) -/
theorem C04_noCollision_rows_pos {pos : String → List Nat} {rows : Nat}
    {h : List (String × Nat)} (hnc : NoCollision pos rows h) (hne : h ≠ []) : 1 ≤ rows := by
  cases h with
  | nil => exact absurd rfl hne
  | cons o h =>
    obtain ⟨r, hr, _⟩ := hnc o.1 (by simp)
    omega

/-- From the fresh `rows × cols` sketch: if some row `r < rows` keeps the cell of `x` apart from
    the cells of all OTHER elements of the history, `Count(x)` is the true count of `x`
    (any element type; `x` itself need not occur in `h`). -/
theorem C04_count_exact_of_free_row {E : Type} [DecidableEq E] (pos : E → List Nat)
    (rows cols : Nat) (hpos : CMS.PosOK pos rows cols) (h : List (E × Nat)) (x : E) (r : Nat)
    (hr : r < rows)
    (hfree : ∀ ec ∈ h, ec.1 ≠ x → (pos ec.1).getD r 0 ≠ (pos x).getD r 0) :
    (CMS.run pos (CMS.new rows cols) h).count (pos x) = CMS.trueCount h x :=
  CMS.count_exact_of_free_row pos rows cols hpos h x r hr hfree

theorem C04_exact_of_prefixFree {pos : String → List Nat} {rows cols : Nat}
    (hpos : CMS.PosOK pos rows cols) {h : List (String × Nat)} (hpf : PrefixFree pos rows h) :
    Exact (sketchEvents pos (CMS.new rows cols) h) := by
  intro i hi
  have hi' : i < h.length := by rwa [sketchEvents_length] at hi
  rw [sketchEvents_getElem pos _ h i hi', sketchEvents_take, sketchEvents_trueTotal]
  obtain ⟨r, hr, hf⟩ := hpf i hi'
  exact CMS.count_exact_of_free_row pos rows cols hpos _ _ r hr hf

/-- **every recorded estimate equals the true running total** under `NoCollision`: the
    hypothesis `Exact` of `C04_exact_without_collisions`, from the position function alone. -/
theorem C04_exact_of_noCollision {pos : String → List Nat} {rows cols : Nat}
    (hpos : CMS.PosOK pos rows cols) {h : List (String × Nat)} (hnc : NoCollision pos rows h) :
    Exact (sketchEvents pos (CMS.new rows cols) h) :=
  C04_exact_of_prefixFree hpos (C04_noCollision_prefixFree hnc)

/-- **`PrefixFree` is exactly the condition** when all counts are positive (which both Go
    `Insert`s enforce by panicking on a count of 0): the events of the run are exact IFF every
    insert finds a row free of the other elements inserted so far. -/
theorem C04_exact_iff_prefixFree {pos : String → List Nat} {rows cols : Nat}
    (hpos : CMS.PosOK pos rows cols) {h : List (String × Nat)} (hc : ∀ o ∈ h, 1 ≤ o.2) :
    Exact (sketchEvents pos (CMS.new rows cols) h) ↔ PrefixFree pos rows h :=
  ⟨sketchEvents_free_of_exact pos rows cols hpos h hc, C04_exact_of_prefixFree hpos⟩

/-- positive counts are needed for the direction `Exact → PrefixFree`: a colliding element
    inserted with count 0 disturbs nobody ("a" and "dddd" share both cells under `exPosS`). -/
theorem C04_exact_iff_needs_countsPos :
    Exact (sketchEvents exPosS (CMS.new 2 3) [("dddd", 0), ("a", 1)]) ∧
    ¬ PrefixFree exPosS 2 [("dddd", 0), ("a", 1)] := by
  decide +kernel

/-- What C04 guarantees about the list `heap` of reported entries when every estimate is exact:
    the reported set is an exact top `k` of the history `h`, up to ties at the boundary.
    `C04_exact_reach_sketch`, the `_of_prefixFree` theorems and `C04_end_to_end_exact_mem` return
    it; `C04_end_to_end_exact_redis` and `C04_end_to_end_exact_mem_values` spell the clauses out in
    their statements and are proved by projecting its fields. -/
structure ReportsExact (h : List (String × Nat)) (k : Nat) (heap : List HElem) : Prop where
  nodup : (heap.map (·.1)).Nodup
  size : heap.length = min k (distinct (h.map (·.1))).length
  exact : ∀ p ∈ heap, p.1 ∈ h.map (·.1) ∧ p.2 = CMS.trueCount h p.1
  light : ∀ y ∈ h.map (·.1), (∀ p ∈ heap, p.1 ≠ y) →
    ∀ p ∈ heap, CMS.trueCount h y ≤ p.2 ∧ CMS.trueCount h y ≤ CMS.trueCount h p.1

variable (pos : String → List Nat) (rows cols k : Nat) (h : List (String × Nat))

/-- every heap the specification reaches on the events of the run (any tie-breaking, any `k`),
    restated on the history `h` -/
theorem C04_exact_reach_sketch (hpos : CMS.PosOK pos rows cols) (hpf : PrefixFree pos rows h)
    (heap : List HElem) (hr : Reach k (sketchEvents pos (CMS.new rows cols) h) heap) :
    ReportsExact h k heap := by
  have hx := C04_exact_of_prefixFree (cols := cols) hpos hpf
  have he := exact_estOK _ hx
  obtain ⟨hcnt, hlight⟩ := C04_exact_without_collisions hr he hx
  simp only [sketchEvents_trueTotal] at hcnt hlight
  refine ⟨C04_nodup hr, ?_, fun p hp => ⟨?_, hcnt p hp⟩, fun y hy hno p hp => ?_⟩
  · have := C04_size hr he
    unfold numDistinct at this
    rwa [sketchEvents_map_x] at this
  · obtain ⟨e, hmem, hx, _⟩ := lastEst_mem _ p.1 p.2 ((reach_inv hr he).stored p hp)
    rw [← sketchEvents_map_x pos (CMS.new rows cols) h]
    exact List.mem_map.2 ⟨e, hmem, hx⟩
  · have h1 := hlight y (sketchEvents_mem_x hy) hno p hp
    exact ⟨hcnt p hp ▸ h1, h1⟩

theorem C04_end_to_end_exact_mem_of_prefixFree (hpos : CMS.PosOK pos rows cols)
    (hpf : PrefixFree pos rows h) :
    let t := h.foldl (fun t o => t.insert o.1 (pos o.1) o.2) (⟨k, CMS.new rows cols, #[]⟩ : TopK)
    ReportsExact h k t.heap.toList ∧ HeapInv t.heap := by
  intro t
  obtain ⟨hr, hinv, _⟩ := C04_insert_run pos ⟨k, CMS.new rows cols, #[]⟩ rfl h
  exact ⟨C04_exact_reach_sketch pos rows cols k h hpos hpf _ hr, hinv⟩

/-- **Top-K is exact without collisions, in-memory variant.**  Run `TopK.insert` over ANY
    insertion history `h` from the fresh state `⟨k, CMS.new rows cols, #[]⟩`, `k ≥ 1`, with a
    well-formed position function under which every inserted element has a row of its own
    (`NoCollision`).  The final heap is an exact top `k` (`ReportsExact`) and heap-ordered.
    `_hk` marks the range in which the model is the code (header); the proof does not use it. -/
theorem C04_end_to_end_exact_mem (_hk : 1 ≤ k) (hpos : CMS.PosOK pos rows cols)
    (hnc : NoCollision pos rows h) :
    let t := h.foldl (fun t o => t.insert o.1 (pos o.1) o.2) (⟨k, CMS.new rows cols, #[]⟩ : TopK)
    ReportsExact h k t.heap.toList ∧ HeapInv t.heap :=
  C04_end_to_end_exact_mem_of_prefixFree pos rows cols k h hpos (C04_noCollision_prefixFree hnc)

/-- `Values()` of the final state: the same entries in the order count descending, element
    ascending (strict); every listed count is the element's true count, so the list is sorted by
    TRUE count. -/
theorem C04_end_to_end_exact_mem_values (pos : String → List Nat) (rows cols k : Nat)
    (h : List (String × Nat)) (hk : 1 ≤ k) (hpos : CMS.PosOK pos rows cols)
    (hnc : NoCollision pos rows h) :
    let t := h.foldl (fun t o => t.insert o.1 (pos o.1) o.2) (⟨k, CMS.new rows cols, #[]⟩ : TopK)
    (values t.heap.toList).Perm t.heap.toList ∧
    (values t.heap.toList).length = min k (distinct (h.map (·.1))).length ∧
    (∀ p ∈ values t.heap.toList, p.1 ∈ h.map (·.1) ∧ p.2 = CMS.trueCount h p.1) ∧
    List.Pairwise (fun a b => CMS.trueCount h a.1 > CMS.trueCount h b.1 ∨
        (CMS.trueCount h a.1 = CMS.trueCount h b.1 ∧ a.1 < b.1)) (values t.heap.toList) := by
  intro t
  obtain ⟨r, _⟩ := C04_end_to_end_exact_mem pos rows cols k h hk hpos hnc
  have hp := values_perm t.heap.toList
  have h3' : ∀ p ∈ values t.heap.toList, p.1 ∈ h.map (·.1) ∧ p.2 = CMS.trueCount h p.1 :=
    fun p hm => r.exact p (hp.mem_iff.1 hm)
  refine ⟨hp, hp.length_eq.trans r.size, h3', ?_⟩
  · refine List.Pairwise.imp_of_mem ?_ (C04_values_sorted_strict _ r.nodup)
    intro a b ha hb hab
    rw [← (h3' a ha).2, ← (h3' b hb).2]
    exact hab

theorem C04_end_to_end_exact_redis_of_prefixFree (hpos : CMS.PosOK pos rows cols)
    (hpf : PrefixFree pos rows h) :
    let st := h.foldl (fun st o => insertRedis k st o.1 (pos o.1) o.2) (CMS.new rows cols, [])
    ReportsExact h k st.2 ∧ st.2.Pairwise (fun a b => zLt a b = true) := by
  intro st
  obtain ⟨hr, hsorted⟩ := C04_redis_run pos (CMS.new rows cols) k h
  exact ⟨C04_exact_reach_sketch pos rows cols k h hpos hpf _ hr, hsorted⟩

/-- **Top-K is exact without collisions, Redis variant**: the same run with the sorted set in
    place of the heap; same conclusions, and the list is sorted by (score, member).  No
    hypothesis on `k`: at `k = 0` top_k_redis.go does not panic and keeps the set empty, as the
    model does. -/
theorem C04_end_to_end_exact_redis (pos : String → List Nat) (rows cols k : Nat)
    (h : List (String × Nat)) (hpos : CMS.PosOK pos rows cols) (hnc : NoCollision pos rows h) :
    let st := h.foldl (fun st o => insertRedis k st o.1 (pos o.1) o.2) (CMS.new rows cols, [])
    (st.2.map (·.1)).Nodup ∧
    st.2.length = min k (distinct (h.map (·.1))).length ∧
    (∀ p ∈ st.2, p.1 ∈ h.map (·.1) ∧ p.2 = CMS.trueCount h p.1) ∧
    (∀ y ∈ h.map (·.1), (∀ p ∈ st.2, p.1 ≠ y) →
      ∀ p ∈ st.2, CMS.trueCount h y ≤ p.2 ∧ CMS.trueCount h y ≤ CMS.trueCount h p.1) ∧
    st.2.Pairwise (fun a b => zLt a b = true) := by
  have r := C04_end_to_end_exact_redis_of_prefixFree pos rows cols k h hpos
    (C04_noCollision_prefixFree hnc)
  exact ⟨r.1.nodup, r.1.size, r.1.exact, r.1.light, r.2⟩

/-- `NoCollision` cannot be dropped: with the well-formed positions `exPosS` of C04E2E ("a" and
    "dddd" collide in both rows) the events are not exact, and the final sorted set reports
    "dddd" with 3 although it was inserted once. -/
theorem C04_exact_needs_noCollision :
    ¬ NoCollision exPosS 2 exOps ∧ ¬ PrefixFree exPosS 2 exOps ∧
    ¬ Exact (sketchEvents exPosS (CMS.new 2 3) exOps) ∧
    ¬ (∀ p ∈ (exOps.foldl (fun st o => insertRedis 2 st o.1 (exPosS o.1) o.2)
          (CMS.new 2 3, [])).2, p.2 = CMS.trueCount exOps p.1) := by
  decide +kernel

/-- `PosOK` cannot be dropped: position lists of the wrong length (here: empty, for one row)
    never touch the matrix; `NoCollision` holds, the estimate is 0, the true count is 1. -/
theorem C04_exact_needs_posOK :
    NoCollision (fun _ => []) 1 [("a", 1)] ∧
    ¬ Exact (sketchEvents (fun _ => []) (CMS.new 1 1) [("a", 1)]) := by
  decide +kernel

/-- positions for `C04_noCollision_not_necessary`: 2 rows, 2 columns; "x" shares row 0 with "p"
    and row 1 with "q" -/
def exPosN (s : String) : List Nat :=
  if s = "x" then [0, 0] else if s = "p" then [0, 1] else if s = "q" then [1, 0] else [1, 1]

/-- `NoCollision` is sufficient, not necessary: "x" has no row of its own, but "p" arrives only
    after the last insert of "x", so every estimate is exact (`PrefixFree` holds). -/
theorem C04_noCollision_not_necessary :
    ¬ NoCollision exPosN 2 [("q", 1), ("x", 1), ("p", 1)] ∧
    PrefixFree exPosN 2 [("q", 1), ("x", 1), ("p", 1)] ∧
    Exact (sketchEvents exPosN (CMS.new 2 2) [("q", 1), ("x", 1), ("p", 1)]) := by
  decide +kernel

/-- **At `k = 0` the in-memory model differs from top_k.go**, where `t.heap[0]` on the empty slice
    panics (header).  In the model: the guard, read through `getD 0 ("", 0)`, is true; `offer`
    pushes and pops, leaving the empty heap; so a whole `TopK.insert` returns normally.  The Redis
    variant does not enter the branch – there model and code agree. -/
theorem C04_k_zero_model_differs :
    (¬ (#[] : Array HElem).size < 0 ∧ 1 ≥ ((#[] : Array HElem).getD 0 ("", 0)).2) ∧
    offer 0 #[] "a" 1 = #[] ∧
    (TopK.insert ⟨0, CMS.new 1 1, #[]⟩ "a" [0] 1).heap = #[] ∧
    offerRedis 0 [] "a" 1 = [] := by
  rw [TopK.insert, offer_eq_offerL]
  decide +kernel

theorem C04_k_zero_offer (x : String) (f : Nat) :
    offer 0 #[] x f = #[] ∧ offerRedis 0 [] x f = [] :=
  ⟨offer_zero_empty x f, by simp [offerRedis]⟩

/-- … and for a whole run: at `k = 0` the model's heap is empty after ANY history (where the code
    has panicked at the first `Insert`). -/
theorem C04_k_zero_run (pos : String → List Nat) (s : CMS) (h : List (String × Nat)) :
    (h.foldl (fun t o => t.insert o.1 (pos o.1) o.2) (⟨0, s, #[]⟩ : TopK)).heap = #[] := by
  refine (runInserts_heap pos ⟨0, s, #[]⟩ h).trans ?_
  generalize sketchEvents pos s h = evs
  induction evs with
  | nil => rfl
  | cons e evs ih => simp only [List.foldl_cons, offer_zero_empty]; exact ih

/-- 2 rows, 3 columns; "a" and "bb" collide in row 0, "ccc" and "dddd" collide in row 1; every
    element has a row of its own -/
def exPosX (s : String) : List Nat :=
  if s = "a" then [1, 2] else if s = "bb" then [1, 0] else if s = "ccc" then [0, 1]
  else if s = "dddd" then [2, 1] else [0, 0]

theorem exPosX_ok : CMS.PosOK exPosX 2 3 := fun _ =>
  posOK_ite (by decide +kernel) <| posOK_ite (by decide +kernel) <| posOK_ite (by decide +kernel) <|
    posOK_ite (by decide +kernel) (by decide +kernel)

/-- six inserts of four distinct elements (the examples run them with `k = 2`); "a", "bb", "dddd"
    all end with a true count of 3 (a three-way tie at the boundary), "ccc" with 1 -/
def exOpsX : List (String × Nat) :=
  [("a", 2), ("bb", 1), ("ccc", 1), ("dddd", 3), ("bb", 2), ("a", 1)]

theorem exOpsX_noCollision : NoCollision exPosX 2 exOpsX := by decide +kernel

/-- the collisions are real: the cell of "a" in row 0 holds 6 = 3 ("a") + 3 ("bb") at the end -/
example : ((CMS.run exPosX (CMS.new 2 3) exOpsX).m.getD 0 []).getD 1 0 = 6 ∧
    (CMS.run exPosX (CMS.new 2 3) exOpsX).count (exPosX "a") = 3 := by decide +kernel

example : Exact (sketchEvents exPosX (CMS.new 2 3) exOpsX) :=
  C04_exact_of_noCollision exPosX_ok exOpsX_noCollision

example : CMS.trueCount exOpsX "a" = 3 ∧ CMS.trueCount exOpsX "bb" = 3 ∧
    CMS.trueCount exOpsX "ccc" = 1 ∧ CMS.trueCount exOpsX "dddd" = 3 ∧
    (distinct (exOpsX.map (·.1))).length = 4 := by decide +kernel

/-- the final heap of the in-memory run: two of the three elements with true count 3 -/
example :
    (exOpsX.foldl (fun t o => t.insert o.1 (exPosX o.1) o.2) (⟨2, CMS.new 2 3, #[]⟩ : TopK)).heap
      = #[("a", 3), ("dddd", 3)] := by
  refine (runInserts_heap exPosX ⟨2, CMS.new 2 3, #[]⟩ exOpsX).trans ?_
  rw [offer_eq_offerL]
  decide +kernel

/-- the sorted set resolves the tie differently ("a" is popped, "bb" stays) – both are exact
    top-2 sets -/
example :
    (exOpsX.foldl (fun st o => insertRedis 2 st o.1 (exPosX o.1) o.2) (CMS.new 2 3, [])).2
      = [("bb", 3), ("dddd", 3)] := by decide +kernel

example :=
  C04_end_to_end_exact_mem exPosX 2 3 2 exOpsX (by decide +kernel) exPosX_ok exOpsX_noCollision

example :=
  C04_end_to_end_exact_redis exPosX 2 3 2 exOpsX exPosX_ok exOpsX_noCollision

example :=
  C04_end_to_end_exact_mem_values exPosX 2 3 2 exOpsX (by decide +kernel) exPosX_ok exOpsX_noCollision

/-- the unreported "ccc" (true count 1) is below every reported true count -/
example : ∀ p ∈ (exOpsX.foldl (fun st o => insertRedis 2 st o.1 (exPosX o.1) o.2)
      (CMS.new 2 3, [])).2, CMS.trueCount exOpsX "ccc" ≤ CMS.trueCount exOpsX p.1 := fun p hp =>
  ((C04_end_to_end_exact_redis exPosX 2 3 2 exOpsX exPosX_ok exOpsX_noCollision).2.2.2.1
    "ccc" (by decide +kernel) (by decide +kernel) p hp).2

end Gostatix.TopK
