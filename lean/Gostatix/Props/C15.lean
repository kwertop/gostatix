/-
  C15 — structures built from an error budget meet it (PARTIAL).
  The property is statistical and about concrete hash functions; no theorem about the distribution
  of metro.Hash128 / murmur3 is available.  What is proved:
   * the sizing formulas of internal/util/base.go and the constructors (transcribed over ℝ, float
     rounding trusted and tie-checked by suite `sizing`) satisfy the inequalities the textbook
     analyses start from;
   * the probing schemes are enhanced double hashing (Bloom) / double hashing (Count-Min), the
     cubic term being an exact integer;
   * the cuckoo sizing is refuted (finding D22): the fingerprint length is computed in BYTES but
     applied as DECIMAL DIGITS.
  The frequencies themselves are measured by the suite (testing, labelled as such).
-/
import Mathlib.Analysis.SpecialFunctions.Log.Basic
import Mathlib.Analysis.SpecialFunctions.Exp
import Gostatix.Model.Bloom
import Gostatix.Model.CMS
namespace Gostatix.Sizing
open Real

/-- `util.CalculateFilterSize` over the reals: `ceil(-(n·ln p)/ln²2)` -/
noncomputable def bloomSize (n : ℕ) (p : ℝ) : ℕ := ⌈-(n * log p) / (log 2) ^ 2⌉₊

/-- the Bloom filter has at least the textbook number of bits -/
theorem C15_bloom_size (n : ℕ) (p : ℝ) : -(n * log p) / (log 2) ^ 2 ≤ (bloomSize n p : ℝ) :=
  Nat.le_ceil _

/-- `util.CalculateNumHashes`: `ceil((m / n)·ln 2)` with an INTEGER division; never above the
    real-valued optimum rounded up (`C15_bloom_k_le`). -/
noncomputable def bloomK (m n : ℕ) : ℕ := ⌈((m / n : ℕ) : ℝ) * log 2⌉₊

theorem C15_bloom_k_le (m n : ℕ) (_hn : 0 < n) : bloomK m n ≤ ⌈((m : ℝ) / n) * log 2⌉₊ := by
  unfold bloomK
  apply Nat.ceil_mono
  apply mul_le_mul_of_nonneg_right _ (le_of_lt (log_pos (by norm_num)))
  have : ((m / n : ℕ) : ℝ) ≤ (m : ℝ) / n := Nat.cast_div_le
  exact this

/-- Count-Min columns: `ceil(e/ε)` -/
noncomputable def cmsCols (ε : ℝ) : ℕ := ⌈exp 1 / ε⌉₊
/-- Count-Min rows: `ceil(ln(1/δ))` -/
noncomputable def cmsRows (δ : ℝ) : ℕ := ⌈log (1 / δ)⌉₊

/-- the expected collision mass per row is at most ε·N/e (Markov step of the Count-Min analysis) -/
theorem C15_cms_cols (ε : ℝ) (hε : 0 < ε) : exp 1 / (cmsCols ε : ℝ) ≤ ε := by
  have h : exp 1 / ε ≤ (cmsCols ε : ℝ) := Nat.le_ceil _
  have hpos : 0 < exp 1 / ε := div_pos (exp_pos 1) hε
  have hc : (0 : ℝ) < cmsCols ε := lt_of_lt_of_le hpos h
  exact (div_le_iff₀ hc).2 ((div_le_iff₀' hε).1 h)

/-- the failure probability after `rows` independent rows -/
theorem C15_cms_rows (δ : ℝ) (hδ : 0 < δ) : exp (-(cmsRows δ : ℝ)) ≤ δ := by
  have h : log (1 / δ) ≤ (cmsRows δ : ℝ) := Nat.le_ceil _
  have h2 : -(cmsRows δ : ℝ) ≤ log δ := by
    rw [one_div, log_inv] at h; linarith
  calc exp (-(cmsRows δ : ℝ)) ≤ exp (log δ) := exp_le_exp.mpr h2
    _ = δ := exp_log hδ

/-- the cubic term of `getIndex`, `(i³ - i)/6`, is an exact integer: the Go code's
    `math.Floor(float64(i³-i)/6)` loses nothing (for i < 2^17, where i³ is exact in float64) -/
theorem C15_cubic_term_exact (i : ℕ) : 6 ∣ i ^ 3 - i := by
  -- `i³ ≡ i (mod 6)`, checked on the six residues
  have key : ∀ r < 6, r ^ 3 % 6 = r % 6 := by decide
  have e : i % 6 = i ^ 3 % 6 := by
    rw [Nat.pow_mod, key _ (Nat.mod_lt i (by decide)), Nat.mod_mod]
  exact (Nat.modEq_iff_dvd' (Nat.le_self_pow (by decide) i)).1 e

/-- the Bloom probe sequence is enhanced double hashing -/
theorem C15_probes_scheme (h1 h2 i m : ℕ) :
    Bloom.getIndex h1 h2 i m = ((h1 + i * h2 + (i ^ 3 - i) / 6) % 2 ^ 64) % m := rfl

/-- Count-Min rows use double hashing -/
theorem C15_cms_scheme (h1 h2 r cols : ℕ) :
    CMS.position h1 h2 r cols = ((h1 + r * h2) % 2 ^ 64) % cols := rfl

/-- `util.CalculateFingerPrintLength` returns `ceil(bits/8)` — a length in BYTES — and
    `getPositions` takes that many DECIMAL DIGITS of the hash. -/
def fplFromBits (bits : ℕ) : ℕ := (bits + 7) / 8

/-- Finding D22: for size 10^5, bucket size 4, ε = 10^-4 the formula needs
    `ceil(log2(1/ε) + log2(2·size)) = 31` bits, returns 4, and 4 decimal digits give at most 10^4
    distinct fingerprints while a lookup compares against up to 2·b stored ones: the design
    equation `2b/ε ≤ #fingerprints` asks for 8·10^4. -/
theorem C15_cuckoo_fpl_counterexample :
    fplFromBits 31 = 4 ∧ 10 ^ fplFromBits 31 < 2 * 4 * 10 ^ 4 ∧ 2 ^ 31 ≥ 2 * 4 * 10 ^ 4 := by decide +kernel

example : exp 1 / (cmsCols 0.01 : ℝ) ≤ 0.01 := C15_cms_cols 0.01 (by norm_num)

end Gostatix.Sizing
