/-
  C10 (JSON round trip) — what the hand-written codec of Model/Json.lean assumes about the Go mirror
  structs and the Export / Import methods, decided over the table REGENERATED from /repo's current
  sources on every run (`Gostatix/Generated/JsonTable.lean`, extract/layout.go).

  Model/Json.lean treats the Go `*JSON` struct as a Lean record and trusts `encoding/json`
  (struct ⇄ bytes) to be the identity on it.  That is justified when
    (1) every field is always written and read under a key of its own (no `omitempty`, `,string`,
        `-`, unexported or untagged field, no two fields with one key);
    (2) Export fills every field and Import consumes every field Export fills, the exceptions being
        the ones the Lean `importDoc` documents as ignored;
    (3) the record fields of the Lean `…Doc` types are the JSON keys of the Go struct.
  (1), (2) and the receiver-field wiring are theorems by `decide` about the table, i.e. about the Go
  source as the syntactic extractor reads it: no data flow beyond "this field is assigned / read in
  this function"; calls to unexported functions are expanded into the caller's entry, and those that
  cannot be (called through an interface) keep an entry and are listed in `callees`.  (3) compares
  the table with `structFieldNames% T`, the field names of the Lean record read from the environment
  at elaboration time (Proofs/StructFields.lean); correspondences that are not by name are spelled out
  in the statements.  The `C10_sample_*` theorems are checks on one concrete state per variant: they
  fix the field order of the Lean constructor calls and are not statements about all states.
-/
import Gostatix.Generated.JsonTable
import Gostatix.Model.Json
import Gostatix.Proofs.StructFields
namespace Gostatix.Generated
open Gostatix.Json

def subset {α : Type} [BEq α] (a b : List α) : Bool := a.all b.contains
def sameSet {α : Type} [BEq α] (a b : List α) : Bool := subset a b && subset b a
def disjoint {α : Type} [BEq α] (a b : List α) : Bool := a.all (fun x => !b.contains x)

def structNamed (n : String) : Option JsonStruct := jsonStructs.find? (fun s => s.name == n)
def fieldsNamed (n : String) : List JsonField := ((structNamed n).map (·.fields)).getD []
def keysOf (n : String) : List String := (fieldsNamed n).map (·.key)
def keyTypes (n : String) : List (String × String) := (fieldsNamed n).map (fun f => (f.key, f.goType))
def fieldsOfStruct (n : String) : List (String × String) := (fieldsNamed n).map (fun f => (n, f.goName))

def useOf (fn : String) : Option JsonUse := jsonUses.find? (fun u => u.fn == fn)
def usesWithCallees (fn : String) : List JsonUse :=
  match useOf fn with
  | none => []
  | some u => u :: u.callees.filterMap useOf
/-- mirror-struct fields SET by `fn` or by a function it calls (one level) -/
def exported (fn : String) : List (String × String) :=
  ((usesWithCallees fn).flatMap (·.sets)).map (fun f => (f.strct, f.field))
/-- mirror-struct fields READ by `fn` or by a function it calls (one level) -/
def imported (fn : String) : List (String × String) :=
  ((usesWithCallees fn).flatMap (·.reads)).map (fun f => (f.strct, f.field))

/-- `ex` marshals exactly `root`, `im` unmarshals exactly `root`;
    Export sets all fields of the mirror structs `structs` except `zero` (left at the zero value);
    Import reads exactly the fields Export sets, except `ignored` (exported, never looked at). -/
def roundTrip (ex im root : String) (structs : List String) (zero ignored : List (String × String)) : Bool :=
  (useOf ex).any (fun u => u.marshals == [root] && u.unmarshals == []) &&
  (useOf im).any (fun u => u.unmarshals == [root] && u.marshals == [] && u.sets == []) &&
  sameSet (exported ex ++ zero) (structs.flatMap fieldsOfStruct) && disjoint (exported ex) zero &&
  sameSet (imported im ++ ignored) (exported ex) && disjoint (imported im) ignored

def keyOfField (strct field : String) : String :=
  (((fieldsNamed strct).find? (fun f => f.goName == field)).map (·.key)).getD "?"

/-- (JSON key, receiver field it is filled from) for the fields of `strct` that `fn` fills straight
    from a receiver field / receiver method / string literal -/
def wiresOut (fn strct : String) : List (String × String) :=
  (((useOf fn).map (·.sets)).getD []).filterMap
    (fun f => if f.strct == strct && f.wire != "" then some (keyOfField strct f.field, f.wire) else none)

/-- (JSON key, receiver field it is assigned to) for `recv.x = v.Field` assignments of `fn` -/
def wiresIn (fn strct : String) : List (String × String) :=
  (((useOf fn).map (·.reads)).getD []).filterMap
    (fun f => if f.strct == strct && f.wire != "" then some (keyOfField strct f.field, f.wire) else none)

/-- a field Export takes from receiver field `.x` is never assigned to another receiver field by Import -/
def wiringConsistent (ex im : String) : Bool :=
  match useOf ex, useOf im with
  | some e, some i =>
    e.sets.all (fun s => i.reads.all (fun r =>
      !(s.strct == r.strct && s.field == r.field) || s.wire == "" || r.wire == "" || s.wire == r.wire))
  | _, _ => false

/-! ## (0) the table is complete and was understood -/

theorem C10_table_understood :
    jsonStructs.all (fun s => !s.unknown && s.fields.all (fun f => !f.unknown)) = true ∧
    jsonUses.all (fun u => !u.unknown) = true := by decide +kernel

def reachedFromExported (fn : String) : Bool :=
  (jsonUses.filter (·.exported)).any (fun u => u.callees.contains fn)

/-- The EXPORTED functions of the package that go through `encoding/json` or touch a field of a mirror
    struct — directly or through unexported helpers, whose bodies the extractor expands into the entry of
    their caller — are the nine Export / Import pairs (BloomFilter's pair serves both the in-memory and the Redis
    filter), each moving exactly its own mirror struct.
    Every other entry of the table is an unexported function that could not be expanded (the two
    `BitSetRedis` methods, called through the `IBitSet` interface): it is reached from an exported entry
    (`callees`), marshals / unmarshals a plain `string` (base64 text), and sets / reads no mirror field.
    So a new private helper of an Export / Import needs no change here; a new exported function, or an
    unexported one that nothing exported reaches, that marshals / unmarshals or touches a mirror struct does. -/
theorem C10_table_covers :
    (jsonUses.filter (·.exported)).map (fun u => (u.fn, u.marshals, u.unmarshals)) =
      [("BloomFilter.Export", ["bloomFilterType"], []), ("BloomFilter.Import", [], ["bloomFilterType"]),
       ("CountMinSketch.Export", ["countMinSketchJSON"], []), ("CountMinSketch.Import", [], ["countMinSketchJSON"]),
       ("CountMinSketchRedis.Export", ["countMinSketchJSON"], []), ("CountMinSketchRedis.Import", [], ["countMinSketchJSON"]),
       ("CuckooFilter.Export", ["cuckooFilterMemJSON"], []), ("CuckooFilter.Import", [], ["cuckooFilterMemJSON"]),
       ("CuckooFilterRedis.Export", ["cuckooFilterRedisJSON"], []), ("CuckooFilterRedis.Import", [], ["cuckooFilterRedisJSON"]),
       ("HyperLogLog.Export", ["hyperLogLogJSON"], []), ("HyperLogLog.Import", [], ["hyperLogLogJSON"]),
       ("HyperLogLogRedis.Export", ["hyperLogLogJSON"], []), ("HyperLogLogRedis.Import", [], ["hyperLogLogJSON"]),
       ("TopK.Export", ["topKJSON"], []), ("TopK.Import", [], ["topKJSON"]),
       ("TopKRedis.Export", ["topKJSON"], []), ("TopKRedis.Import", [], ["topKJSON"])] ∧
    (jsonUses.filter (fun u => !u.exported)).all (fun h =>
      reachedFromExported h.fn && h.sets.isEmpty && h.reads.isEmpty &&
      !(h.marshals ++ h.unmarshals).isEmpty && (h.marshals ++ h.unmarshals).all (· == "string")) = true ∧
    jsonStructs.map (·.name) =
      ["bloomFilterType", "bucketMemJSON", "bucketRedisJSON", "countMinSketchJSON", "cuckooFilterMemJSON",
       "cuckooFilterRedisJSON", "heapElementJSON", "hyperLogLogJSON", "topKJSON"] := by decide +kernel

/-! ## (1) tags -/

/-- so a zero value is written like any other value (retries 0, length 0, k 0, empty matrix, empty key name) -/
theorem C10_tags_plain :
    jsonStructs.all (fun s => s.fields.all (fun f =>
      f.tagged && f.exported && !f.omitempty && !f.asString && !f.skip)) = true := by decide +kernel

theorem C10_keys_distinct :
    jsonStructs.all (fun s => decide ((s.fields.map (·.key)).Nodup) && s.fields.all (fun f => f.key != "")) = true := by
  decide +kernel

/-! ## (2) Export fills, Import consumes

  One statement per variant.  `zero`: fields Export leaves at the zero value; `ignored`: fields
  Export fills and Import never looks at.  Both lists are tight (`disjoint` in `roundTrip`). -/

/-- Bloom, in memory AND Redis (one pair of methods; the bit set goes through `filter.marshal()` /
    `filter.unmarshal(f.B)`, bloom_filter.go:263/279 — for BitSetRedis these are the two callees,
    which marshal a `string` and touch no mirror struct) -/
theorem C10_fields_bloom :
    roundTrip "BloomFilter.Export" "BloomFilter.Import" "bloomFilterType" ["bloomFilterType"] [] [] = true ∧
    (useOf "BloomFilter.Export").map (·.callees) = some ["BitSetRedis.marshal"] ∧
    (useOf "BloomFilter.Import").map (·.callees) = some ["BitSetRedis.unmarshal"] ∧
    exported "BitSetRedis.marshal" = [] ∧ imported "BitSetRedis.unmarshal" = [] := by decide +kernel

/-- Cuckoo, in memory.  Ignored: the per-bucket `s` and `l` — Import builds every bucket with
    `newBucketMem(f.BucketSize)` and counts the non-empty elements itself (cuckoo_filter.go:221-227);
    `CuckooMem.restoreBucket` in Model/Json.lean does the same. -/
theorem C10_fields_cuckooMem :
    roundTrip "CuckooFilter.Export" "CuckooFilter.Import" "cuckooFilterMemJSON"
      ["cuckooFilterMemJSON", "bucketMemJSON"] []
      [("bucketMemJSON", "Size"), ("bucketMemJSON", "Length")] = true := by decide +kernel

/-- Cuckoo, Redis.  Ignored: per bucket `s`, `l` and the bucket's key name `k` — Import derives the
    key from the filter key (`filter.getIndexKey(i)`, cuckoo_filter_redis.go:275), creates the bucket
    with `f.BucketSize` and counts the non-empty elements (:276-284); `CuckooRedis.importBucket`.
    `k` / `mk` of the filter ARE read (:267-268), in the `withNewRedisKey = false` branch. -/
theorem C10_fields_cuckooRedis :
    roundTrip "CuckooFilterRedis.Export" "CuckooFilterRedis.Import" "cuckooFilterRedisJSON"
      ["cuckooFilterRedisJSON", "bucketRedisJSON"] []
      [("bucketRedisJSON", "Size"), ("bucketRedisJSON", "Length"), ("bucketRedisJSON", "Key")] = true := by decide +kernel

/-- Count-Min, in memory.  Ignored: `k`, which Export sets to `""` (count_min_sketch.go:107). -/
theorem C10_fields_cmsMem :
    roundTrip "CountMinSketch.Export" "CountMinSketch.Import" "countMinSketchJSON"
      ["countMinSketchJSON"] [] [("countMinSketchJSON", "Key")] = true := by decide +kernel

/-- Count-Min, Redis: all five fields (`k` read in the `withNewKey = false` branch,
    count_min_sketch_redis.go:212). -/
theorem C10_fields_cmsRedis :
    roundTrip "CountMinSketchRedis.Export" "CountMinSketchRedis.Import" "countMinSketchJSON"
      ["countMinSketchJSON"] [] [] = true := by decide +kernel

/-- HyperLogLog, in memory.  Ignored: `k`, which Export sets to `""` (hyperloglog.go:113). -/
theorem C10_fields_hllMem :
    roundTrip "HyperLogLog.Export" "HyperLogLog.Import" "hyperLogLogJSON"
      ["hyperLogLogJSON"] [] [("hyperLogLogJSON", "Key")] = true := by decide +kernel

/-- HyperLogLog, Redis: all five fields (`k` read at hyperloglog_redis.go:145). -/
theorem C10_fields_hllRedis :
    roundTrip "HyperLogLogRedis.Export" "HyperLogLogRedis.Import" "hyperLogLogJSON"
      ["hyperLogLogJSON"] [] [] = true := by decide +kernel

/-- Top-K, in memory.  Zero: the sketch's `k` (the `var sketch countMinSketchJSON` of top_k.go:162 is
    filled field by field, Key is not among them).  Ignored: `hk`, set to `""` (top_k.go:171). -/
theorem C10_fields_topkMem :
    roundTrip "TopK.Export" "TopK.Import" "topKJSON"
      ["topKJSON", "countMinSketchJSON", "heapElementJSON"]
      [("countMinSketchJSON", "Key")] [("topKJSON", "HeapKey")] = true := by decide +kernel

/-- Top-K, Redis.  Ignored: the sketch's key name `k` (exported at top_k_redis.go:189) — Import always
    creates a new sketch under fresh names (`NewCountMinSketchRedis`, :220), also when
    `withNewKey = false`; `TopKRedis.importDoc` / `newSketch` in Model/Json.lean do the same.
    `hk` is read (:210). -/
theorem C10_fields_topkRedis :
    roundTrip "TopKRedis.Export" "TopKRedis.Import" "topKJSON"
      ["topKJSON", "countMinSketchJSON", "heapElementJSON"]
      [] [("countMinSketchJSON", "Key")] = true := by decide +kernel

/-! ### wiring: which receiver field travels under which key

  Go side of the `C10_sample_*` checks below.  `wiresOut`: key ↦ receiver field Export takes the value
  from (only the fields filled straight from `recv.x`, `recv.x.y`, `recv.M()` or a string literal);
  `wiresIn`: key ↦ receiver field Import assigns the value to (only plain `recv.x = v.Field`). -/

/-- the same (key, receiver field) pairs, in any order (a reordering of the struct's fields together with
    its positional literal changes nothing) -/
def sameWires (a b : List (String × String)) : Bool := sameSet a b && a.length == b.length

theorem C10_wiring_consistent :
    [("BloomFilter.Export", "BloomFilter.Import"), ("CuckooFilter.Export", "CuckooFilter.Import"),
     ("CuckooFilterRedis.Export", "CuckooFilterRedis.Import"), ("CountMinSketch.Export", "CountMinSketch.Import"),
     ("CountMinSketchRedis.Export", "CountMinSketchRedis.Import"), ("HyperLogLog.Export", "HyperLogLog.Import"),
     ("HyperLogLogRedis.Export", "HyperLogLogRedis.Import"), ("TopK.Export", "TopK.Import"),
     ("TopKRedis.Export", "TopKRedis.Import")].all (fun p => wiringConsistent p.1 p.2) = true := by decide +kernel

theorem C10_wires_bloom :
    sameWires (wiresOut "BloomFilter.Export" "bloomFilterType") [("m", ".size"), ("k", ".numHashes")] = true ∧
    sameWires (wiresIn "BloomFilter.Import" "bloomFilterType") [("m", ".size"), ("k", ".numHashes")] = true := by decide +kernel

theorem C10_wires_cuckoo :
    sameWires (wiresOut "CuckooFilter.Export" "cuckooFilterMemJSON")
      [("s", ".size"), ("bs", ".bucketSize"), ("fpl", ".fingerPrintLength"), ("l", ".length"), ("r", ".retries")] = true ∧
    sameWires (wiresIn "CuckooFilter.Import" "cuckooFilterMemJSON")
      [("s", ".size"), ("bs", ".bucketSize"), ("fpl", ".fingerPrintLength"), ("l", ".length"), ("r", ".retries")] = true ∧
    sameWires (wiresOut "CuckooFilterRedis.Export" "cuckooFilterRedisJSON")
      [("s", ".size"), ("bs", ".bucketSize"), ("fpl", ".fingerPrintLength"), ("l", ".Length()"), ("r", ".retries"),
       ("k", ".key"), ("mk", ".metadataKey")] = true ∧
    sameWires (wiresIn "CuckooFilterRedis.Import" "cuckooFilterRedisJSON")
      [("s", ".size"), ("bs", ".bucketSize"), ("fpl", ".fingerPrintLength"), ("r", ".retries"),
       ("k", ".key"), ("mk", ".metadataKey")] = true := by decide +kernel

theorem C10_wires_cms :
    sameWires (wiresOut "CountMinSketch.Export" "countMinSketchJSON")
      [("r", ".rows"), ("c", ".columns"), ("s", ".allSum"), ("m", ".matrix"), ("k", "\"\"")] = true ∧
    sameWires (wiresIn "CountMinSketch.Import" "countMinSketchJSON")
      [("r", ".rows"), ("c", ".columns"), ("s", ".allSum"), ("m", ".matrix")] = true ∧
    sameWires (wiresOut "CountMinSketchRedis.Export" "countMinSketchJSON")
      [("r", ".rows"), ("c", ".columns"), ("s", ".allSum"), ("k", ".key")] = true ∧
    sameWires (wiresIn "CountMinSketchRedis.Import" "countMinSketchJSON")
      [("r", ".rows"), ("c", ".columns"), ("s", ".allSum"), ("k", ".key")] = true := by decide +kernel

theorem C10_wires_hll :
    sameWires (wiresOut "HyperLogLog.Export" "hyperLogLogJSON")
      [("nr", ".numRegisters"), ("nbp", ".numBytesPerHash"), ("c", ".correctionBias"), ("r", ".registers"), ("k", "\"\"")] = true ∧
    sameWires (wiresIn "HyperLogLog.Import" "hyperLogLogJSON")
      [("nr", ".numRegisters"), ("nbp", ".numBytesPerHash"), ("c", ".correctionBias"), ("r", ".registers")] = true ∧
    sameWires (wiresOut "HyperLogLogRedis.Export" "hyperLogLogJSON")
      [("nr", ".numRegisters"), ("nbp", ".numBytesPerHash"), ("c", ".correctionBias"), ("k", ".key")] = true ∧
    sameWires (wiresIn "HyperLogLogRedis.Import" "hyperLogLogJSON")
      [("nr", ".numRegisters"), ("nbp", ".numBytesPerHash"), ("c", ".correctionBias"), ("k", ".key")] = true := by decide +kernel

theorem C10_wires_topk :
    sameWires (wiresOut "TopK.Export" "topKJSON") [("k", ".k"), ("er", ".errorRate"), ("a", ".accuracy"), ("hk", "\"\"")] = true ∧
    sameWires (wiresOut "TopK.Export" "countMinSketchJSON")
      [("s", ".sketch.allSum"), ("c", ".sketch.columns"), ("r", ".sketch.rows"), ("m", ".sketch.matrix")] = true ∧
    sameWires (wiresIn "TopK.Import" "topKJSON") [("k", ".k"), ("a", ".accuracy"), ("er", ".errorRate")] = true ∧
    sameWires (wiresOut "TopKRedis.Export" "topKJSON") [("k", ".k"), ("er", ".errorRate"), ("a", ".accuracy"), ("hk", ".heapKey")] = true ∧
    sameWires (wiresOut "TopKRedis.Export" "countMinSketchJSON")
      [("s", ".sketch.allSum"), ("c", ".sketch.columns"), ("r", ".sketch.rows"), ("k", ".sketch.key")] = true ∧
    sameWires (wiresIn "TopKRedis.Import" "topKJSON") [("k", ".k"), ("a", ".accuracy"), ("er", ".errorRate"), ("hk", ".heapKey")] = true := by
  decide +kernel

/-! ## (3) the keys are the ones the Lean codec uses

  `structFieldNames% T` = field names of the Lean record `T` of Model/Json.lean.  The records serve both
  variants of a structure; the Redis-only fields are `Option`s (`none` in memory, see
  `C10_memDocs_have_no_redis_keys`).  Name map: identity, except `mkey` ↦ "mk". -/

def leanKey (f : String) : String := if f == "mkey" then "mk" else f

def bloomDocKeys : List String := (structFieldNames% BloomDoc).map leanKey
def bucketDocKeys : List String := (structFieldNames% BucketDoc).map leanKey
def cuckooDocKeys : List String := (structFieldNames% CuckooDoc).map leanKey
def cmsDocKeys : List String := (structFieldNames% CMSDoc).map leanKey
def hllDocKeys : List String := (structFieldNames% HLLDoc).map leanKey
def topkDocKeys : List String := (structFieldNames% TopKDoc).map leanKey

/-- same keys, same number of them (no key twice: `C10_keys_distinct`).  The comparison is up to
    order: `encoding/json` finds a key wherever it stands in the object.  (`sameWires` at `String`.) -/
def sameKeys (go lean : List String) : Bool := sameSet go lean && go.length == lean.length

theorem C10_keys_match :
    sameKeys (keysOf "bloomFilterType") bloomDocKeys = true ∧
    sameKeys (keysOf "cuckooFilterRedisJSON") cuckooDocKeys = true ∧
    -- in memory: the same record without the two key names
    sameKeys (keysOf "cuckooFilterMemJSON") (cuckooDocKeys.filter (fun k => !["k", "mk"].contains k)) = true ∧
    sameKeys (keysOf "bucketRedisJSON") bucketDocKeys = true ∧
    sameKeys (keysOf "bucketMemJSON") (bucketDocKeys.filter (fun k => k != "k")) = true ∧
    sameKeys (keysOf "countMinSketchJSON") cmsDocKeys = true ∧
    sameKeys (keysOf "hyperLogLogJSON") hllDocKeys = true ∧
    sameKeys (keysOf "topKJSON") topkDocKeys = true ∧
    -- `TopKDoc.h : List (N × Nat)`: first component = Value "v", second = Frequency "f"
    sameWires ((fieldsNamed "heapElementJSON").map (fun f => (f.goName, f.key))) [("Value", "v"), ("Frequency", "f")] = true := by
  decide +kernel

/-- the literal lists, for the reader (and so that a renamed record field shows up here) -/
theorem C10_lean_keys :
    bloomDocKeys = ["m", "k", "b"] ∧ bucketDocKeys = ["s", "l", "e", "k"] ∧
    cuckooDocKeys = ["s", "bs", "fpl", "l", "r", "b", "k", "mk"] ∧ cmsDocKeys = ["r", "c", "s", "m", "k"] ∧
    hllDocKeys = ["nr", "nbp", "c", "r", "k"] ∧ topkDocKeys = ["k", "er", "a", "s", "h", "hk"] := by decide +kernel

/-- key ↦ Go type.  The Lean records carry `Nat` for `uint` / `uint64` (the C10 theorems assume the
    values fit: `WF` hypotheses), `Nat` bit patterns for `float64`, lists for slices, the nested
    record for the nested struct, `Option` key names for `string` keys. -/
theorem C10_key_types :   -- as sets: with `C10_keys_distinct` and `C10_keys_match` (lengths) nothing is left over
    sameSet (keyTypes "bloomFilterType") [("m", "uint"), ("k", "uint"), ("b", "[]byte")] = true ∧
    sameSet (keyTypes "bucketMemJSON") [("s", "uint64"), ("l", "uint64"), ("e", "[]string")] = true ∧
    sameSet (keyTypes "bucketRedisJSON") [("s", "uint64"), ("l", "uint64"), ("e", "[]string"), ("k", "string")] = true ∧
    sameSet (keyTypes "cuckooFilterMemJSON")
      [("s", "uint64"), ("bs", "uint64"), ("fpl", "uint64"), ("l", "uint64"), ("r", "uint64"), ("b", "[]bucketMemJSON")] = true ∧
    sameSet (keyTypes "cuckooFilterRedisJSON")
      [("s", "uint64"), ("bs", "uint64"), ("fpl", "uint64"), ("l", "uint64"), ("r", "uint64"), ("b", "[]bucketRedisJSON"),
       ("k", "string"), ("mk", "string")] = true ∧
    sameSet (keyTypes "countMinSketchJSON")
      [("r", "uint"), ("c", "uint"), ("s", "uint64"), ("m", "[][]uint64"), ("k", "string")] = true ∧
    sameSet (keyTypes "hyperLogLogJSON")
      [("nr", "uint64"), ("nbp", "uint64"), ("c", "float64"), ("r", "[]uint8"), ("k", "string")] = true ∧
    sameSet (keyTypes "topKJSON")
      [("k", "uint"), ("er", "float64"), ("a", "float64"), ("s", "countMinSketchJSON"), ("h", "[]heapElementJSON"),
       ("hk", "string")] = true ∧
    sameSet (keyTypes "heapElementJSON") [("v", "string"), ("f", "uint64")] = true := by decide +kernel

/-- UNIVERSAL: the in-memory `exportDoc`s leave every key-name field at `none` — the model's way of
    writing the `""` the Go code puts there (`C10_wires_cms`, `C10_wires_hll`, `C10_wires_topk`: wire
    `""`; the sketch inside the in-memory Top-K document: `zero` in `C10_fields_topkMem`), resp. the
    absence of the field in the in-memory cuckoo structs (`C10_keys_match`). -/
theorem C10_memDocs_have_no_redis_keys :
    (∀ c : CuckooMem, (CuckooMem.exportDoc c).k = none ∧ (CuckooMem.exportDoc c).mkey = none ∧
      ∀ b ∈ (CuckooMem.exportDoc c).b, b.k = none) ∧
    (∀ s : CMSMem, s.exportDoc.k = none) ∧ (∀ s : HLLMem, s.exportDoc.k = none) ∧
    (∀ (N : Type) (t : TopKMem N), t.exportDoc.hk = none ∧ t.exportDoc.s.k = none) := by
  refine ⟨fun c => ⟨rfl, rfl, ?_⟩, fun _ => rfl, fun _ => rfl, fun _ _ => ⟨rfl, rfl⟩⟩
  intro b hb
  simp only [CuckooMem.exportDoc, List.mem_map] at hb
  obtain ⟨i, _, rfl⟩ := hb
  cases c.buckets[i]? <;> rfl

/-! ## checks on concrete data: which state component the Lean codec puts under which key

  One state per variant with pairwise different components.  Read together with `C10_wires_*`:
  e.g. cuckoo — Go: "l" ← `.length`, "r" ← `.retries`; Lean: `l := 6` (the `length` component),
  `r := 5` (the `retries` component). -/

theorem C10_sample_bloom :
    (BloomMem.exportDoc ⟨8, 3, 9, [true, false, false, true]⟩ : BloomDoc (List Bool)) =
      { m := 8, k := 3, b := [true, false, false, true] } ∧
    BloomMem.importDoc { m := 8, k := 3, b := [true, false, false, true] } ⟨64, 1, 64, []⟩ =
      { size := 8, k := 3, bsSize := 4, bits := [true, false, false, true] } ∧
    (let st : Store := fun k => if k = .rand 1 then .str [0x80, 0x01, 0x00] else .absent
     BloomRedis.exportDoc { size := 3, k := 2, bsSize := 5, key := 1, metadataKey := 10 } st =
      { m := 3, k := 2, b := [0, 0, 0, 0, 0, 0, 0, 5, 0x00, 0x80, 0x01] }) := by decide +kernel

def sampleCuckooMem : CuckooMem :=
  { n := 2, bsize := 3, fpl := 4, retries := 5, length := 6,
    buckets := [⟨3, ["17", "", ""], 1⟩, ⟨3, ["", "", ""], 0⟩] }

theorem C10_sample_cuckooMem :
    CuckooMem.exportDoc sampleCuckooMem =
      { s := 2, bs := 3, fpl := 4, l := 6, r := 5,
        b := [{ s := 3, l := 1, e := ["17", "", ""] }, { s := 3, l := 0, e := ["", "", ""] }] } ∧
    CuckooMem.importDoc
      { s := 2, bs := 3, fpl := 4, l := 6, r := 5,
        b := [{ s := 9, l := 9, e := ["17", "", ""] }, { s := 9, l := 9, e := ["", "", ""] }] }
      (Cuckoo.mk 1 1 1 1 [] 1) = .ok sampleCuckooMem := by decide +kernel

def sampleCuckooStore : Store := fun k =>
  if k = .cuckooBucket 10 0 then .strs ["17", ""] else
  if k = .cuckooBucketLen 10 0 then .int 1 else
  if k = .rand 11 then .hash [("length", 6)] else .absent

theorem C10_sample_cuckooRedis :
    CuckooRedis.exportDoc { n := 2, bsize := 3, fpl := 4, retries := 5, key := 10, metadataKey := 11, nb := 2 }
        sampleCuckooStore =
      { s := 2, bs := 3, fpl := 4, l := 6, r := 5,
        b := [{ s := 3, l := 1, e := ["17", ""], k := some (.cuckooBucket 10 0) },
              { s := 3, l := 0, e := [], k := some (.cuckooBucket 10 1) }],
        k := some 10, mkey := some 11 } := by decide +kernel

theorem C10_sample_cms :
    CMSMem.exportDoc { core := { rows := 2, cols := 3, m := [[1, 0, 4], [0, 5, 0]] }, allSum := 7 } =
      { r := 2, c := 3, s := 7, m := [[1, 0, 4], [0, 5, 0]] } ∧
    CMSMem.importDoc { r := 2, c := 3, s := 7, m := [[1, 0, 4], [0, 5, 0]] } ⟨⟨1, 1, [[9]]⟩, 9⟩ =
      { core := { rows := 2, cols := 3, m := [[1, 0, 4], [0, 5, 0]] }, allSum := 7 } ∧
    (let st : Store := fun k => if k = .cmsRow 10 0 then .nums [1, 0, 4] else
        if k = .cmsRow 10 1 then .nums [0, 5, 0] else .absent
     CMSRedis.exportDoc { rows := 2, cols := 3, allSum := 7, key := 10, metadataKey := 11 } st =
      { r := 2, c := 3, s := 7, m := [[1, 0, 4], [0, 5, 0]], k := some 10 }) := by decide +kernel

theorem C10_sample_hll :
    HLLMem.exportDoc { core := { m := 4, regs := [0, 17, 3, 255] }, nbp := 2, bias := 99 } =
      { nr := 4, nbp := 2, c := 99, r := [0, 17, 3, 255] } ∧
    HLLMem.importDoc { nr := 4, nbp := 2, c := 99, r := [0, 17, 3, 255] } ⟨⟨16, []⟩, 4, 1⟩ =
      { core := { m := 4, regs := [0, 17, 3, 255] }, nbp := 2, bias := 99 } ∧
    (let st : Store := fun k => if k = .rand 10 then .nums [0, 17, 3, 255] else .absent
     HLLRedis.exportDoc { m := 4, nbp := 2, bias := 99, key := 10, metadataKey := 11 } st =
      { nr := 4, nbp := 2, c := 99, r := [0, 17, 3, 255], k := some 10 }) := by decide +kernel

theorem C10_sample_topkMem :
    let t : TopKMem String :=
      { k := 5, errorRate := 11, accuracy := 12,
        sketch := { core := { rows := 2, cols := 3, m := [[1, 0, 4], [0, 5, 0]] }, allSum := 7 },
        heap := [("a", 2), ("b", 9)] }
    let d := t.exportDoc
    d.k = 5 ∧ d.er = 11 ∧ d.a = 12 ∧ d.s = { r := 2, c := 3, s := 7, m := [[1, 0, 4], [0, 5, 0]] } ∧
    d.h = [("a", 2), ("b", 9)] ∧ d.hk = none := by decide +kernel

theorem C10_sample_topkRedis :
    let st : Store := fun k => if k = .cmsRow 10 0 then .nums [1, 0, 4] else
        if k = .cmsRow 10 1 then .nums [0, 5, 0] else .absent
    let z : ZStore String := fun k => if k = 20 then [("a", 2), ("b", 9)] else []
    let h : TopKRedis :=
      { k := 5, errorRate := 11, accuracy := 12,
        sketch := { rows := 2, cols := 3, allSum := 7, key := 10, metadataKey := 11 }, heapKey := 20, metadataKey := 21 }
    let d := h.exportDoc st z
    d.k = 5 ∧ d.er = 11 ∧ d.a = 12 ∧ d.s = { r := 2, c := 3, s := 7, m := [[1, 0, 4], [0, 5, 0]], k := some 10 } ∧
    d.h = [("a", 2), ("b", 9)] ∧ d.hk = some 20 := by decide +kernel

end Gostatix.Generated
