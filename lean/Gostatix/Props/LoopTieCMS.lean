/-
  LoopTieCMS — the LOOPS of the in-memory Count-Min sketch are the list recursions of the machine
  model, for all inputs.

  extract/loops.go translates `getPositions` (base_count_min_sketch.go), `Update`, `Count`, `Merge`
  (count_min_sketch.go) of the CURRENT Go source as WHOLE bodies, loops included, into
  Generated/Loops.lean (`cmsGetPositions`, `cmsUpdate`, `cmsCount`, `cmsMerge`) over the record
  `Generated.Loops.Sketch` of the struct's fields, with the semantics of Model/GoLoop.lean: every
  index is checked, `none` is a Go run-time panic, `metro.Hash128` is an arbitrary function `H`,
  the lock calls are skipped (they are the lock table's business).  A function the translator
  could not translate has NO definition and the theorems naming it fail to elaborate.

  The theorems hold for every `H`, `data`, `count` and every sketch satisfying `WFM`
  (`len(matrix) = rows`, every row has `columns` entries, `0 < columns`).  OUTSIDE `WFM` nothing is
  claimed: the model treats an out-of-range position as a no-op (Model/CMSM.lean), the Go code
  PANICS on a short row, and so does the generated definition (examples at the end).
  This file does NOT import Generated/Arith.lean (Props/LoopTieCMSKernels.lean connects the two),
  so a harmless rewrite that only arith.go refuses leaves it green.

  NOT covered: the byte-level hash, locking (Generated/LockTable.lean), lengths Go cannot have
  (`WFM` bounds `len(matrix)` by `rows < 2^64`), rows of the matrix that share storage (slices are
  values here; `NewCountMinSketch`, `Import` and `ReadFrom` make every row separately).
-/
import Gostatix.Proofs.LoopTieCMS
-- the simp sets are wider than today's generated terms need, so that an equivalent spelling of
-- the Go source (operands swapped, a local introduced) keeps the proofs valid
set_option linter.unusedSimpArgs false

namespace Gostatix.LoopTie
open Gostatix Gostatix.GoLoop Gostatix.Generated.Loops

/-- the opaque hash: `metro.Hash128(data, seed)` -/
abbrev Hash := List UInt8 → UInt64 → UInt64 × UInt64

/-- the two hash words `getPositions` uses (seed 1373, as in the source: see `tie_loop_getPositions`) -/
def h1 (H : Hash) (data : List UInt8) : UInt64 := (H data 1373).1
def h2 (H : Hash) (data : List UInt8) : UInt64 := (H data 1373).2

def WFM (s : Sketch) : Prop :=
  s.matrix.length = s.rows.toNat ∧ (∀ row ∈ s.matrix, row.length = s.columns.toNat) ∧ 0 < s.columns

instance (s : Sketch) : Decidable (WFM s) := by unfold WFM; infer_instance

/-- the record of the generated code as a state of the machine model -/
def toM (s : Sketch) : CMSM :=
  { rows := s.rows.toNat, cols := s.columns.toNat, allSum := s.allSum, m := s.matrix }

/-- the model state `t` put back into the record (`rows` / `columns` are never stored to) -/
def ofM (s : Sketch) (t : CMSM) : Sketch := { s with allSum := t.allSum, matrix := t.m }

theorem ofM_toM (s : Sketch) : ofM s (toM s) = s := rfl

/-- `NewCountMinSketch(rows, columns)` (after its `rows <= 0 || columns <= 0` check) -/
def newSketch (rows columns : UInt64) : Sketch :=
  { rows := rows, columns := columns, allSum := 0,
    matrix := List.replicate rows.toNat (List.replicate columns.toNat 0) }

theorem toM_new (rows columns : UInt64) : toM (newSketch rows columns) = CMSM.new rows.toNat columns.toNat := rfl

def positions (H : Hash) (s : Sketch) (data : List UInt8) : List Nat :=
  CMS.positionsOf (h1 H data).toNat (h2 H data).toNat s.rows.toNat s.columns.toNat

/-- the same list as the Go code holds it (`[]uint`), entry `c` is `posOf h1 h2 columns c`, the
    expression of the source (`uint((hash1 + uint64(c)*hash2) % uint64(cms.columns))`) -/
def positionsU (H : Hash) (s : Sketch) (data : List UInt8) : List UInt64 :=
  (List.range s.rows.toNat).map (posOf (h1 H data) (h2 H data) s.columns)

theorem posOf_toNat (a b cols : UInt64) (c : Nat) (hc : c < 2 ^ 64) :
    (posOf a b cols c).toNat = CMS.position a.toNat b.toNat c cols.toNat := by
  simp only [posOf, CMS.position, UInt64.toNat_mod, UInt64.toNat_add, UInt64.toNat_mul,
    UInt64.toNat_ofNat_of_lt' hc, Nat.add_mod_mod]

theorem positionsU_toNat (H : Hash) (s : Sketch) (data : List UInt8) :
    (positionsU H s data).map UInt64.toNat = positions H s data := by
  simp only [positionsU, positions, CMS.positionsOf, List.map_map]
  apply List.map_congr_left
  intro c hcr
  have := List.mem_range.1 hcr
  exact posOf_toNat _ _ _ c (Nat.lt_trans this s.rows.toNat_lt)

/-- **`getPositions` fills every entry**: `rows` entries, entry `c` is `posOf h1 h2 columns c`. -/
theorem tie_loop_getPositionsU (H : Hash) (s : Sketch) (data : List UInt8) (hc : 0 < s.columns) :
    cmsGetPositions H s data = some (positionsU H s data) := by
  have hc' : s.columns ≠ 0 := by intro h; rw [h] at hc; exact absurd hc (by decide)
  have hlen : (List.replicate s.rows.toNat (0 : UInt64)).length = s.rows.toNat := by simp
  have := getPositions_loop s (h1 H data) (h2 H data) (List.replicate s.rows.toNat 0) hlen hc'
  rw [hlen] at this
  simp [cmsGetPositions, positionsU, h1, h2] at this ⊢
  exact this

/-- **`getPositions` = `positions` of the models** (read as numbers). -/
theorem tie_loop_getPositions (H : Hash) (s : Sketch) (data : List UInt8) (hc : 0 < s.columns) :
    (cmsGetPositions H s data).map (List.map UInt64.toNat) = some (positions H s data) := by
  rw [tie_loop_getPositionsU H s data hc, Option.map_some, positionsU_toNat H s data]

theorem positionsU_lt (H : Hash) (s : Sketch) (data : List UInt8) (hc : 0 < s.columns)
    (j : Nat) (h : j < (positionsU H s data).length) : ((positionsU H s data)[j]).toNat < s.columns.toNat := by
  have hc' : 0 < s.columns.toNat := by
    have := UInt64.lt_iff_toNat_lt.1 hc
    simpa using this
  simp only [positionsU, List.getElem_map, posOf, UInt64.toNat_mod]
  exact Nat.mod_lt _ hc'

theorem positionsU_length (H : Hash) (s : Sketch) (data : List UInt8) :
    (positionsU H s data).length = s.rows.toNat := by simp [positionsU]

theorem WFM.row_length {s : Sketch} (h : WFM s) (j : Nat) (hj : j < s.matrix.length) :
    (s.matrix[j]).length = s.columns.toNat := h.2.1 _ (List.getElem_mem hj)

theorem WFM.length_le {s : Sketch} (h : WFM s) : s.matrix.length ≤ 2 ^ 64 := by
  rw [h.1]; exact Nat.le_of_lt s.rows.toNat_lt

/-- **`Update`, the whole function**: every row once, the cell at the position of that row, then `allSum`. -/
theorem tie_loop_update (H : Hash) (s : Sketch) (data : List UInt8) (count : UInt64) (h : WFM s) :
    cmsUpdate H s data count = some (ofM s (CMSM.updateM (toM s) (positions H s data) count)) := by
  have hl := update_loop s count (positionsU H s data)
    (by rw [positionsU_length, h.1]) h.1
    (fun j hj hj' => by rw [h.row_length j hj']; exact positionsU_lt H s data h.2.2 j hj)
  rw [positionsU_toNat H s data] at hl
  simp [cmsUpdate, tie_loop_getPositionsU H s data h.2.2, hl, ofM, toM, CMSM.updateM, CMSM.allSumUpdate]

theorem tie_loop_update_fields (H : Hash) (s : Sketch) (data : List UInt8) (count : UInt64) (h : WFM s) :
    cmsUpdate H s data count
      = some { s with matrix := CMSM.updRowsM s.matrix (positions H s data) count,
                      allSum := s.allSum + count } := by
  rw [tie_loop_update H s data count h]; rfl

/-- **`Count`, the whole function**: the minimum over ALL rows, started from the first row's cell. -/
theorem tie_loop_count (H : Hash) (s : Sketch) (data : List UInt8) (h : WFM s) :
    cmsCount H s data = some (CMSM.countM (toM s) (positions H s data)) := by
  have hl := count_loop s (positionsU H s data)
    (by rw [positionsU_length, h.1]) h.1
    (fun j hj hj' => by rw [h.row_length j hj']; exact positionsU_lt H s data h.2.2 j hj)
  rw [positionsU_toNat H s data] at hl
  simp [cmsCount, tie_loop_getPositionsU H s data h.2.2, hl, toM, CMSM.countM]

/-- **`Merge`, the whole function**, both error exits included. -/
theorem tie_loop_merge (a b : Sketch) (ha : WFM a) (hb : WFM b) :
    cmsMerge a b
      = some (if a.rows ≠ b.rows then (a, cmsMergeErr.errRow)
              else if a.columns ≠ b.columns then (a, cmsMergeErr.errColumn)
              else ({ a with matrix := CMSM.addRowsM a.matrix b.matrix }, cmsMergeErr.nil)) := by
  by_cases hr : a.rows = b.rows
  · by_cases hc : a.columns = b.columns
    · have hlen : b.matrix.length = a.matrix.length := by rw [ha.1, hb.1, hr]
      have h1 := merge_loop1 b (List.replicate b.matrix.length []) (by simp) hb.1
      have h2 := merge_loop2 a b.matrix hlen ha.1 (fun j hj' => ha.row_length j hj')
        (fun j hj => by rw [hb.row_length j hj, hc])
      simp [cmsMerge, hr, hc, h1, h2]
    · simp [cmsMerge, hr, hc]
  · simp [cmsMerge, hr]

/-- a rejected merge leaves the receiver unchanged (and says which check failed) -/
theorem tie_loop_merge_rejected (a b : Sketch) (ha : WFM a) (hb : WFM b)
    (h : a.rows ≠ b.rows ∨ a.columns ≠ b.columns) :
    ∃ e, e ≠ cmsMergeErr.nil ∧ cmsMerge a b = some (a, e)
      ∧ (e = cmsMergeErr.errRow ↔ a.rows ≠ b.rows) := by
  rw [tie_loop_merge a b ha hb]
  by_cases hr : a.rows = b.rows
  · have hc : a.columns ≠ b.columns := by
      cases h with
      | inl h => exact absurd hr h
      | inr h => exact h
    exact ⟨.errColumn, by decide, by simp [hr, hc], by simp [hr]⟩
  · exact ⟨.errRow, by decide, by simp [hr], by simp [hr]⟩

/-- with the model: `mergeM` rejects exactly when the code returns an error (and then nothing is
    stored), and otherwise the new receiver is the model's result. -/
theorem tie_loop_merge_model (a b : Sketch) (ha : WFM a) (hb : WFM b) :
    match CMSM.mergeM (toM a) (toM b) with
    | .err => ∃ e, e ≠ cmsMergeErr.nil ∧ cmsMerge a b = some (a, e)
    | .ok t => cmsMerge a b = some (ofM a t, cmsMergeErr.nil) := by
  rw [tie_loop_merge a b ha hb]
  have er : (toM a).rows = (toM b).rows ↔ a.rows = b.rows := by
    simp [toM, UInt64.toNat_inj]
  have ec : (toM a).cols = (toM b).cols ↔ a.columns = b.columns := by
    simp [toM, UInt64.toNat_inj]
  by_cases hr : a.rows = b.rows
  · by_cases hc : a.columns = b.columns
    · simp [CMSM.mergeM, er, ec, hr, hc, ofM, toM]
    · simp [CMSM.mergeM, er, ec, hr, hc]
  · simp [CMSM.mergeM, er, hr]

theorem WFM_new (rows columns : UInt64) (hc : 0 < columns) : WFM (newSketch rows columns) := by
  refine ⟨by simp [newSketch], ?_, hc⟩
  intro row hrow
  simp [newSketch] at hrow
  simp [newSketch, hrow.2]

theorem WFM_update (H : Hash) (s : Sketch) (data : List UInt8) (count : UInt64) (h : WFM s) :
    ∃ s', cmsUpdate H s data count = some s' ∧ WFM s' := by
  refine ⟨_, tie_loop_update H s data count h, ?_, ?_, h.2.2⟩
  · show (CMSM.updRowsM s.matrix _ count).length = s.rows.toNat
    rw [CMSM.updRowsM_eq, Rows.length_updWith, h.1]
  · show ∀ row ∈ CMSM.updRowsM s.matrix _ count, row.length = s.columns.toNat
    rw [CMSM.updRowsM_eq]
    exact Rows.row_length_updWith _ _ _ _ h.2.1

/-- whether the merge is rejected or not -/
theorem WFM_merge (a b : Sketch) (ha : WFM a) (hb : WFM b) :
    ∃ a' e, cmsMerge a b = some (a', e) ∧ WFM a' := by
  rw [tie_loop_merge a b ha hb]
  by_cases hr : a.rows = b.rows
  · by_cases hc : a.columns = b.columns
    · refine ⟨{ a with matrix := CMSM.addRowsM a.matrix b.matrix }, .nil, by simp [hr, hc], ?_, ?_, ha.2.2⟩
      · show (CMSM.addRowsM a.matrix b.matrix).length = a.rows.toNat
        rw [CMSM.addRowsM_eq, Rows.length_zipRows, ha.1]
      · show ∀ row ∈ CMSM.addRowsM a.matrix b.matrix, row.length = a.columns.toNat
        rw [CMSM.addRowsM_eq]
        exact Rows.row_length_zipRows _ _ _ _ ha.2.1 (hc ▸ hb.2.1)
    · exact ⟨a, .errColumn, by simp [hr, hc], ha⟩
  · exact ⟨a, .errRow, by simp [hr], ha⟩

theorem loops_all_translated : Generated.Loops.unsupported = [] := rfl

/-! ### examples; states outside `WFM` -/

/-- a hash for the examples: the two words are the first two bytes -/
def exH : Hash := fun data _ => ((data.getD 0 0).toUInt64, (data.getD 1 0).toUInt64)

/-- 3 rows, 4 columns, `h1 = 1`, `h2 = 2`: positions 1, 3, 1 -/
example : cmsGetPositions exH (newSketch 3 4) [1, 2] = some [1, 3, 1] := by decide +kernel

example : (cmsUpdate exH (newSketch 3 4) [1, 2] 5).map (·.matrix)
    = some [[0, 5, 0, 0], [0, 0, 0, 5], [0, 5, 0, 0]] := by decide +kernel

example : ((cmsUpdate exH (newSketch 3 4) [1, 2] 5).bind fun s => cmsCount exH s [1, 2]) = some 5 := by decide +kernel

/-- Count starts from the FIRST row's cell (not from 0): rows hold 7, 9 at the probed cells -/
example : cmsCount exH { rows := 2, columns := 1, allSum := 0, matrix := [[7], [9]] } [0, 0] = some 7 := by decide +kernel
example : cmsCount exH { rows := 2, columns := 1, allSum := 0, matrix := [[9], [7]] } [0, 0] = some 7 := by decide +kernel

example : cmsMerge (newSketch 2 2) (newSketch 3 2) = some (newSketch 2 2, cmsMergeErr.errRow) := by decide +kernel
example : cmsMerge (newSketch 2 2) (newSketch 2 3) = some (newSketch 2 2, cmsMergeErr.errColumn) := by decide +kernel
example : cmsMerge { rows := 1, columns := 2, allSum := 3, matrix := [[1, 18446744073709551615]] }
                   { rows := 1, columns := 2, allSum := 4, matrix := [[2, 2]] }
    = some ({ rows := 1, columns := 2, allSum := 3, matrix := [[3, 1]] }, cmsMergeErr.nil) := by decide +kernel

/-- OUTSIDE `WFM`: a short row.  The Go code panics (index out of range); the generated definition
    yields `none`, whereas the model `CMSM.updateM` treats the position as a no-op. -/
def shortRow : Sketch := { rows := 2, columns := 4, allSum := 0, matrix := [[0, 0, 0, 0], [0, 0]] }

example : ¬ WFM shortRow := by decide +kernel
example : cmsGetPositions exH shortRow [1, 2] = some [1, 3] := by decide +kernel
example : cmsUpdate exH shortRow [1, 2] 5 = none := by decide +kernel
example : cmsCount exH shortRow [1, 2] = none := by decide +kernel
example : (CMSM.updateM (toM shortRow) (positions exH shortRow [1, 2]) 5).m = [[0, 5, 0, 0], [0, 0]] := by decide +kernel
/-- a missing row: `Merge` panics on `other[i]`; zero columns: `getPositions` divides by zero -/
example : cmsMerge { rows := 2, columns := 1, allSum := 0, matrix := [[1], [2]] }
                   { rows := 2, columns := 1, allSum := 0, matrix := [[1]] } = none := by decide +kernel
example : cmsGetPositions exH { rows := 1, columns := 0, allSum := 0, matrix := [[]] } [1, 2] = none := by decide +kernel

end Gostatix.LoopTie
