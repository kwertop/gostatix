/-
  C08TopK — Top-K: the Redis-backed and the in-memory variant report identical entries, up to
  the choice among entries tied at the smallest reported count.

  Both variants are refinements of ONE specification step (`TopK.Step`, Model/TopKSpec.lean),
  which reads heaps as multisets and leaves exactly one thing open: WHICH entry of minimal
  frequency is evicted.  `container/heap` evicts the root of its array, the sorted set evicts the
  least (score, member); they agree whenever the minimal frequency is carried by a single entry.

  Without a tie the two states stay permutations of each other and `Values` returns EQUAL lists,
  after every insert of a history; with a tie the results differ at most in the victim (the
  reported COUNTS are still the same multiset), and `C08_topk_tie_differs` shows the reported
  elements can differ, so `NoTie` cannot be dropped.
-/
import Gostatix.Props.C04
import Gostatix.Proofs.TopKAgree
import Gostatix.Proofs.TopKE2E
namespace Gostatix.TopK

theorem C08_topk_agree_def (h : Array HElem) (z : List HElem) :
    Agree h z ↔ (HeapInv h ∧ (h.toList.map (·.1)).Nodup ∧
      z.Pairwise (fun a b => zLt a b = true) ∧ h.toList.Perm z) :=
  ⟨fun a => ⟨a.heapInv, a.nodup, a.sorted, a.perm⟩, fun ⟨a, b, c, d⟩ => ⟨a, b, c, d⟩⟩

theorem C08_topk_agree_empty : Agree #[] [] := agree_empty

/-- **Both variants are steps of the same specification from permutation-equal heaps.**
    (The duplicate-freeness of `z` follows from that of `h`.) -/
theorem C08_topk_same_spec (k : Nat) (h : Array HElem) (z : List HElem) (x : String) (f : Nat)
    (hinv : HeapInv h) (hn : (h.toList.map (·.1)).Nodup)
    (hs : z.Pairwise (fun a b => zLt a b = true)) (hp : h.toList.Perm z) :
    Step k z (x, f) (offer k h x f).toList ∧ Step k z (x, f) (offerRedis k z x f) ∧
    Step k h.toList (x, f) (offer k h x f).toList ∧
    Step k h.toList (x, f) (offerRedis k z x f) := by
  obtain ⟨s1, s2⟩ := both_step k h z x f ⟨hinv, hn, hs, hp⟩
  exact ⟨s1, s2, step_perm_left hp.symm s1, step_perm_left hp.symm s2⟩

theorem C08_topk_step_perm {E : Type} [DecidableEq E] {k : Nat} {h1 h2 h' : List (E × Nat)}
    {xf : E × Nat} (hp : h1.Perm h2) : Step k h1 xf h' ↔ Step k h2 xf h' :=
  ⟨step_perm_left hp, step_perm_left hp.symm⟩

/-- **Uniqueness of the successor**: without a tie to break, any two results of the
    specification step are permutations of each other. -/
theorem C08_topk_step_unique {E : Type} [DecidableEq E] {k : Nat} {heap h1 h2 : List (E × Nat)}
    {x : E} {f : Nat} (hnt : NoTie k heap x f)
    (s1 : Step k heap (x, f) h1) (s2 : Step k heap (x, f) h2) : h1.Perm h2 :=
  step_unique (xf := (x, f)) hnt s1 s2

/-- sufficient conditions for `NoTie`: the insert is rejected; nothing is evicted; or no two
    entries of `upsert heap x f` share the minimal frequency. -/
theorem C08_topk_noTie_of {E : Type} [DecidableEq E] (k : Nat) (heap : List (E × Nat)) (x : E)
    (f : Nat) :
    (¬ Admit k heap f → NoTie k heap x f) ∧
    ((upsert heap x f).length ≤ k → NoTie k heap x f) ∧
    ((∀ a ∈ upsert heap x f, ∀ b ∈ upsert heap x f,
        (∀ e ∈ upsert heap x f, a.2 ≤ e.2) → a.2 = b.2 → a = b) → NoTie k heap x f) :=
  ⟨fun h hA => absurd hA h, fun h _ hgt => absurd hgt (Nat.not_lt.2 h),
    fun h _ _ a ha b hb hamin hbmin =>
      h a ha b hb hamin (Nat.le_antisymm (hamin b hb) (hbmin a ha))⟩

theorem C08_topk_noTie_perm {k : Nat} {h : Array HElem} {z : List HElem} (hp : h.toList.Perm z)
    (x : String) (f : Nat) : NoTie k h.toList x f ↔ NoTie k z x f :=
  ⟨noTie_perm hp x f, noTie_perm hp.symm x f⟩

/-- **`Values` is a function of the multiset of entries**: it sorts by (count descending,
    element ascending), a total order on entries, so permuted heaps give EQUAL lists. -/
theorem C08_topk_values_eq_of_perm {l1 l2 : List HElem} (hp : l1.Perm l2) :
    values l1 = values l2 := values_eq_of_perm hp

/-- **One insert, no tie**: from permutation-equal states the two results are permutations of
    each other again (and satisfy the state invariants again), hence `Values` of both are EQUAL
    lists. -/
theorem C08_topk_no_tie_equal (k : Nat) (h : Array HElem) (z : List HElem) (x : String) (f : Nat)
    (hinv : HeapInv h) (hn : (h.toList.map (·.1)).Nodup)
    (hs : z.Pairwise (fun a b => zLt a b = true)) (hp : h.toList.Perm z)
    (hnt : NoTie k z x f) :
    (offer k h x f).toList.Perm (offerRedis k z x f) ∧
    values (offer k h x f).toList = values (offerRedis k z x f) ∧
    Agree (offer k h x f) (offerRedis k z x f) := by
  have ha := agree_step k h z x f ⟨hinv, hn, hs, hp⟩ hnt
  exact ⟨ha.perm, values_eq_of_perm ha.perm, ha⟩

/-- **History level**: run the same estimates through both variants from the empty states.  As
    long as no eviction had to choose between tied minimal entries (`NoTieRun`), after EVERY
    insert the two states are permutations of each other and `Values` returns equal lists. -/
theorem C08_topk_history (k : Nat) (evs : List (Event String)) (hnt : NoTieRun k [] evs) (n : Nat) :
    let hm := (evs.take n).foldl (fun h e => offer k h e.x e.f) #[]
    let zr := (evs.take n).foldl (fun z e => offerRedis k z e.x e.f) []
    hm.toList.Perm zr ∧ values hm.toList = values zr := by
  intro hm zr
  have ha := agree_run k evs #[] [] agree_empty hnt n
  exact ⟨ha.perm, values_eq_of_perm ha.perm⟩

/-- only the inserts up to the first tie matter: if the first `m` inserts have no tie to break,
    the two variants agree after each of the first `m` inserts, whatever comes later -/
theorem C08_topk_history_until (k : Nat) (evs : List (Event String)) (m : Nat)
    (hnt : NoTieRun k [] (evs.take m)) (n : Nat) (hn : n ≤ m) :
    values ((evs.take n).foldl (fun h e => offer k h e.x e.f) #[]).toList =
      values ((evs.take n).foldl (fun z e => offerRedis k z e.x e.f) []) := by
  have := (C08_topk_history k (evs.take m) hnt n).2
  rwa [List.take_take, Nat.min_eq_left hn] at this

/-- **History level, whole `Insert`s**: both variants run from fresh states over the same
    insertion history with the same position function (hence the same sketch and the same
    estimates).  Without a tie to break, `Values()` agree after every insert. -/
theorem C08_topk_history_insert (pos : String → List Nat) (rows cols k : Nat)
    (ops : List (String × Nat))
    (hnt : NoTieRun k [] (sketchEvents pos (CMS.new rows cols) ops)) (n : Nat) :
    let t := (ops.take n).foldl (fun t o => t.insert o.1 (pos o.1) o.2)
      (⟨k, CMS.new rows cols, #[]⟩ : TopK)
    let st := (ops.take n).foldl (fun st o => insertRedis k st o.1 (pos o.1) o.2)
      (CMS.new rows cols, [])
    t.sketch = st.1 ∧ t.heap.toList.Perm st.2 ∧ values t.heap.toList = values st.2 := by
  intro t st
  have h1 : t.heap = _ := runInserts_heap pos ⟨k, CMS.new rows cols, #[]⟩ (ops.take n)
  have h2 : st.2 = _ := runInsertsRedis_zset pos k (CMS.new rows cols, []) (ops.take n)
  have h3 : t.sketch = _ := runInserts_sketch pos ⟨k, CMS.new rows cols, #[]⟩ (ops.take n)
  have h4 : st.1 = _ := runInsertsRedis_sketch pos k (CMS.new rows cols, []) (ops.take n)
  have := C08_topk_history k _ hnt n
  rw [sketchEvents_take] at this
  rw [h1, h2, h3, h4]
  exact ⟨rfl, this.1, this.2⟩

/-- **One insert, possibly with a tie**: from permutation-equal states either the results are
    permutations of each other, or both are `upsert z x f` minus one victim each, and the two
    victims carry the same, minimal, count. -/
theorem C08_topk_step_up_to_tie (k : Nat) (h : Array HElem) (z : List HElem) (x : String)
    (f : Nat) (ha : Agree h z) :
    (offer k h x f).toList.Perm (offerRedis k z x f) ∨
    ∃ v1 ∈ upsert z x f, ∃ v2 ∈ upsert z x f,
      (∀ e ∈ upsert z x f, v1.2 ≤ e.2) ∧ v1.2 = v2.2 ∧
      (offer k h x f).toList.Perm ((upsert z x f).erase v1) ∧
      (offerRedis k z x f).Perm ((upsert z x f).erase v2) := by
  obtain ⟨s1, s2⟩ := both_step k h z x f ha
  rcases step_two s1 s2 with hp | ⟨_, _, v1, hv1, v2, hv2, hmin1, hmin2, hp1, hp2⟩
  · exact Or.inl hp
  · exact Or.inr ⟨v1, hv1, v2, hv2, hmin1, Nat.le_antisymm (hmin1 v2 hv2) (hmin2 v1 hv1),
      hp1, hp2⟩

/-- hence, tie or not, one insert from permutation-equal states leaves the same multiset of
    reported COUNTS (the elements may differ only in the victim chosen among the tied ones). -/
theorem C08_topk_step_counts_equal (k : Nat) (h : Array HElem) (z : List HElem) (x : String)
    (f : Nat) (ha : Agree h z) :
    ((offer k h x f).toList.map (·.2)).Perm ((offerRedis k z x f).map (·.2)) := by
  rcases C08_topk_step_up_to_tie k h z x f ha with hp | ⟨v1, hv1, v2, hv2, _, he, hp1, hp2⟩
  · exact hp.map _
  · exact ((hp1.map _).trans (map_snd_erase_perm hv1 hv2 he)).trans (hp2.map _).symm

/-- and with ties anywhere in the history BOTH final states are still reachable heaps of the
    specification for the same events, so every C04 guarantee holds for both of them. -/
theorem C08_topk_both_reach (k : Nat) (evs : List (Event String)) :
    Reach k evs (evs.foldl (fun h e => offer k h e.x e.f) #[]).toList ∧
    Reach k evs (evs.foldl (fun z e => offerRedis k z e.x e.f) []) :=
  ⟨(C04_mem_reach k evs).1, (C04_redis_reach k evs).1⟩

/-- run with `k = 2`: "c" evicts "b" (the only entry with the minimal count 2), then "b" evicts "a" -/
def exNoTie : List (Event String) := [⟨"a", 3, 3⟩, ⟨"b", 2, 2⟩, ⟨"c", 4, 4⟩, ⟨"b", 3, 5⟩]

example : NoTieRun 2 [] exNoTie := by decide +kernel

example : exNoTie.foldl (fun z e => offerRedis 2 z e.x e.f) [] = [("c", 4), ("b", 5)] := by decide +kernel

example : exNoTie.foldl (fun h e => offer 2 h e.x e.f) #[] = #[("c", 4), ("b", 5)] := by
  rw [offer_eq_offerL]; decide +kernel

example : values [("c", 4), ("b", 5)] = [("b", 5), ("c", 4)] := by decide +kernel

example : ∀ n, values ((exNoTie.take n).foldl (fun h e => offer 2 h e.x e.f) #[]).toList =
    values ((exNoTie.take n).foldl (fun z e => offerRedis 2 z e.x e.f) []) :=
  fun n => (C08_topk_history 2 exNoTie (by decide +kernel) n).2

/-- run with `k = 2`: "b" arrives with count 1 while "c" is stored with count 1: a tie at the minimum -/
def exTie : List (Event String) := [⟨"a", 2, 2⟩, ⟨"c", 1, 1⟩, ⟨"b", 1, 1⟩]

/-- **`NoTie` cannot be dropped**: on `exTie` the heap evicts its root "c", the sorted set evicts
    its least member "b"; the reported elements differ (the reported counts do not). -/
theorem C08_topk_tie_differs :
    ¬ NoTieRun 2 [] exTie ∧
    values (exTie.foldl (fun h e => offer 2 h e.x e.f) #[]).toList = [("a", 2), ("b", 1)] ∧
    values (exTie.foldl (fun z e => offerRedis 2 z e.x e.f) []) = [("a", 2), ("c", 1)] := by
  refine ⟨by decide +kernel, ?_, by decide +kernel⟩
  rw [offer_eq_offerL]; decide +kernel

theorem C08_topk_values_not_always_equal :
    ¬ ∀ (k : Nat) (evs : List (Event String)),
      values (evs.foldl (fun h e => offer k h e.x e.f) #[]).toList =
        values (evs.foldl (fun z e => offerRedis k z e.x e.f) []) := by
  intro H
  have := H 2 exTie
  rw [C08_topk_tie_differs.2.1, C08_topk_tie_differs.2.2] at this
  revert this; decide +kernel

end Gostatix.TopK
