/-
  C08 (cuckoo bucket part) — the Redis-backed bucket answers as the list-and-counter model.

  `Gostatix.BucketRedis` (Model/Cuckoo.lean) models a bucket of bucket_redis.go as a list and a
  `len` counter.  Model/RedisCuckoo.lean goes one level down: the bucket is the Redis list `bk`
  and the Redis string `bk ++ "_len"` of a `Store`, the Lua scripts and plain commands are
  transcribed command by command, and `absBucket st bk size` reads the model bucket back.
  Each theorem: on a store with `absBucket st bk size = some b` (the list key is absent or a
  list, the counter key holds the canonical decimal spelling of `b.len`), the Redis-level
  operation returns what `BucketRedis.ops ""` returns on `b`, leaves a store that represents the
  model's new bucket, and changes no key other than `bk` and `bk ++ "_len"`.
    * `C08_bucket_remove` needs the element present (the Go caller `Remove` calls `lookup` first)
      AND `0 < b.len`; the second is NOT implied by the first: `C08_bucket_remove_underflow` —
      with the empty fingerprint (known finding D3) the counter goes to "-1" where the model
      keeps 0.  For a well-formed bucket and a non-empty element it is implied
      (`C08_bucket_remove_wf`).
    * `C08_bucket_at`, `C08_bucket_set` need NO range precondition: out of range, LINDEX answers
      nil (the callers read ""), LSET fails without writing, as the model's `getD`/`List.set`.
-/
import Gostatix.Proofs.RedisBucket
import Gostatix.Proofs.RedisFrameOps
namespace Gostatix.Redis

theorem C08_bucket_abs_iff (st : Store) (bk : String) (size : Nat) (b : BucketRedis String) :
    absBucket st bk size = some b ↔
      b.size = size ∧ (st bk = none ∧ b.list = [] ∨ st bk = some (.list b.list)) ∧
      st (bk ++ "_len") = some (.str (asciiBytes (decimal b.len))) := by
  unfold absBucket
  rw [bucketLenKey_eq]
  constructor
  · intro h
    split at h
    · rename_i l bytes hl hb
      split at h
      · rename_i n hn
        split at h
        · rename_i hcanon
          cases h
          refine ⟨rfl, ?_, by rw [hb, hcanon]⟩
          unfold listAt at hl
          split at hl
          · rename_i h0; cases hl; exact Or.inl ⟨h0, rfl⟩
          · rename_i l' h0; cases hl; exact Or.inr h0
          · cases hl
        · cases h
      · cases h
    · cases h
  · rintro ⟨hsz, hl, hb⟩
    have hl' : listAt st bk = some b.list := by
      unfold listAt
      rcases hl with ⟨h0, h1⟩ | h0
      · rw [h0, h1]
      · rw [h0]
    rw [hl', hb]
    simp only [latin1_ascii_decimal, parseDecimal_decimal, if_true]
    cases b; simp only at hsz; subst hsz; rfl

theorem C08_bucket_new (st : Store) (bk : String) (size : Nat)
    (h1 : st bk = none) (h2 : st (bk ++ "_len") = none) :
    ∃ st', bucketNew bk st = (st', some ()) ∧ absBucket st' bk size = some (BucketRedis.new size) ∧
      ∀ k, k ≠ bk ++ "_len" → st' k = st k := by
  have hK := bucketLenKey_ne bk
  refine ⟨st.set (bucketLenKey bk) (.str (asciiBytes (decimal 0))), ?_, ?_,
    fun k hk => Store.set_ne _ _ hk⟩
  · unfold bucketNew
    rw [Script.bind_ok (Script.try_ok (show cmdINCRBY (bucketLenKey bk) 0 st = _ from by
      unfold cmdINCRBY; rw [show st (bucketLenKey bk) = none from h2]))]
    rfl
  · refine (C08_bucket_abs_iff _ _ _ _).mpr ⟨rfl, Or.inl ⟨?_, rfl⟩, Store.set_self _ _ _⟩
    rw [Store.set_ne _ _ (Ne.symm hK)]; exact h1

theorem C08_bucket_isFree (st : Store) (bk : String) (size : Nat) (b : BucketRedis String)
    (habs : absBucket st bk size = some b) :
    bucketIsFree bk size st = (st, (BucketRedis.ops "").isFree b) := by
  obtain ⟨hsz, _, hlen⟩ := (C08_bucket_abs_iff _ _ _ _).mp habs
  unfold bucketIsFree bucketIsFreeScript
  rw [goBool_eq (bucket_readLen hlen _)]
  simp only [Option.getD_some, BucketRedis.ops, BucketRedis.isFree, hsz, Int.ofNat_lt]

/-- `add`: the Boolean is the Go method's first result (`false` for "" and for a full bucket). -/
theorem C08_bucket_add (st : Store) (bk : String) (size : Nat) (b : BucketRedis String) (e : String)
    (habs : absBucket st bk size = some b) :
    ∃ st', bucketAdd bk size e st =
        (st', decide (e ≠ "" ∧ (BucketRedis.ops "").isFree b = true)) ∧
      absBucket st' bk size = some ((BucketRedis.ops "").add b e) ∧
      ∀ k, k ≠ bk → k ≠ bk ++ "_len" → st' k = st k := by
  obtain ⟨hsz, hlist, hlen⟩ := (C08_bucket_abs_iff _ _ _ _).mp habs
  have hK := bucketLenKey_ne bk
  unfold bucketAdd
  by_cases he : e = ""
  · refine ⟨st, by rw [if_pos he, decide_eq_false fun h => h.1 he], ?_, fun _ _ _ => rfl⟩
    rw [habs]
    exact congrArg some (if_pos (Or.inl he)).symm
  rw [if_neg he]
  by_cases hfree : b.len < size
  · -- room: the element goes into the first hole or in front, the counter is incremented
    have hmodel : (BucketRedis.ops "").add b e =
        ⟨size, if b.list.contains "" then b.list.set (b.list.idxOf "") e else e :: b.list,
          b.len + 1⟩ := by
      simp only [BucketRedis.ops, BucketRedis.add, BucketRedis.isFree, hsz, he, false_or]
      rw [if_neg (by simpa using hfree)]
      split <;> rfl
    have hscript : bucketAddScript bk size e st =
        ((st.set bk (.list (if b.list.contains "" then b.list.set (b.list.idxOf "") e
          else e :: b.list))).set (bucketLenKey bk) (.str (asciiBytes (decimal (b.len + 1)))),
        some true) := by
      unfold bucketAddScript
      rw [bucket_readLen hlen, if_neg (Int.not_le.mpr (Int.ofNat_lt.mpr hfree)),
        Script.bind_ok (bucketStoreElement_at hlist e),
        Script.bind_ok (Script.try_ok (cmdINCRBY_decimal ((Store.set_ne _ _ hK).trans hlen) 1))]
      rfl
    rw [goBool_eq hscript]
    refine ⟨_, Prod.ext rfl ?_, ?_,
      fun k hk1 hk2 => (Store.set_ne _ _ hk2).trans (Store.set_ne _ _ hk1)⟩
    · simp only [Option.getD_some, BucketRedis.ops, BucketRedis.isFree, hsz, hfree, he,
        ne_eq, not_false_eq_true, decide_true, and_self]
    · rw [hmodel]
      exact (C08_bucket_abs_iff _ _ _ _).mpr ⟨rfl,
        Or.inr ((Store.set_ne _ _ hK.symm).trans (Store.set_self _ _ _)), Store.set_self _ _ _⟩
  · -- full: the script answers false and writes nothing
    have hscript : bucketAddScript bk size e st = (st, some false) := by
      unfold bucketAddScript
      rw [bucket_readLen hlen, if_pos (Int.ofNat_le.mpr (Nat.le_of_not_lt hfree))]
      rfl
    refine ⟨st, ?_, ?_, fun _ _ _ => rfl⟩
    · rw [goBool_eq hscript]
      simp only [Option.getD_some, BucketRedis.ops, BucketRedis.isFree, hsz, hfree,
        decide_false, Bool.false_eq_true, and_false]
    · rw [habs]; congr 1
      simp only [BucketRedis.ops, BucketRedis.add, BucketRedis.isFree, hsz]
      rw [if_pos (Or.inr (by simpa using hfree))]

theorem C08_bucket_remove (st : Store) (bk : String) (size : Nat) (b : BucketRedis String)
    (e : String) (habs : absBucket st bk size = some b)
    (hpresent : (BucketRedis.ops "").lookup b e = true) (hlen : 0 < b.len) :
    ∃ st', bucketRemove bk e st = (st', some true) ∧
      absBucket st' bk size = some ((BucketRedis.ops "").remove b e) ∧
      ∀ k, k ≠ bk → k ≠ bk ++ "_len" → st' k = st k := by
  obtain ⟨hsz, hlist, hcnt⟩ := (C08_bucket_abs_iff _ _ _ _).mp habs
  have hK := bucketLenKey_ne bk
  have hc : b.list.contains e = true := hpresent
  refine ⟨(st.set bk (.list (b.list.set (b.list.idxOf e) ""))).set (bucketLenKey bk)
      (.str (asciiBytes (decimal (b.len - 1)))), ?_, ?_,
    fun k hk1 hk2 => (Store.set_ne _ _ hk2).trans (Store.set_ne _ _ hk1)⟩
  · unfold bucketRemove
    rw [Script.bind_ok (cmdLPOS_at hlist _)]
    simp only [lpos, hc, if_true]
    rw [Script.bind_ok ((cmdLSET_at hlist _ _).trans (if_pos (contains_idxOf_lt hc))),
      Script.bind_ok (Script.try_ok (cmdINCRBY_decimal ((Store.set_ne _ _ hK).trans hcnt) (-1))),
      renderInt_pred hlen]
    rfl
  · simp only [BucketRedis.ops, BucketRedis.remove, hc, if_true]
    exact (C08_bucket_abs_iff _ _ _ _).mpr ⟨hsz,
      Or.inr ((Store.set_ne _ _ hK.symm).trans (Store.set_self _ _ _)), Store.set_self _ _ _⟩

def occupied (l : List String) : Nat := (l.filter (· ≠ "")).length

/-- for a well-formed bucket (`len` counts the non-empty entries — what `add`/`remove` of
    non-empty elements maintain) a present NON-EMPTY element is enough. -/
theorem C08_bucket_remove_wf (st : Store) (bk : String) (size : Nat) (b : BucketRedis String)
    (e : String) (habs : absBucket st bk size = some b)
    (hpresent : (BucketRedis.ops "").lookup b e = true) (he : e ≠ "")
    (hwf : b.len = occupied b.list) :
    ∃ st', bucketRemove bk e st = (st', some true) ∧
      absBucket st' bk size = some ((BucketRedis.ops "").remove b e) ∧
      ∀ k, k ≠ bk → k ≠ bk ++ "_len" → st' k = st k := by
  refine C08_bucket_remove st bk size b e habs hpresent ?_
  rw [hwf]; unfold occupied
  have hmem : e ∈ b.list := List.contains_iff_mem.mp hpresent
  exact List.length_pos_of_mem (List.mem_filter.mpr ⟨hmem, by simpa using he⟩)

/-- an absent element (not what the Go caller does, but the script is safe): LPOS answers nil,
    `redis.call('LSET', key, false, '')` raises, nothing is written; the model's `remove` is the
    identity too. -/
theorem C08_bucket_remove_absent (st : Store) (bk : String) (size : Nat) (b : BucketRedis String)
    (e : String) (habs : absBucket st bk size = some b)
    (habsent : (BucketRedis.ops "").lookup b e = false) :
    bucketRemove bk e st = (st, none) ∧ (BucketRedis.ops "").remove b e = b := by
  obtain ⟨hsz, hlist, hlen⟩ := (C08_bucket_abs_iff _ _ _ _).mp habs
  have hc : b.list.contains e = false := habsent
  constructor
  · unfold bucketRemove
    rw [Script.bind_ok (cmdLPOS_at hlist _)]
    simp only [lpos, hc, Bool.false_eq_true, if_false]; rfl
  · simp only [BucketRedis.ops, BucketRedis.remove, hc, Bool.false_eq_true, if_false]

theorem C08_bucket_lookup (st : Store) (bk : String) (size : Nat) (b : BucketRedis String)
    (e : String) (habs : absBucket st bk size = some b) :
    bucketLookup bk e st = (st, some ((BucketRedis.ops "").lookup b e)) := by
  obtain ⟨hsz, hlist, hlen⟩ := (C08_bucket_abs_iff _ _ _ _).mp habs
  have hp : bucketLookupScript bk e st =
      (st, some (match lpos b.list e with | none => -1 | some i => (i : Int))) := by
    unfold bucketLookupScript
    rw [Script.bind_ok (Script.try_ok (cmdLPOS_at hlist _))]
    cases lpos b.list e <;> rfl
  unfold bucketLookup
  rw [Script.bind_ok hp]
  show _ = (st, some (b.list.contains e))
  -- `pos > -1` exactly when `LPOS` found the element
  by_cases hc : b.list.contains e = true
  · rw [lpos, if_pos hc, hc]
    exact congrArg (fun x => (st, some x))
      (decide_eq_true (Int.lt_of_lt_of_le (by decide) (Int.natCast_nonneg _)))
  · rw [lpos, if_neg hc, Bool.eq_false_iff.mpr hc]; rfl

theorem C08_bucket_at (st : Store) (bk : String) (size : Nat) (b : BucketRedis String) (i : Nat)
    (habs : absBucket st bk size = some b) :
    bucketAt bk i st = (st, (BucketRedis.ops "").get b i) := by
  obtain ⟨hsz, hlist, hlen⟩ := (C08_bucket_abs_iff _ _ _ _).mp habs
  unfold bucketAt
  rw [cmdLINDEX_at hlist]
  simp only [Option.getD_some, BucketRedis.ops, BucketRedis.get, List.getD_eq_getElem?_getD]

theorem C08_bucket_set (st : Store) (bk : String) (size : Nat) (b : BucketRedis String)
    (i : Nat) (e : String) (habs : absBucket st bk size = some b) :
    ∃ st', bucketSet bk i e st = (st', if i < b.list.length then some () else none) ∧
      absBucket st' bk size = some ((BucketRedis.ops "").set b i e) ∧
      ∀ k, k ≠ bk → st' k = st k := by
  obtain ⟨hsz, hlist, hlen⟩ := (C08_bucket_abs_iff _ _ _ _).mp habs
  unfold bucketSet
  rw [cmdLSET_at hlist]
  show ∃ s', _ ∧ absBucket s' bk size = some { b with list := b.list.set i e } ∧ _
  by_cases hi : i < b.list.length
  · rw [if_pos hi, if_pos hi]
    refine ⟨_, rfl, ?_, fun k hk => Store.set_ne _ _ hk⟩
    exact (C08_bucket_abs_iff _ _ _ _).mpr ⟨hsz, Or.inr (Store.set_self _ _ _),
      (Store.set_ne _ _ (bucketLenKey_ne bk)).trans hlen⟩
  · rw [if_neg hi, if_neg hi, List.set_eq_of_length_le (Nat.le_of_not_lt hi)]
    exact ⟨st, rfl, habs, fun _ _ => rfl⟩

/-- `getLength` (used to draw the slot of an eviction): the counter, saturating at the largest
    `int64`. -/
theorem C08_bucket_getLength (st : Store) (bk : String) (size : Nat) (b : BucketRedis String)
    (habs : absBucket st bk size = some b) :
    bucketGetLength bk st = (st, min b.len (2 ^ 63 - 1)) := by
  obtain ⟨hsz, hlist, hlen⟩ := (C08_bucket_abs_iff _ _ _ _).mp habs
  unfold bucketGetLength
  rw [bucketLenKey_eq]
  rw [cmdGET_str hlen]
  simp only [latin1_ascii_decimal, goInt64AsUint64, parseInt_decimal]

theorem C08_bucket_elements (st : Store) (bk : String) (size : Nat) (b : BucketRedis String)
    (habs : absBucket st bk size = some b) :
    bucketElements bk st = (st, some b.list) := by
  obtain ⟨hsz, hlist, hlen⟩ := (C08_bucket_abs_iff _ _ _ _).mp habs
  exact cmdLRANGE_at hlist

theorem C08_cuckoo_incrLength (st : Store) (h : CuckooHandle) (n : Nat)
    (habs : absCuckooLength st h = some n) :
    ∃ st', cuckooIncrLength h st = (st', some ((n + 1 : Nat) : Int)) ∧
      absCuckooLength st' h = some (n + 1) ∧ ∀ k, k ≠ h.metadataKey → st' k = st k :=
  cuckoo_length_step st h n 1 (n + 1) habs (by omega)

/-- `decrLength` needs a positive length (see `C08_cuckoo_decrLength_underflow`). -/
theorem C08_cuckoo_decrLength (st : Store) (h : CuckooHandle) (n : Nat)
    (habs : absCuckooLength st h = some n) (hpos : 0 < n) :
    ∃ st', cuckooDecrLength h st = (st', some ((n - 1 : Nat) : Int)) ∧
      absCuckooLength st' h = some (n - 1) ∧ ∀ k, k ≠ h.metadataKey → st' k = st k :=
  cuckoo_length_step st h n (-1) (n - 1) habs (by omega)

theorem C08_cuckoo_length (st : Store) (h : CuckooHandle) (n : Nat)
    (habs : absCuckooLength st h = some n) :
    cuckooLength h st = (st, min n (2 ^ 63 - 1)) := by
  obtain ⟨m, hm, hv⟩ := (absCuckooLength_eq_some_iff _ _ _).mp habs
  unfold cuckooLength cmdHGET; rw [hm]
  simp only [hv, goInt64AsUint64, parseInt_decimal]

theorem C08_cuckoo_create_length (st : Store) (h : CuckooHandle) (hfresh : st h.metadataKey = none) :
    absCuckooLength (cuckooCreate h st).1 h = some 0 := by
  unfold cuckooCreate cuckooSetMetadata cmdHSET
  rw [hfresh]
  refine (absCuckooLength_eq_some_iff _ _ _).mpr ⟨_, Store.set_self _ _ _, ?_⟩
  simp [hashSetAll, hashSet, hashGet]

theorem C19_frame_bucket_new (bk : String) : SupportedOn [bk, bk ++ "_len"] (bucketNew bk) :=
  supported_bucketNew bk

theorem C19_frame_bucket_isFree (bk : String) (size : Nat) :
    SupportedOn [bk, bk ++ "_len"] (bucketIsFree bk size) := supported_bucketIsFree bk size

theorem C19_frame_bucket_add (bk : String) (size : Nat) (e : String) :
    SupportedOn [bk, bk ++ "_len"] (bucketAdd bk size e) := supported_bucketAdd bk size e

theorem C19_frame_bucket_remove (bk e : String) :
    SupportedOn [bk, bk ++ "_len"] (bucketRemove bk e) := supported_bucketRemove bk e

theorem C19_frame_bucket_lookup (bk e : String) :
    SupportedOn [bk, bk ++ "_len"] (bucketLookup bk e) := supported_bucketLookup bk e

theorem C19_frame_bucket_at (bk : String) (i : Nat) :
    SupportedOn [bk, bk ++ "_len"] (bucketAt bk i) := supported_bucketAt bk i

theorem C19_frame_bucket_set (bk : String) (i : Nat) (e : String) :
    SupportedOn [bk, bk ++ "_len"] (bucketSet bk i e) := supported_bucketSet bk i e

theorem C19_frame_bucket_getLength (bk : String) :
    SupportedOn [bk, bk ++ "_len"] (bucketGetLength bk) := supported_bucketGetLength bk

theorem C19_frame_bucket_elements (bk : String) :
    SupportedOn [bk, bk ++ "_len"] (bucketElements bk) := supported_bucketElements bk

theorem C19_frame_cuckoo_incrLength (h : CuckooHandle) :
    SupportedOn [h.metadataKey] (cuckooIncrLength h) :=
  supported_HINCRBY List.mem_cons_self _ _

theorem C19_frame_cuckoo_decrLength (h : CuckooHandle) :
    SupportedOn [h.metadataKey] (cuckooDecrLength h) :=
  supported_HINCRBY List.mem_cons_self _ _

theorem C19_frame_cuckoo_length (h : CuckooHandle) :
    SupportedOn [h.metadataKey] (cuckooLength h) :=
  supported_mapResult (fun r => match r with | some (some v) => goInt64AsUint64 v | _ => 0)
    (supported_HGET List.mem_cons_self _)

/-- the two keys of bucket `i < n` are the handle's `bucket`/`blen` keys, so every bucket
    operation framed by `[bk, bk ++ "_len"]` is framed by `keysOf` of the filter (and by
    `C19_disjoint` does not touch any other structure). -/
theorem C19_frame_bucket_in_handle {ρ : Type} (h : CuckooHandle) (i : Nat) (hi : i < h.n)
    (op : Op ρ)
    (hop : SupportedOn [cuckooBucketKey h.key i, cuckooBucketKey h.key i ++ "_len"] op) :
    SupportedOn h.keysOf op := hop.of_pair (h.bucketKey_mem hi) (h.lenKey_mem hi)

theorem C19_frame_cuckoo_length_in_handle {ρ : Type} (h : CuckooHandle) (op : Op ρ)
    (hop : SupportedOn [h.metadataKey] op) : SupportedOn h.keysOf op :=
  hop.of_single h.metadataKey_mem

/-! ### where the scripts do NOT refine the model: decrementing a zero counter -/

section underflow

/-- bucket "b" of size 2 after `newBucketRedis`, `add "12"`, `remove "12"`: list `[""]`,
    counter "0" — reached through the operations themselves. -/
def ufS : Store :=
  (bucketRemove "b" "12" (bucketAdd "b" 2 "12" (bucketNew "b" Store.empty).1).1).1

def ufB : BucketRedis String := ⟨2, [""], 0⟩
def ufS₁ : Store := (bucketRemove "b" "" ufS).1
def ufS₂ : Store := (bucketAdd "b" 2 "8" (bucketAdd "b" 2 "7" ufS₁).1).1
def ufB₂ : BucketRedis String :=
  (BucketRedis.ops "").add ((BucketRedis.ops "").add ((BucketRedis.ops "").remove ufB "") "7") "8"

/-- **`removeElement` with the empty fingerprint on a bucket whose counter is 0.**
    `lookup("")` is true (LPOS finds the hole), so `CuckooFilterRedis.Remove` calls `remove("")`:
    LPOS/LSET rewrite the hole and `INCRBY len -1` stores "-1".  `BucketRedis.remove` keeps
    `len = 0` (`Nat` subtraction).  From there the two disagree observably: `getLength()` reads
    2^64 - 1; after two further `add`s the Redis bucket still reports free and accepts a third
    fingerprint into a bucket of size 2, while the model bucket is full.
    The empty fingerprint is reachable (finding D3: `fingerPrintLength` larger than the number of
    decimal digits of the hash makes `getPositions` return `("", 0, 0)`). -/
theorem C08_bucket_remove_underflow :
    -- the store represents `ufB`, and the Go caller's guard passes on both sides
    absBucket ufS "b" 2 = some ufB ∧
    (bucketLookup "b" "" ufS).2 = some true ∧ (BucketRedis.ops "").lookup ufB "" = true ∧
    -- the script succeeds, the counter is now "-1": no model bucket is represented …
    (bucketRemove "b" "" ufS).2 = some true ∧
    ufS₁ "b_len" = some (.str (asciiBytes "-1")) ∧
    absBucket ufS₁ "b" 2 = none ∧
    -- … in particular not the model's `remove`, which keeps `len = 0`
    (BucketRedis.ops "").remove ufB "" = ufB ∧
    (bucketGetLength "b" ufS₁).2 = 2 ^ 64 - 1 ∧
    -- two adds later the store represents a bucket again, but one count behind the model
    absBucket ufS₂ "b" 2 = some ⟨2, ["8", "7"], 1⟩ ∧ ufB₂ = ⟨2, ["8", "7"], 2⟩ ∧
    (bucketIsFree "b" 2 ufS₂).2 = true ∧ (BucketRedis.ops "").isFree ufB₂ = false ∧
    (bucketAdd "b" 2 "9" ufS₂).2 = true ∧
    (bucketElements "b" (bucketAdd "b" 2 "9" ufS₂).1).2 = some ["9", "8", "7"] ∧
    ((BucketRedis.ops "").add ufB₂ "9").list = ["8", "7"] := by
  decide +kernel

def ufH : CuckooHandle :=
  { n := 1, bsize := 2, fpl := 2, retries := 1, key := "aaaaaaaaaaaaaaaa", metadataKey := "aaaaaaaaaaaaaaab" }

/-- the same for the filter's own `length` field: `Remove` of an element with the empty
    fingerprint finds a hole, calls `decrLength`, and `HINCRBY length -1` on "0" stores "-1";
    `Length()` then returns 2^64 - 1 (the model's `Cuckoo.remove` keeps 0). -/
theorem C08_cuckoo_decrLength_underflow :
    let st := (cuckooCreate ufH Store.empty).1
    absCuckooLength st ufH = some 0 ∧
    (cuckooDecrLength ufH st).2 = some (-1) ∧
    absCuckooLength (cuckooDecrLength ufH st).1 ufH = none ∧
    (cuckooLength ufH (cuckooDecrLength ufH st).1).2 = 2 ^ 64 - 1 := by
  decide +kernel

end underflow

section examples

def exBk : String := cuckooBucketKey "aaaaaaaaaaaaaaae" 3
def exV₀ : Store := (bucketNew exBk Store.empty).1
def exV₁ : Store := (bucketAdd exBk 2 "41" exV₀).1
def exV₂ : Store := (bucketAdd exBk 2 "77" exV₁).1
def exV₃ : Store := (bucketRemove exBk "41" exV₂).1
def exV₄ : Store := (bucketAdd exBk 2 "13" exV₃).1

/-- the facts about the stores `exV₀` … `exV₄`,
    decided together so that the chain is evaluated once. -/
theorem exV_runs :
    (exBk = "cuckoo_aaaaaaaaaaaaaaae_bucket_3") ∧
    (exV₀ "cuckoo_aaaaaaaaaaaaaaae_bucket_3_len" = some (.str [0x30])) ∧
    (absBucket exV₀ exBk 2 = some (BucketRedis.new 2)) ∧
    (absBucket exV₁ exBk 2 = some ⟨2, ["41"], 1⟩) ∧
    (absBucket exV₂ exBk 2 = some ⟨2, ["77", "41"], 2⟩) ∧
    ((bucketIsFree exBk 2 exV₁).2 = true ∧ (bucketIsFree exBk 2 exV₂).2 = false) ∧
    ((bucketAdd exBk 2 "99" exV₂).2 = false ∧ absBucket (bucketAdd exBk 2 "99" exV₂).1 exBk 2
      = some ⟨2, ["77", "41"], 2⟩) ∧
    (absBucket exV₃ exBk 2 = some ⟨2, ["77", ""], 1⟩) ∧
    (absBucket exV₄ exBk 2 = some ⟨2, ["77", "13"], 2⟩) ∧
    ((bucketLookup exBk "13" exV₄).2 = some true ∧ (bucketLookup exBk "41" exV₄).2 = some false) ∧
    ((bucketAt exBk 1 exV₄).2 = "13" ∧ (bucketAt exBk 5 exV₄).2 = "") ∧
    ((bucketSet exBk 5 "x" exV₄).2 = none ∧ (bucketSet exBk 0 "x" exV₄).2 = some ()) ∧
    ((bucketGetLength exBk exV₄).2 = 2) ∧
    ((bucketRemove exBk "nope" exV₄).2 = none) := by
  decide +kernel

example : exBk = "cuckoo_aaaaaaaaaaaaaaae_bucket_3" := exV_runs.1
example : exV₀ "cuckoo_aaaaaaaaaaaaaaae_bucket_3_len" = some (.str [0x30]) := exV_runs.2.1
example : absBucket exV₀ exBk 2 = some (BucketRedis.new 2) := exV_runs.2.2.1
example : absBucket exV₁ exBk 2 = some ⟨2, ["41"], 1⟩ := exV_runs.2.2.2.1
example : absBucket exV₂ exBk 2 = some ⟨2, ["77", "41"], 2⟩ := exV_runs.2.2.2.2.1
example : (bucketIsFree exBk 2 exV₁).2 = true ∧ (bucketIsFree exBk 2 exV₂).2 = false := exV_runs.2.2.2.2.2.1
example : (bucketAdd exBk 2 "99" exV₂).2 = false ∧ absBucket (bucketAdd exBk 2 "99" exV₂).1 exBk 2
    = some ⟨2, ["77", "41"], 2⟩ := exV_runs.2.2.2.2.2.2.1
/-- `remove` leaves a hole, and the next `add` re-uses it through `LPOS key ''`/`LSET`. -/
example : absBucket exV₃ exBk 2 = some ⟨2, ["77", ""], 1⟩ := exV_runs.2.2.2.2.2.2.2.1
example : absBucket exV₄ exBk 2 = some ⟨2, ["77", "13"], 2⟩ := exV_runs.2.2.2.2.2.2.2.2.1
example : (bucketLookup exBk "13" exV₄).2 = some true ∧ (bucketLookup exBk "41" exV₄).2 = some false := exV_runs.2.2.2.2.2.2.2.2.2.1
example : (bucketAt exBk 1 exV₄).2 = "13" ∧ (bucketAt exBk 5 exV₄).2 = "" := exV_runs.2.2.2.2.2.2.2.2.2.2.1
example : (bucketSet exBk 5 "x" exV₄).2 = none ∧ (bucketSet exBk 0 "x" exV₄).2 = some () := exV_runs.2.2.2.2.2.2.2.2.2.2.2.1
example : (bucketGetLength exBk exV₄).2 = 2 := exV_runs.2.2.2.2.2.2.2.2.2.2.2.2.1
example : (bucketRemove exBk "nope" exV₄).2 = none := exV_runs.2.2.2.2.2.2.2.2.2.2.2.2.2
example : (BucketRedis.ops "").add ((BucketRedis.ops "").remove ⟨2, ["77", "41"], 2⟩ "41") "13"
    = ⟨2, ["77", "13"], 2⟩ := by decide +kernel
/-- a store without the counter represents no bucket, and `isFree` reads as false on it. -/
example : absBucket Store.empty exBk 2 = none ∧ (bucketIsFree exBk 2 Store.empty).2 = false := by decide +kernel
/-- a non-canonical counter ("01") represents no bucket: INCRBY would refuse it. -/
example : absBucket (Store.empty.set (exBk ++ "_len") (.str [0x30, 0x31])) exBk 2 = none := by decide +kernel
example : (cmdINCRBY "c" 1 (Store.empty.set "c" (.str [0x30, 0x31]))).2 = none := by decide +kernel

/-- the facts about the filter `ufH` after one `incrLength`, decided together. -/
theorem ufH_runs :
    (absCuckooLength (cuckooIncrLength ufH (cuckooCreate ufH Store.empty).1).1 ufH = some 1) ∧
    ((cuckooLength ufH (cuckooIncrLength ufH (cuckooCreate ufH Store.empty).1).1).2 = 1) := by
  decide +kernel

example : absCuckooLength (cuckooIncrLength ufH (cuckooCreate ufH Store.empty).1).1 ufH = some 1 := ufH_runs.1
example : (cuckooLength ufH (cuckooIncrLength ufH (cuckooCreate ufH Store.empty).1).1).2 = 1 := ufH_runs.2

end examples

end Gostatix.Redis
