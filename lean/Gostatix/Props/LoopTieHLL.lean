/-
  LoopTieHLL — the in-memory HyperLogLog `Update` and `Merge` as WHOLE functions.

  extract/loops.go translates hyperloglog.go `HyperLogLog.Update` (with `getRegisterIndexAndCount`
  of base_hyperloglog.go and `util.Max` of internal/util inlined) and `HyperLogLog.Merge` into
  `Generated.LoopsHLL.hllUpdate` / `hllMerge` (Generated/Loops.lean; record `HllState`).
  Semantics: Model/GoLoop.lean (`none` = Go panic), lock calls skipped, `metro.Hash128` an
  arbitrary function `H`.

  CONVERSION.  Go's registers are `uint8`; the translator keeps a `uint8` as the zero-extended
  `UInt64` and makes every conversion to `uint8` explicit (`GoArith.trunc8`).  The model `HLL`
  (Model/HLL.lean) has `Nat` registers (`toH`).  Invariant `WFH`: `len(registers) = numRegisters`
  and every register < 256; established by `newHll`, kept by both operations.

  The generated functions agree with `HLL.update` / `HLL.merge` on every `WFH` state, the Go PANIC
  of `Update` (finding D4) included.  Outside `WFH` (registers shorter than `numRegisters`, as
  after a bad `Import`) `Merge` panics on the first missing register: last example.
-/
import Gostatix.Proofs.LoopTieHLL
import Gostatix.Proofs.GoArith

namespace Gostatix.LoopTie
open Gostatix Gostatix.GoLoop Gostatix.Generated.LoopsHLL

abbrev HashFn := List UInt8 → UInt64 → UInt64 × UInt64

def WFH (s : HllState) : Prop :=
  s.registers.length = s.numRegisters.toNat ∧ ∀ r ∈ s.registers, r < 256

instance (s : HllState) : Decidable (WFH s) := by unfold WFH; infer_instance

/-- the record as a state of the model (`uint8` registers read as numbers) -/
def toH (s : HllState) : HLL := { m := s.numRegisters.toNat, regs := s.registers.map UInt64.toNat }

/-- `NewHyperLogLog(m)` with `p = log2 m` -/
def newHll (m p : UInt64) : HllState :=
  { numRegisters := m, numBytesPerHash := p, registers := List.replicate m.toNat 0 }

theorem toH_new (m p : UInt64) : toH (newHll m p) = HLL.new m.toNat := by
  simp [toH, newHll, HLL.new]

theorem WFH_new (m p : UInt64) : WFH (newHll m p) := by
  refine ⟨by simp [newHll], ?_⟩
  intro r hr
  simp [newHll] at hr
  rw [hr.2]; decide

/-- the register index `getRegisterIndexAndCount` computes: `uint64(1 + bits.LeadingZeros64(hash << p))` -/
def regIndex (H : HashFn) (s : HllState) (data : List UInt8) : UInt64 :=
  1 + GoArith.clz64u (GoArith.goShl (H data 1373).1 s.numBytesPerHash)

/-- the stored value: `uint8(hash >> uint(32 - p))` -/
def regValue (H : HashFn) (s : HllState) (data : List UInt8) : UInt64 :=
  GoArith.trunc8 (GoArith.goShr (H data 1373).1 (32 - s.numBytesPerHash))

theorem regIndex_toNat (H : HashFn) (s : HllState) (data : List UInt8) :
    (regIndex H s data).toNat = HLL.indexOf (H data 1373).1.toNat s.numBytesPerHash.toNat :=
  GoArith.toNat_rank _ _

theorem regValue_toNat (H : HashFn) (s : HllState) (data : List UInt8) (hp : s.numBytesPerHash.toNat ≤ 32) :
    (regValue H s data).toNat = HLL.valueOf (H data 1373).1.toNat s.numBytesPerHash.toNat := by
  rw [regValue, GoArith.toNat_trunc8, GoArith.toNat_count _ _ hp]
  rfl

/-- in range: the register becomes the maximum of its old value and the new one -/
theorem tie_loop_hll_update_ok (H : HashFn) (s : HllState) (data : List UInt8) (h : WFH s)
    (hi : (regIndex H s data).toNat < s.registers.length) :
    hllUpdate H s data
      = some { s with registers := modAt s.registers (regIndex H s data).toNat (fun o => maxU o (regValue H s data)) } := by
  have ht := trunc8_of_lt (maxU (s.registers[(regIndex H s data).toNat]) (regValue H s data))
    (maxU_lt _ _ (h.2 _ (List.getElem_mem hi)) (trunc8_lt _))
  rw [← set_eq_modAt _ _ (fun o => maxU o (regValue H s data)) hi]
  unfold regValue regIndex at *
  simp only [hllUpdate, Option.bind_some, idx_of_lt hi, max_inlined, ht, set1_of_lt _ hi]

/-- out of range: the Go code PANICS (finding D4: the index is a leading-zero count, up to 65,
    unrelated to the number of registers) -/
theorem tie_loop_hll_update_panic (H : HashFn) (s : HllState) (data : List UInt8)
    (hi : ¬ (regIndex H s data).toNat < s.registers.length) :
    hllUpdate H s data = none := by
  unfold hllUpdate
  unfold regIndex at hi
  simp only []
  generalize (1 + GoArith.clz64u (GoArith.goShl (H data 1373).1 s.numBytesPerHash)) = I at *
  simp [idx_eq_none (Nat.le_of_not_lt hi)]

/-- **`Update`, the whole function, against the model** (`.ok` / `.panic` of `HLL.update`) -/
theorem tie_loop_hll_update (H : HashFn) (s : HllState) (data : List UInt8) (h : WFH s) :
    match (toH s).update (regIndex H s data).toNat (regValue H s data).toNat with
    | .ok t => ∃ s', hllUpdate H s data = some s' ∧ toH s' = t ∧ s'.numBytesPerHash = s.numBytesPerHash
    | .panic => hllUpdate H s data = none
    | .err => False := by
  by_cases hi : (regIndex H s data).toNat < s.registers.length
  · have : (toH s).update (regIndex H s data).toNat (regValue H s data).toNat
        = .ok { toH s with regs := modAt (toH s).regs (regIndex H s data).toNat (fun o => max o (regValue H s data).toNat) } := by
      simp [HLL.update, toH, hi]
    rw [this]
    refine ⟨_, tie_loop_hll_update_ok H s data h hi, ?_, rfl⟩
    simp only [toH]
    congr 1
    exact Rows.map_modAt UInt64.toNat _ _ 0 _ _ fun _ => maxU_toNat _ _
  · have : (toH s).update (regIndex H s data).toNat (regValue H s data).toNat = .panic := by
      simp [HLL.update, toH, hi]
    rw [this]
    exact tie_loop_hll_update_panic H s data hi

theorem WFH_update (H : HashFn) (s : HllState) (data : List UInt8) (h : WFH s) (s' : HllState)
    (hs : hllUpdate H s data = some s') : WFH s' := by
  by_cases hi : (regIndex H s data).toNat < s.registers.length
  · rw [tie_loop_hll_update_ok H s data h hi] at hs
    cases hs
    refine ⟨by simp [h.1], ?_⟩
    intro r hr
    obtain ⟨j, hj, hget⟩ := List.mem_iff_getElem.1 hr
    have hj' : j < s.registers.length := by simpa using hj
    have := modAt_getD s.registers (regIndex H s data).toNat j (fun o => maxU o (regValue H s data)) 0 hi
    simp only [List.getD_eq_getElem?_getD, List.getElem?_eq_getElem hj, List.getElem?_eq_getElem hj',
      List.getElem?_eq_getElem hi, Option.getD_some, hget] at this
    rw [this]
    split
    · exact maxU_lt _ _ (h.2 _ (List.getElem_mem hi)) (trunc8_lt _)
    · exact h.2 _ (List.getElem_mem hj')
  · rw [tie_loop_hll_update_panic H s data hi] at hs
    cases hs

/-- **`Merge`, the whole function**, equal register counts: the register-wise maximum -/
theorem tie_loop_hll_merge (a b : HllState) (ha : WFH a) (hb : WFH b) (hm : a.numRegisters = b.numRegisters) :
    hllMerge a b = some ({ a with registers := List.zipWith maxU a.registers b.registers }, hllMergeErr.nil)
    ∧ HLL.merge (toH a) (toH b)
        = .ok (toH { a with registers := List.zipWith maxU a.registers b.registers }) := by
  have hlen : b.registers.length = a.registers.length := by rw [ha.1, hb.1, hm]
  constructor
  · have hl := hll_merge_loop a b.registers hlen ha.1 ha.2 hb.2
    simp [hllMerge, hm, hl]
  · have : a.registers.drop b.registers.length = [] := by simp [hlen]
    simp [HLL.merge, toH, hm, mergeRegs_map, this]

/-- **`Merge` rejected**: different register counts - the error exit, the receiver is unchanged -/
theorem tie_loop_hll_merge_rejected (a b : HllState) (hm : a.numRegisters ≠ b.numRegisters) :
    hllMerge a b = some (a, hllMergeErr.err) ∧ HLL.merge (toH a) (toH b) = .err := by
  constructor
  · simp [hllMerge, hm]
  · have : a.numRegisters.toNat ≠ b.numRegisters.toNat := fun h => hm (UInt64.toNat_inj.1 h)
    simp [HLL.merge, toH, this]

theorem WFH_merge (a b : HllState) (ha : WFH a) (hb : WFH b) (hm : a.numRegisters = b.numRegisters) :
    WFH { a with registers := List.zipWith maxU a.registers b.registers } := by
  have hlen : b.registers.length = a.registers.length := by rw [ha.1, hb.1, hm]
  refine ⟨by simp [hlen, ha.1], ?_⟩
  intro r hr
  obtain ⟨j, hj, hget⟩ := List.mem_iff_getElem.1 hr
  simp at hj
  rw [← hget, List.getElem_zipWith]
  exact maxU_lt _ _ (ha.2 _ (List.getElem_mem _)) (hb.2 _ (List.getElem_mem _))

theorem loops_hll_all_translated : Generated.LoopsHLL.unsupported = [] := rfl

/-- a hash for the examples: the first word is the first byte -/
def exHH : HashFn := fun data _ => ((data.getD 0 0).toUInt64, 0)

/-- finding D4: 16 registers (p = 4), hash word 1: the "index" is 1 + clz(1 << 4) = 60 ≥ 16 -/
theorem hll_update_panics_small_m : hllUpdate exHH (newHll 16 4) [1] = none := by decide +kernel

example : (regIndex exHH (newHll 16 4) [1]).toNat = 60 := by decide +kernel
example : (toH (newHll 16 4)).update 60 0 = .panic := by decide +kernel
/-- with 64 registers the same update goes through -/
example : (hllUpdate exHH (newHll 64 6) [1]).isSome = true := by decide +kernel

example : hllMerge { numRegisters := 2, numBytesPerHash := 1, registers := [3, 9] }
                   { numRegisters := 2, numBytesPerHash := 1, registers := [7, 2] }
    = some ({ numRegisters := 2, numBytesPerHash := 1, registers := [7, 9] }, hllMergeErr.nil) := by decide +kernel
example : hllMerge (newHll 2 1) (newHll 4 2) = some (newHll 2 1, hllMergeErr.err) := by decide +kernel
/-- outside `WFH`: fewer registers than the argument has - `Merge` panics -/
example : hllMerge { numRegisters := 2, numBytesPerHash := 1, registers := [3] }
                   { numRegisters := 2, numBytesPerHash := 1, registers := [7, 2] } = none := by decide +kernel

end Gostatix.LoopTie
