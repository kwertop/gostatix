/-
  C11 — Binary WriteTo / ReadFrom round-trips every state with exact byte counts.

  For each of the five formats: decoding `enc s ++ rest` yields exactly `(s, rest)` (so the
  state is reconstructed AND exactly the image's bytes are consumed: images can be streamed
  back to back), and the byte count reported by WriteTo/ReadFrom equals the encoded length.
  Helper lemmas: Proofs/Codec.lean.
-/
import Gostatix.Proofs.Codec
namespace Gostatix.Codec
open Dec

/-! ### well-formedness of images (what the Go in-memory structures guarantee) -/

/-- all header fields are uint64, the word slice has `ceil(bsLen/64)` uint64 words -/
def BloomImg.WF (s : BloomImg) : Prop :=
  s.size < 2 ^ 64 ∧ s.k < 2 ^ 64 ∧ s.bsSize < 2 ^ 64 ∧ s.bsLen < 2 ^ 64 ∧
  s.words.length = wordsNeeded s.bsLen ∧ ∀ w ∈ s.words, w < 2 ^ 64

instance (s : BloomImg) : Decidable s.WF := by unfold BloomImg.WF; infer_instance

def CMSImg.WF (s : CMSImg) : Prop :=
  s.rows < 2 ^ 64 ∧ s.cols < 2 ^ 64 ∧ s.allSum < 2 ^ 64 ∧ s.matrix.length = s.rows ∧
  (∀ r ∈ s.matrix, r.length = s.cols) ∧ ∀ r ∈ s.matrix, ∀ c ∈ r, c < 2 ^ 64

instance (s : CMSImg) : Decidable s.WF := by unfold CMSImg.WF; infer_instance

def HLLImg.WF (s : HLLImg) : Prop :=
  s.m < 2 ^ 64 ∧ s.nbp < 2 ^ 64 ∧ s.bias < 2 ^ 64 ∧ s.regs.length = s.m

instance (s : HLLImg) : Decidable s.WF := by unfold HLLImg.WF; infer_instance

/-- `size` slots (empty slots are empty strings), `length` = number of occupied slots -/
def BucketImg.WF (b : BucketImg) : Prop :=
  b.size < 2 ^ 64 ∧ b.length < 2 ^ 64 ∧ b.elements.length = b.size ∧
  ∀ e ∈ b.elements, e.length < 2 ^ 64

instance (b : BucketImg) : Decidable b.WF := by unfold BucketImg.WF; infer_instance

def CuckooImg.WF (s : CuckooImg) : Prop :=
  s.n < 2 ^ 64 ∧ s.bsize < 2 ^ 64 ∧ s.fpl < 2 ^ 64 ∧ s.length < 2 ^ 64 ∧ s.retries < 2 ^ 64 ∧
  s.buckets.length = s.n ∧ ∀ b ∈ s.buckets, b.WF

instance (s : CuckooImg) : Decidable s.WF := by unfold CuckooImg.WF; infer_instance

/-- the heap may hold fewer than `k` entries; its length travels as a uint64 -/
def TopKImg.WF (s : TopKImg) : Prop :=
  s.k < 2 ^ 64 ∧ s.errorRate < 2 ^ 64 ∧ s.accuracy < 2 ^ 64 ∧ s.sketch.WF ∧
  s.heap.length < 2 ^ 64 ∧ ∀ e ∈ s.heap, e.1.length < 2 ^ 64 ∧ e.2 < 2 ^ 64

instance (s : TopKImg) : Decidable s.WF := by unfold TopKImg.WF; infer_instance

theorem C11_roundtrip_bloom (s : BloomImg) (h : s.WF) :
    ∀ rest, Dec.run decBloom (encBloom s ++ rest) = some (s, rest) := by
  obtain ⟨h1, h2, h3, h4, hl, hw⟩ := h
  intro rest
  simp only [decBloom, encBloom, List.append_assoc]
  rw [run_bind_of_eq (run_decU64 h1 _), run_bind_of_eq (run_decU64 h2 _),
    run_bind_of_eq (run_decU64 h3 _), run_bind_of_eq (run_decU64 h4 _),
    run_bind_of_eq (run_decWords s.words _ hl hw _)]
  rfl

theorem C11_roundtrip_cms (s : CMSImg) (h : s.WF) :
    ∀ rest, Dec.run decCMS (encCMS s ++ rest) = some (s, rest) := by
  obtain ⟨h1, h2, h3, hr, hc, hv⟩ := h
  exact run_decCMS s h1 h2 h3 hr hc hv

theorem C11_roundtrip_hll (s : HLLImg) (h : s.WF) :
    ∀ rest, Dec.run decHLL (encHLL s ++ rest) = some (s, rest) := by
  obtain ⟨h1, h2, h3, hl⟩ := h
  intro rest
  simp only [decHLL, encHLL, List.append_assoc]
  rw [run_bind_of_eq (run_decU64 h1 _), run_bind_of_eq (run_decU64 h2 _),
    run_bind_of_eq (run_decU64 h3 _), run_read hl, Dec.run]

theorem C11_roundtrip_cuckoo (s : CuckooImg) (h : s.WF) :
    ∀ rest, Dec.run decCuckoo (encCuckoo s ++ rest) = some (s, rest) := by
  obtain ⟨h1, h2, h3, h4, h5, hl, hb⟩ := h
  intro rest
  simp only [decCuckoo, encCuckoo, List.append_assoc]
  rw [run_bind_of_eq (run_decU64 h1 _), run_bind_of_eq (run_decU64 h2 _),
    run_bind_of_eq (run_decU64 h3 _), run_bind_of_eq (run_decU64 h4 _),
    run_bind_of_eq (run_decU64 h5 _), run_bind_of_eq (run_decBuckets s.buckets s.n hl hb _)]
  rfl

theorem C11_roundtrip_topk (s : TopKImg) (h : s.WF) :
    ∀ rest, Dec.run decTopK (encTopK s ++ rest) = some (s, rest) := by
  obtain ⟨h1, h2, h3, hs, hl, he⟩ := h
  intro rest
  simp only [decTopK, encTopK, List.append_assoc]
  rw [run_bind_of_eq (run_decU64 h1 _), run_bind_of_eq (run_decU64 h2 _),
    run_bind_of_eq (run_decU64 h3 _), run_bind_of_eq (C11_roundtrip_cms s.sketch hs _),
    run_bind_of_eq (run_decU64 hl _), run_bind_of_eq (run_decHeap s.heap _ rfl he _)]
  rfl

/-! ### back-to-back streams -/

theorem C11_concat {α β : Type} (d₁ : Dec α) (d₂ : Dec β) (e₁ e₂ : Bytes) (a : α) (b : β)
    (h₁ : ∀ rest, Dec.run d₁ (e₁ ++ rest) = some (a, rest))
    (h₂ : ∀ rest, Dec.run d₂ (e₂ ++ rest) = some (b, rest)) (rest : Bytes) :
    Dec.run (Dec.bind d₁ fun x => Dec.bind d₂ fun y => .ret (x, y)) (e₁ ++ e₂ ++ rest)
      = some ((a, b), rest) := by
  rw [List.append_assoc, Dec.run_bind, h₁]
  simp only
  rw [Dec.run_bind, h₂]
  rfl

/-- instances for three sample pairs; any two of the five formats can be put in -/
theorem C11_concat_cuckoo_topk (s : CuckooImg) (t : TopKImg) (hs : s.WF) (ht : t.WF)
    (rest : Bytes) :
    Dec.run (Dec.bind decCuckoo fun a => Dec.bind decTopK fun b => .ret (a, b))
      (encCuckoo s ++ encTopK t ++ rest) = some ((s, t), rest) :=
  C11_concat _ _ _ _ _ _ (C11_roundtrip_cuckoo s hs) (C11_roundtrip_topk t ht) rest

theorem C11_concat_bloom_bloom (s t : BloomImg) (hs : s.WF) (ht : t.WF) (rest : Bytes) :
    Dec.run (Dec.bind decBloom fun a => Dec.bind decBloom fun b => .ret (a, b))
      (encBloom s ++ encBloom t ++ rest) = some ((s, t), rest) :=
  C11_concat _ _ _ _ _ _ (C11_roundtrip_bloom s hs) (C11_roundtrip_bloom t ht) rest

theorem C11_concat_cms_hll (s : CMSImg) (t : HLLImg) (hs : s.WF) (ht : t.WF) (rest : Bytes) :
    Dec.run (Dec.bind decCMS fun a => Dec.bind decHLL fun b => .ret (a, b))
      (encCMS s ++ encHLL t ++ rest) = some ((s, t), rest) :=
  C11_concat _ _ _ _ _ _ (C11_roundtrip_cms s hs) (C11_roundtrip_hll t ht) rest

theorem C11_count_bloom (s : BloomImg) (h : s.WF) : (encBloom s).length = countBloom s := by
  obtain ⟨_, _, _, _, hl, _⟩ := h
  simp only [encBloom, countBloom, List.length_append, length_encU64, length_encWords, hl]
  omega

theorem C11_count_cms (s : CMSImg) (h : s.WF) : (encCMS s).length = countCMS s := by
  obtain ⟨_, _, _, hr, hc, _⟩ := h
  exact length_encCMS s hr hc

theorem C11_count_hll (s : HLLImg) (h : s.WF) : (encHLL s).length = countHLL s := by
  obtain ⟨_, _, _, hl⟩ := h
  simp only [encHLL, countHLL, List.length_append, length_encU64, hl]
  omega

/-- (the count needs no well-formedness; the hypothesis is there so that the five count theorems
    have one shape) -/
theorem C11_count_cuckoo (s : CuckooImg) (_h : s.WF) :
    (encCuckoo s).length = countCuckoo s := by
  simp only [encCuckoo, countCuckoo, List.length_append, length_encU64, length_encBuckets]

theorem C11_count_topk (s : TopKImg) (h : s.WF) : (encTopK s).length = countTopK s := by
  obtain ⟨_, _, _, ⟨_, _, _, hr, hc, _⟩, _, _⟩ := h
  simp only [encTopK, countTopK, List.length_append, length_encU64, length_encHeap,
    length_encCMS s.sketch hr hc]

/-! ### non-vacuity: concrete non-trivial well-formed images -/

/-- 70 bits → 2 words, one of them with the top bit set -/
def exBloom : BloomImg := ⟨70, 3, 70, 70, [0x8000000000000001, 0x2A]⟩
example : exBloom.WF := by decide

def exCMS : CMSImg := ⟨2, 3, 18446744073709551615, [[1, 0, 18446744073709551615], [0, 7, 0]]⟩
example : exCMS.WF := by decide

def exHLL : HLLImg := ⟨4, 1, 0x3FE6A09E667F3BCD, [0, 5, 255, 1]⟩
example : exHLL.WF := by decide

/-- bucket 0 is partially filled (1 of 2 slots, the free slot is the empty string),
    bucket 1 is empty -/
def exCuckoo : CuckooImg :=
  ⟨2, 2, 1, 1, 500, [⟨2, 1, [[0x61], []]⟩, ⟨2, 0, [[], []]⟩]⟩
example : exCuckoo.WF := by decide

/-- heap holds 2 entries, fewer than k = 5; one value is the empty string -/
def exTopK : TopKImg :=
  ⟨5, 0x3F847AE147AE147B, 0x3FEFAE147AE147AE, ⟨1, 2, 9, [[4, 5]]⟩, [([0x61, 0x62], 5), ([], 4)]⟩
example : exTopK.WF := by decide

/-- the examples really go through the byte-level codec (evaluated by the kernel) -/
example : Dec.run decCuckoo (encCuckoo exCuckoo) = some (exCuckoo, []) := by
  simpa using C11_roundtrip_cuckoo exCuckoo (by decide) []
example : (encCuckoo exCuckoo).length = 105 := by
  rw [C11_count_cuckoo exCuckoo (by decide)]; decide
example : (encTopK exTopK).length = 106 := by
  rw [C11_count_topk exTopK (by decide)]; decide

end Gostatix.Codec
