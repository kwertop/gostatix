/-
  ArithTieCuckoo — arithmetic tie, cuckoo filter `getPositions` and the eviction loops: the definitions of Generated/Arith.lean
  agree with the hand-written `Nat` model for ALL inputs.  See Props/ArithTie.lean.
-/
import Gostatix.Generated.Arith
import Gostatix.Model.Cuckoo
import Gostatix.Model.Murmur
-- the simp sets are wider than today's generated terms need, so that an equivalent spelling of
-- the Go source (operands swapped, a local introduced) keeps the proofs valid
set_option linter.unusedSimpArgs false

namespace Gostatix.ArithTie
open Gostatix.Generated.Arith Gostatix.GoArith

/-- `firstIndex := hash % cuckooFilter.size`. -/
theorem tie_cuckooFirstIndex (hash size : UInt64) (_hs : size ≠ 0) :
    (cuckooFirstIndex hash size).toNat = hash.toNat % size.toNat := by
  simp [cuckooFirstIndex]

/-- `secondIndex := (firstIndex ^ secondHash) % cuckooFilter.size` is `Cuckoo.altOf` of the first
    index, for any fingerprint hash function `H` with `H fp = secondHash`. -/
theorem tie_cuckooSecondIndex {F : Type} (H : F → Nat) (fp : F) (hash secondHash size : UInt64)
    (hH : H fp = secondHash.toNat) (_hs : size ≠ 0) :
    (cuckooSecondIndex hash secondHash size).toNat
      = Cuckoo.altOf H size.toNat (hash.toNat % size.toNat) fp := by
  simp [cuckooSecondIndex, Cuckoo.altOf, hH, Nat.xor_comm]

/-- `Cuckoo.positions` (the model of `getPositions` on the element bytes) computes exactly the
    generated index expressions on the murmur hash words, when the fingerprint length is valid. -/
theorem tie_cuckooPositions (size : UInt64) (fpl : Nat) (data : List UInt8) (_hs : size ≠ 0)
    (hfpl : fpl ≤ (toString (Murmur.getHash data)).length) :
    let hash := (Murmur.sum128 data).1
    let r := Cuckoo.positions size.toNat fpl data
    let secondHash := (Murmur.sum128 r.1.toUTF8.toList).1
    r.2.1 = (cuckooFirstIndex hash size).toNat
      ∧ r.2.2 = (cuckooSecondIndex hash secondHash size).toNat := by
  have h : ¬ fpl > (toString (Murmur.getHash data)).length := by omega
  simp only [Cuckoo.positions, h, ↓reduceIte]
  simp [cuckooFirstIndex, cuckooSecondIndex, Cuckoo.hashStr, Murmur.getHash, Nat.xor_comm]

/-- eviction loop of cuckoo_filter.go: `newIndex := (index ^ hash) % uint64(len(cuckooFilter.buckets))`
    is `Cuckoo.altOf` with modulus `len(buckets)` (a slice length: an `int`, here its 64-bit pattern). -/
theorem tie_cuckooKickIndexMem {F : Type} (H : F → Nat) (fp : F) (index hash len : UInt64)
    (hH : H fp = hash.toNat) (_hl : len ≠ 0) :
    (cuckooKickIndexMem index hash len).toNat = Cuckoo.altOf H len.toNat index.toNat fp := by
  simp [cuckooKickIndexMem, Cuckoo.altOf, hH, Nat.xor_comm]

/-- eviction loop of cuckoo_filter_redis.go: same expression, the modulus is the length of the
    `buckets` MAP (`len(cuckooFilter.buckets)`), not the `size` field. -/
theorem tie_cuckooKickIndexRedis {F : Type} (H : F → Nat) (fp : F) (index hash len : UInt64)
    (hH : H fp = hash.toNat) (_hl : len ≠ 0) :
    (cuckooKickIndexRedis index hash len).toNat = Cuckoo.altOf H len.toNat index.toNat fp := by
  simp [cuckooKickIndexRedis, Cuckoo.altOf, hH, Nat.xor_comm]

/-- the eviction step and the second index of `getPositions` are the same function when
    `len(buckets) = size` (what the constructors establish; not checked by the translator). -/
theorem cuckooKick_eq_second (hash secondHash size : UInt64) :
    cuckooSecondIndex hash secondHash size = cuckooKickIndexMem (cuckooFirstIndex hash size) secondHash size
      ∧ cuckooKickIndexMem = cuckooKickIndexRedis := by
  constructor
  · simp [cuckooSecondIndex, cuckooKickIndexMem, cuckooFirstIndex, UInt64.xor_comm]
  · funext a b c; simp [cuckooKickIndexMem, cuckooKickIndexRedis, UInt64.xor_comm]

example : (cuckooSecondIndex 1000 77 64).toNat = 37
    ∧ Cuckoo.altOf (fun _ : Unit => 77) 64 (1000 % 64) () = 37 := by decide +kernel
example : (cuckooKickIndexMem 40 77 64).toNat = 37 := by decide +kernel


end Gostatix.ArithTie
