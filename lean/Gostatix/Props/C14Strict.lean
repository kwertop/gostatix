/-
  C14Strict — property C14 ("a failed cuckoo insert is signalled and, if non-destructive, changes
  nothing") WITHOUT totalised accesses.

  BACKGROUND.  `Cuckoo.insert` (Model/Cuckoo.lean) reads buckets with `bucketAt bs i = bs.getD i
  default`, slots with `getD i emp` and writes with `modAt` / `List.set`: an index that does not
  exist yields a default value resp. a no-op.  That is why `C14_rollback_exact` (Props/C14.lean)
  has no hypotheses at all.  The Go code is not total there:
    * in memory (cuckoo_filter.go / bucket_mem.go): `cuckooFilter.buckets[i]` and
      `bucket.elements[index]` are slice index expressions — out of range they PANIC; `add` calls
      `set(uint64(nextSlot()), e)` and `nextSlot()` is -1 when no slot is empty — PANIC as well;
    * on Redis (cuckoo_filter_redis.go / bucket_redis.go): `cuckooFilter.buckets[key]` is a map of
      `*BucketRedis`; a key that was never created yields a nil handle and `nil.isFree()` reads
      `bucket.key` — PANIC (nil dereference).  A slot number that does not exist in the list makes
      `LINDEX` answer nil (go-redis: error `redis.Nil`) and `LSET` answer `ERR index out of range`;
      `Insert` DROPS both errors (`prev, _ := …at(i)`, the result of `set` is not looked at), so
      there the model's defaults (`""`, no-op) happen to be what the Go code computes — but it is a
      silently failed command, and the strict version below flags it all the same.

  HERE: `strictOps` (`get?` / `set?` / `add?`, failing exactly where Go panics resp. where a Redis
  command fails), `Cuckoo.insertS` on `bs[i]?` and the strict primitives (same control flow and
  order of accesses as `insert`; Proofs/C14Strict.lean), `Cuckoo.InRange` (the arguments of one
  call are in range) and `Cuckoo.WalkInv` (the invariant of the walk).  Proved for both bucket
  kinds, every fingerprint type, `alt`, retry count, random stream and inserted fingerprint (the
  empty one included): the invariant is kept and every access is in range; under `WF` and
  `InRange` the strict run never fails and is the totalised `insert` (`C14_strict_agrees`), so C14
  holds of it; outside them the strict run is `none` where the model computes with a default
  (`C14_strict_needs_*`, by evaluation).

  WHERE `InRange` COMES FROM IN THE CODE
    * `i1`, `i2`: `getPositions` computes `hash % size` and `(i1 ^ hash(fp)) % size`:
      `InRange_of_positions` — for EVERY byte string (also when the fingerprint length check fails:
      `("", 0, 0)`) the positions are `< n` as soon as `0 < n`;
    * `alt`: `(index ^ getHash(prev)) % uint64(len(buckets))` = `altOf`, `< n` for `0 < n`
      (`altOf_lt`);  `0 < n`: otherwise `hash % 0` panics before anything is addressed;
    * the drawn slot: the Go code draws `uint64(math.Ceil(rand.Float64() * float64(getLength()-1)))`
      on a bucket without room (`getLength() = bsize`), which lies in `[0, bsize-1]` PROVIDED
      `rand.Float64()` returns a value in `[0, 1)` (the documented contract of math/rand) and
      `bsize ≥ 1` (for `bsize = 0` the `uint64` subtraction wraps around).  This is an
      ASSUMPTION about math/rand and float64 rounding, recorded here, not proved.

  WHAT IS NOT PROVED
    * that the Go code is `insertS`: `insertS` is a transcription by hand, like `insert`; the
      differential driver runs `insert`, and by `C14_strict_agrees` both agree on everything the
      driver can produce.
    * `isFree` / `getLength` read a cached counter (in memory a field, on Redis the `_len` key), no
      index is involved; a missing `_len` key is outside this model (Model/RedisCuckoo.lean).
    * the random stream is read with `slots.headD 0` also in the strict run (a draw, not a memory
      access; `0 < bsize` makes 0 a legal draw).  `C14_stream_default_unused`: with at least
      `retries` draws in the stream that default is never looked at either.
-/
import Gostatix.Proofs.C14Strict
import Gostatix.Proofs.C02Concrete
import Gostatix.Props.C14
namespace Gostatix

namespace BucketMem
variable {F : Type} [DecidableEq F]

/-- `at(index)`: `bucket.elements[index]` — panics out of range -/
def get? (b : BucketMem F) (i : Nat) : Option F := b.elements[i]?
/-- `set(index, e)`: `bucket.elements[index] = e` — panics out of range -/
def set? (b : BucketMem F) (i : Nat) (e : F) : Option (BucketMem F) :=
  if i < b.elements.length then some (b.set i e) else none
/-- `add(e)`: refuses `""` and a bucket without room; else `set(uint64(nextSlot()), e)` where
    `nextSlot() = indexOf("")` is -1 when no slot is empty — then the index expression panics -/
def add? (emp : F) (b : BucketMem F) (e : F) : Option (BucketMem F) :=
  if e = emp ∨ ¬ b.isFree then some b
  else if b.elements.idxOf emp < b.elements.length then
    some { b with elements := b.elements.set (b.elements.idxOf emp) e, length := b.length + 1 }
  else none

def strictOps (emp : F) : StrictOps (BucketMem F) F := ⟨get?, set?, add? emp⟩

theorem strictLawful (emp : F) [Inhabited (BucketMem F)] :
    Cuckoo.StrictLawful (BucketMem.lawful emp) (strictOps emp) where
  get?_eq := fun b i => Cuckoo.getElem?_eq_ite_getD b.elements i emp
  set?_eq := fun _ _ _ => rfl
  add?_ok := fun s b e h hf => by
    obtain ⟨h1, h2, h3⟩ := h
    have hlt : occ emp b.elements < b.elements.length := by
      simp only [ops, isFree, decide_eq_true_eq] at hf; omega
    have hidx := idxOf_lt_of_mem _ _ (mem_emp_of_occ_lt_length emp _ hlt)
    show add? emp b e = some (add emp b e)
    unfold add? add
    by_cases hc : e = emp ∨ ¬ b.isFree = true
    · rw [if_pos hc, if_pos hc]
    · rw [if_neg hc, if_neg hc, if_pos hidx]
  isFree_set := fun _ _ _ => rfl

end BucketMem

namespace BucketRedis
variable {F : Type} [DecidableEq F]

/-- `at(index)`: `LINDEX key index` — nil reply (go-redis error `redis.Nil`) out of range -/
def get? (b : BucketRedis F) (i : Nat) : Option F := b.list[i]?
/-- `set(index, e)`: `LSET key index e` — `ERR index out of range` (or `no such key`) out of range -/
def set? (b : BucketRedis F) (i : Nat) (e : F) : Option (BucketRedis F) :=
  if i < b.list.length then some (b.set i e) else none
/-- `add(e)`: the Lua script positions itself with `LPOS key ''` and falls back to `LPUSH`; none of
    its commands can address a missing slot -/
def add? (emp : F) (b : BucketRedis F) (e : F) : Option (BucketRedis F) := some (add emp b e)

def strictOps (emp : F) : StrictOps (BucketRedis F) F := ⟨get?, set?, add? emp⟩

theorem strictLawful (emp : F) [Inhabited (BucketRedis F)] :
    Cuckoo.StrictLawful (BucketRedis.lawful emp) (strictOps emp) where
  get?_eq := fun b i => Cuckoo.getElem?_eq_ite_getD b.list i emp
  set?_eq := fun _ _ _ => rfl
  add?_ok := fun _ _ _ _ _ => rfl
  isFree_set := fun _ _ _ => rfl

end BucketRedis

namespace Cuckoo

/-! ## where `InRange` comes from -/

/-- `getPositions` and the alternate-bucket formula of the Go code produce in-range bucket indices
    for EVERY byte string, every fingerprint length (valid or not) and every table with `0 < n`;
    what remains to be assumed is `0 < bsize` and the range of the drawn slots. -/
theorem InRange_of_positions {B : Type} (c : Cuckoo B) (data : List UInt8) (slots : List Nat)
    (hn : 0 < c.n) (hb : 0 < c.bsize) (hsl : ∀ x ∈ slots, x < c.bsize) :
    InRange c (altOf hashStr c.n) (positions c.n c.fpl data).2.1 (positions c.n c.fpl data).2.2 slots := by
  refine ⟨hn, hb, ?_, ?_, fun j f _ => altOf_lt hashStr c.n hn j f, hsl⟩
  · rcases Nat.lt_or_ge (toString (Murmur.getHash data)).length c.fpl with h | h
    · rw [positions_of_gt c.n c.fpl data h]; exact hn
    · exact positions_i1_lt c.n c.fpl data hn h
  · rcases Nat.lt_or_ge (toString (Murmur.getHash data)).length c.fpl with h | h
    · rw [positions_of_gt c.n c.fpl data h]; exact hn
    · exact positions_i2_lt c.n c.fpl data hn h

/-- the default of the random stream (`slots.headD 0`) is never looked at when the stream holds at
    least `r` draws: the walk only depends on the first `r` draws -/
theorem C14_stream_default_unused {B F : Type} [Inhabited B] (o : BucketOps B F) (alt : Nat → F → Nat) :
    ∀ (r : Nat) (bs : List B) (idx : Nat) (cur : F) (slots ext : List Nat)
      (log : List (F × Nat × Nat)), r ≤ slots.length →
      kick o alt r bs idx cur (slots ++ ext) log = kick o alt r bs idx cur slots log := by
  intro r
  induction r with
  | zero => intro bs idx cur slots ext log _; rfl
  | succ r ih =>
    intro bs idx cur slots ext log h
    cases slots with
    | nil => simp at h
    | cons a as =>
      have hr : r ≤ as.length := by simpa using h
      show kick o alt (r+1) bs idx cur (a :: (as ++ ext)) log = kick o alt (r+1) bs idx cur (a :: as) log
      unfold kick
      simp only [List.headD_cons, List.tail_cons]
      rw [ih _ _ _ as ext _ hr]
      rfl

end Cuckoo

/-! ## in-memory filter -/
namespace Cuckoo.Mem

section
variable {F : Type} [DecidableEq F] [Inhabited (BucketMem F)]

theorem walkShape_of_wf (emp : F) (c : Cuckoo (BucketMem F)) (h : WF emp c) :
    WalkShape (BucketMem.lawful emp) c.n c.bsize c.buckets :=
  WalkShape.of_wf ((wf_iff emp c).mp h).bs

/-- **the invariant holds when the walk starts**: well-formed filter, in-range call, both
    candidate buckets without room -/
theorem C14_walk_invariant_init (emp : F) (alt : Nat → F → Nat) (c : Cuckoo (BucketMem F))
    (i1 i2 : Nat) (side : Bool) (slots : List Nat) (hwf : WF emp c) (hr : InRange c alt i1 i2 slots)
    (hf1 : (bucketAt c.buckets i1).isFree = false) (hf2 : (bucketAt c.buckets i2).isFree = false) :
    WalkInv (BucketMem.lawful emp) c.n c.bsize c.buckets (if side then i1 else i2) [] :=
  WalkInv.init (BucketMem.lawful emp) alt c i1 i2 side slots (walkShape_of_wf emp c hwf) hr hf1 hf2

/-- **one round of the forward walk keeps the invariant and stays in range**: bucket `idx` and its
    slot exist (so `at(slot)`, `set(slot, cur)` are in range), the alternate bucket of the displaced
    fingerprint exists, every log entry including the new one addresses an existing slot. -/
theorem C14_walk_invariant_round (emp : F) (alt : Nat → F → Nat) (n s : Nat)
    (hAlt : ∀ j f, j < n → alt j f < n) (bs : List (BucketMem F)) (idx : Nat) (cur : F) (slot : Nat)
    (log : List (F × Nat × Nat)) (hI : WalkInv (BucketMem.lawful emp) n s bs idx log)
    (hslot : slot < s) :
    let prev := (bucketAt bs idx).elements.getD slot emp
    let bs1 := modAt bs idx (fun b => b.set slot cur)
    idx < bs.length ∧ slot < (bucketAt bs idx).elements.length ∧ alt idx prev < bs1.length ∧
    (∀ e ∈ (prev, idx, slot) :: log,
      e.2.1 < bs1.length ∧ e.2.2 < (bucketAt bs1 e.2.1).elements.length) ∧
    ((bucketAt bs1 (alt idx prev)).isFree = false →
      WalkInv (BucketMem.lawful emp) n s bs1 (alt idx prev) ((prev, idx, slot) :: log)) :=
  walk_round (BucketMem.lawful emp) (BucketMem.strictLawful emp) alt n s hAlt bs idx cur slot log hI hslot

/-- **one step of the roll-back replay** keeps "every remaining entry addresses an existing slot" -/
theorem C14_walk_invariant_replay (bs : List (BucketMem F)) (e0 : F × Nat × Nat)
    (log : List (F × Nat × Nat))
    (h : ∀ e ∈ e0 :: log, e.2.1 < bs.length ∧ e.2.2 < (bucketAt bs e.2.1).elements.length) :
    (e0.2.1 < bs.length ∧ e0.2.2 < (bucketAt bs e0.2.1).elements.length) ∧
    ∀ e ∈ log, e.2.1 < (modAt bs e0.2.1 (fun b => b.set e0.2.2 e0.1)).length ∧
      e.2.2 < (bucketAt (modAt bs e0.2.1 (fun b => b.set e0.2.2 e0.1)) e.2.1).elements.length :=
  -- the statement does not mention the empty value; any serves, `e0.1` is at hand
  rollback_round (o := BucketMem.ops e0.1) (BucketMem.lawful e0.1) bs e0 log h

/-- **every access of the walk is in range** — forward walk and roll-back replay.  The log IS the
    trace: round `e = (prev, idx, slot)` read and overwrote slot `slot` of bucket `idx` and then
    addressed bucket `alt idx prev`; the replay writes slot `e.2.2` of bucket `e.2.1`.  No write of
    the walk changes a number of buckets or slots, so "in the initial table" is also "at the time
    of the access". -/
theorem C14_walk_in_range (emp : F) (alt : Nat → F → Nat) (c : Cuckoo (BucketMem F))
    (r idx : Nat) (cur : F) (slots : List Nat)
    (bs : List (BucketMem F)) (log : List (F × Nat × Nat)) (found : Bool)
    (hwf : WF emp c) (hAlt : ∀ j f, j < c.n → alt j f < c.n) (hb : 0 < c.bsize)
    (hsl : ∀ x ∈ slots, x < c.bsize) (hidx : idx < c.n)
    (hfull : (bucketAt c.buckets idx).isFree = false)
    (hk : kick (BucketMem.ops emp) alt r c.buckets idx cur slots [] = (bs, log, found)) :
    (∀ e ∈ log, e.2.1 < c.buckets.length ∧ e.2.2 < (bucketAt c.buckets e.2.1).elements.length ∧
      alt e.2.1 e.1 < c.buckets.length) ∧
    (found = false → log.length = r ∧ bs.length = c.buckets.length ∧
      ∀ e ∈ log, e.2.1 < bs.length ∧ e.2.2 < (bucketAt bs e.2.1).elements.length) :=
  kick_in_range (BucketMem.lawful emp) (BucketMem.strictLawful emp) alt c.n c.bsize hAlt hb r c.buckets idx cur
    slots bs log found (walkShape_of_wf emp c hwf) hidx hfull hsl hk

theorem C14_strict_agrees (emp : F) (alt : Nat → F → Nat) (c : Cuckoo (BucketMem F))
    (fp : F) (i1 i2 : Nat) (d side : Bool) (slots : List Nat)
    (hwf : WF emp c) (hr : InRange c alt i1 i2 slots) :
    insertS (BucketMem.ops emp) (BucketMem.strictOps emp) alt c fp i1 i2 d side slots
      = some (insert (BucketMem.ops emp) alt c fp i1 i2 d side slots) :=
  insertS_eq (BucketMem.lawful emp) (BucketMem.strictLawful emp) alt c fp i1 i2 d side slots
    (walkShape_of_wf emp c hwf) hr

/-- **Rollback is exact, strict version.**  The strict non-destructive insert does not fail to
    run, and when it reports "full" the state is exactly the initial one. -/
theorem C14_rollback_exact_strict (emp : F) (alt : Nat → F → Nat) (c : Cuckoo (BucketMem F))
    (fp : F) (i1 i2 : Nat) (side : Bool) (slots : List Nat)
    (hwf : WF emp c) (hr : InRange c alt i1 i2 slots) :
    insertS (BucketMem.ops emp) (BucketMem.strictOps emp) alt c fp i1 i2 false side slots ≠ none ∧
    ∀ c', insertS (BucketMem.ops emp) (BucketMem.strictOps emp) alt c fp i1 i2 false side slots
        = some (.full c') → c' = c :=
  insertS_rollback_exact (BucketMem.lawful emp) (BucketMem.strictLawful emp) alt c fp i1 i2 side slots
    (walkShape_of_wf emp c hwf) hr

/-- **Failure is signalled only when no visited bucket had room, strict version** (either mode; no
    `fp ≠ emp`): the STRICT loop ran all `retries` rounds without failing, each on an in-range slot
    of an in-range bucket without room, testing an in-range bucket without room. -/
theorem C14_failure_signalled_strict (emp : F) (alt : Nat → F → Nat) (c : Cuckoo (BucketMem F))
    (fp : F) (i1 i2 : Nat) (d side : Bool) (slots : List Nat) (c' : Cuckoo (BucketMem F))
    (hwf : WF emp c) (hr : InRange c alt i1 i2 slots)
    (h : insertS (BucketMem.ops emp) (BucketMem.strictOps emp) alt c fp i1 i2 d side slots
      = some (.full c')) :
    (bucketAt c.buckets i1).isFree = false ∧ (bucketAt c.buckets i2).isFree = false ∧
    ∃ bs log, kickS (BucketMem.ops emp) (BucketMem.strictOps emp) alt c.retries c.buckets
        (if side then i1 else i2) fp slots [] = some (bs, log, false) ∧ log.length = c.retries ∧
      ∀ e ∈ log, e.2.1 < c.n ∧ e.2.2 < c.bsize ∧ alt e.2.1 e.1 < c.n ∧
        (bucketAt c.buckets e.2.1).isFree = false ∧
        (bucketAt c.buckets (alt e.2.1 e.1)).isFree = false :=
  insertS_full_signalled (BucketMem.lawful emp) (BucketMem.strictLawful emp) alt c fp i1 i2 d side slots c'
    (walkShape_of_wf emp c hwf) hr h

/-- **`C14_rollback_exact` is the same statement on the in-range part**; outside `InRange` / `WF` it
    also covers runs in which a default was taken, which the Go code does not have
    (`C14_strict_needs_*` below). -/
theorem C14_rollback_exact_in_range (emp : F) (alt : Nat → F → Nat) (c : Cuckoo (BucketMem F))
    (fp : F) (i1 i2 : Nat) (side : Bool) (slots : List Nat) (c' : Cuckoo (BucketMem F))
    (hwf : WF emp c) (hr : InRange c alt i1 i2 slots) :
    (insertS (BucketMem.ops emp) (BucketMem.strictOps emp) alt c fp i1 i2 false side slots
        = some (.full c')
      ↔ insert (BucketMem.ops emp) alt c fp i1 i2 false side slots = .full c') ∧
    (insert (BucketMem.ops emp) alt c fp i1 i2 false side slots = .full c' → c' = c) :=
  insertS_full_iff (BucketMem.lawful emp) (BucketMem.strictLawful emp) alt c fp i1 i2 side slots c'
    (walkShape_of_wf emp c hwf) hr

end

/-! ### the hypotheses are needed (in memory): strict run `none` = the Go code panics -/

def alt2 : Nat → Nat → Nat := fun j f => (j ^^^ f) % 2

/-- slot = bsize.  Go: `buckets[0].at(1)` on `elements` of length 1 — panic `index out of range [1]
    with length 1`.  Model: reads the default `0`, the write is a no-op and the walk goes on; the
    non-destructive insert "fails" with the initial state; in the destructive run whose SECOND draw
    is out of range the fingerprint 5 displaced in round 1 silently vanishes (the write of round 2
    that should have stored it was a no-op). -/
theorem C14_strict_needs_slot_range :
    insertS (BucketMem.ops 0) (BucketMem.strictOps 0) alt2 exFull 9 0 1 false true [1, 0] = none ∧
    insert (BucketMem.ops 0) alt2 exFull 9 0 1 false true [1, 0] = .full exFull ∧
    -- and later in the walk (second round)
    insertS (BucketMem.ops 0) (BucketMem.strictOps 0) alt2 exFull 9 0 1 true true [0, 1] = none ∧
    insert (BucketMem.ops 0) alt2 exFull 9 0 1 true true [0, 1]
      = .full ⟨2, 1, 0, 2, [⟨1, [9], 1⟩, ⟨1, [7], 1⟩], 2⟩ := by decide +kernel

/-- a state that is not well-formed: bucket 1 claims to be full (`length = size = 1`) but has no
    slot.  All arguments are in range.  Go: `buckets[1].at(0)` panics; model: default. -/
def exShort : Cuckoo (BucketMem Nat) := ⟨2, 1, 0, 2, [⟨1, [5], 1⟩, ⟨1, [], 1⟩], 2⟩

theorem C14_strict_needs_wf :
    InRange exShort alt2 0 1 [0, 0] ∧
    insertS (BucketMem.ops 0) (BucketMem.strictOps 0) alt2 exShort 9 0 1 false true [0, 0] = none ∧
    insert (BucketMem.ops 0) alt2 exShort 9 0 1 false true [0, 0] = .full exShort ∧
    insert (BucketMem.ops 0) alt2 exShort 9 0 1 true true [0, 0]
      = .full ⟨2, 1, 0, 2, [⟨1, [9], 1⟩, ⟨1, [], 1⟩], 2⟩ := by
  refine ⟨⟨by decide, by decide, by decide, by decide, ?_, by decide⟩, by decide, by decide, by decide⟩
  intro j f _; exact Nat.mod_lt _ (by decide)

/-- candidate bucket = n.  Go: `cuckooFilter.buckets[2]` on a slice of length 2 panics; the model
    reads the default bucket `⟨0, [], 0⟩` (no room) and carries on. -/
theorem C14_strict_needs_bucket_range :
    insertS (BucketMem.ops 0) (BucketMem.strictOps 0) alt2 exFull 9 0 2 false true [0, 0] = none ∧
    insert (BucketMem.ops 0) alt2 exFull 9 0 2 false true [0, 0] = .full exFull ∧
    insertS (BucketMem.ops 0) (BucketMem.strictOps 0) alt2 exFull 9 2 0 false true [0, 0] = none ∧
    insert (BucketMem.ops 0) alt2 exFull 9 2 0 false true [0, 0] = .full exFull := by decide +kernel

/-- an alternate-bucket map that leaves the table (`alt j f = j + 2`): Go would index
    `buckets[2]`; the model tests the default bucket for room and continues from it. -/
theorem C14_strict_needs_alt_range :
    insertS (BucketMem.ops 0) (BucketMem.strictOps 0) (fun j _ => j + 2) exFull 9 0 1 false true [0, 0]
      = none ∧
    insert (BucketMem.ops 0) (fun j _ => j + 2) exFull 9 0 1 false true [0, 0] = .full exFull := by
  decide +kernel

/-- in memory `add` itself has a hidden access: a bucket whose cached `length` (0) claims room
    although no slot is empty.  Go: `set(uint64(-1), 9)` panics; the model's `List.set` at
    `idxOf = length` is a no-op, `length` is bumped and the insert is acknowledged with nothing
    stored. -/
theorem C14_strict_add_needs_wf :
    let c : Cuckoo (BucketMem Nat) := ⟨2, 1, 0, 2, [⟨1, [5], 0⟩, ⟨1, [7], 1⟩], 1⟩
    InRange c alt2 0 1 [0, 0] ∧
    insertS (BucketMem.ops 0) (BucketMem.strictOps 0) alt2 c 9 0 1 false true [0, 0] = none ∧
    insert (BucketMem.ops 0) alt2 c 9 0 1 false true [0, 0]
      = .ok ⟨2, 1, 0, 2, [⟨1, [5], 1⟩, ⟨1, [7], 1⟩], 2⟩ := by
  refine ⟨⟨by decide, by decide, by decide, by decide, ?_, by decide⟩, by decide, by decide⟩
  intro j f _; exact Nat.mod_lt _ (by decide)

theorem exFull_wf : WF 0 exFull := by decide +kernel

theorem exFull_inRange : InRange exFull alt2 0 1 [0, 0] :=
  ⟨by decide, by decide, by decide, by decide, fun j f _ => Nat.mod_lt _ (by decide), by decide⟩

/-- the strict non-destructive insert into the full two-bucket table runs, fails, restores -/
example : insertS (BucketMem.ops 0) (BucketMem.strictOps 0) alt2 exFull 9 0 1 false true [0, 0]
    = some (.full exFull) := by decide +kernel

example : insertS (BucketMem.ops 0) (BucketMem.strictOps 0) alt2 exFull 9 0 1 false true [0, 0]
    = some (insert (BucketMem.ops 0) alt2 exFull 9 0 1 false true [0, 0]) :=
  C14_strict_agrees 0 alt2 exFull 9 0 1 false true [0, 0] exFull_wf exFull_inRange

/-- four buckets of two slots, all full; `alt j f = (j ^^^ f) % 4`; three retries with the draws
    1, 0, 1: the walk visits buckets 1, 2, 0 -/
def exFour : Cuckoo (BucketMem Nat) :=
  ⟨4, 2, 0, 3, [⟨2, [5, 6], 2⟩, ⟨2, [7, 3], 2⟩, ⟨2, [2, 9], 2⟩, ⟨2, [4, 8], 2⟩], 8⟩
def alt4 : Nat → Nat → Nat := fun j f => (j ^^^ f) % 4

theorem exFour_wf : WF 0 exFour := by decide +kernel

theorem exFour_inRange : InRange exFour alt4 1 3 [1, 0, 1] :=
  ⟨by decide, by decide, by decide, by decide, fun j f _ => Nat.mod_lt _ (by decide), by decide⟩

/-- the strict walk: three rounds, log newest first (displaced fingerprint, bucket, slot) -/
example : kickS (BucketMem.ops 0) (BucketMem.strictOps 0) alt4 3 exFour.buckets 1 11 [1, 0, 1] []
    = some ([⟨2, [5, 2], 2⟩, ⟨2, [7, 11], 2⟩, ⟨2, [3, 9], 2⟩, ⟨2, [4, 8], 2⟩],
        [(6, 0, 1), (2, 2, 0), (3, 1, 1)], false) := by decide +kernel

/-- non-destructive: strict run = `.full` of the initial state; destructive: the displaced 6 is lost -/
example : insertS (BucketMem.ops 0) (BucketMem.strictOps 0) alt4 exFour 11 1 3 false true [1, 0, 1]
    = some (.full exFour) := by decide +kernel

example : insertS (BucketMem.ops 0) (BucketMem.strictOps 0) alt4 exFour 11 1 3 true true [1, 0, 1]
    = some (.full ⟨4, 2, 0, 3,
        [⟨2, [5, 2], 2⟩, ⟨2, [7, 11], 2⟩, ⟨2, [3, 9], 2⟩, ⟨2, [4, 8], 2⟩], 8⟩) := by decide +kernel

example : ∀ c', insertS (BucketMem.ops 0) (BucketMem.strictOps 0) alt4 exFour 11 1 3 false true [1, 0, 1]
    = some (.full c') → c' = exFour :=
  (C14_rollback_exact_strict 0 alt4 exFour 11 1 3 true [1, 0, 1] exFour_wf exFour_inRange).2

example : ∀ e ∈ [(6, 0, 1), (2, 2, 0), (3, 1, 1)],
    e.2.1 < exFour.buckets.length ∧ e.2.2 < (bucketAt exFour.buckets e.2.1).elements.length ∧
      alt4 e.2.1 e.1 < exFour.buckets.length :=
  (C14_walk_in_range 0 alt4 exFour 3 1 11 [1, 0, 1]
    [⟨2, [5, 2], 2⟩, ⟨2, [7, 11], 2⟩, ⟨2, [3, 9], 2⟩, ⟨2, [4, 8], 2⟩] _ false exFour_wf
    (fun j f _ => Nat.mod_lt _ (by decide)) (by decide) (by decide) (by decide) (by decide)
    (by decide)).1

/-- an insert with room (no walk) and one that succeeds after an eviction: strict = model -/
example :
    let c : Cuckoo (BucketMem Nat) :=
      ⟨4, 2, 0, 3, [⟨2, [5, 6], 2⟩, ⟨2, [7, 3], 2⟩, ⟨2, [2, 0], 1⟩, ⟨2, [4, 8], 2⟩], 7⟩
    insertS (BucketMem.ops 0) (BucketMem.strictOps 0) alt4 c 11 1 3 false true [1, 0, 1]
      = some (.ok ⟨4, 2, 0, 3, [⟨2, [5, 6], 2⟩, ⟨2, [7, 11], 2⟩, ⟨2, [2, 3], 2⟩, ⟨2, [4, 8], 2⟩], 8⟩) ∧
    insertS (BucketMem.ops 0) (BucketMem.strictOps 0) alt4 c 11 2 3 false true []
      = some (.ok ⟨4, 2, 0, 3, [⟨2, [5, 6], 2⟩, ⟨2, [7, 3], 2⟩, ⟨2, [2, 11], 2⟩, ⟨2, [4, 8], 2⟩], 8⟩) := by
  decide +kernel

/-- `InRange` for a real element of a real table: "a" in a 4 × 2 table with one-digit fingerprints -/
example : InRange exFour (altOf hashStr exFour.n)
    (positions exFour.n exFour.fpl "a".toUTF8.toList).2.1
    (positions exFour.n exFour.fpl "a".toUTF8.toList).2.2 [1, 0, 1] :=
  InRange_of_positions exFour _ _ (by decide) (by decide) (by decide)

end Cuckoo.Mem

/-! ## Redis-backed filter -/
namespace Cuckoo.Redis

section
variable {F : Type} [DecidableEq F] [Inhabited (BucketRedis F)]

theorem walkShape_of_wf (emp : F) (c : Cuckoo (BucketRedis F)) (h : WF emp c) :
    WalkShape (BucketRedis.lawful emp) c.n c.bsize c.buckets :=
  WalkShape.of_wf ((wf_iff emp c).mp h).bs

theorem C14_walk_invariant_init (emp : F) (alt : Nat → F → Nat) (c : Cuckoo (BucketRedis F))
    (i1 i2 : Nat) (side : Bool) (slots : List Nat) (hwf : WF emp c) (hr : InRange c alt i1 i2 slots)
    (hf1 : (bucketAt c.buckets i1).isFree = false) (hf2 : (bucketAt c.buckets i2).isFree = false) :
    WalkInv (BucketRedis.lawful emp) c.n c.bsize c.buckets (if side then i1 else i2) [] :=
  WalkInv.init (BucketRedis.lawful emp) alt c i1 i2 side slots (walkShape_of_wf emp c hwf) hr hf1 hf2

theorem C14_walk_invariant_round (emp : F) (alt : Nat → F → Nat) (n s : Nat)
    (hAlt : ∀ j f, j < n → alt j f < n) (bs : List (BucketRedis F)) (idx : Nat) (cur : F) (slot : Nat)
    (log : List (F × Nat × Nat)) (hI : WalkInv (BucketRedis.lawful emp) n s bs idx log)
    (hslot : slot < s) :
    let prev := (bucketAt bs idx).list.getD slot emp
    let bs1 := modAt bs idx (fun b => b.set slot cur)
    idx < bs.length ∧ slot < (bucketAt bs idx).list.length ∧ alt idx prev < bs1.length ∧
    (∀ e ∈ (prev, idx, slot) :: log,
      e.2.1 < bs1.length ∧ e.2.2 < (bucketAt bs1 e.2.1).list.length) ∧
    ((bucketAt bs1 (alt idx prev)).isFree = false →
      WalkInv (BucketRedis.lawful emp) n s bs1 (alt idx prev) ((prev, idx, slot) :: log)) :=
  walk_round (BucketRedis.lawful emp) (BucketRedis.strictLawful emp) alt n s hAlt bs idx cur slot log hI hslot

theorem C14_walk_invariant_replay (bs : List (BucketRedis F)) (e0 : F × Nat × Nat)
    (log : List (F × Nat × Nat))
    (h : ∀ e ∈ e0 :: log, e.2.1 < bs.length ∧ e.2.2 < (bucketAt bs e.2.1).list.length) :
    (e0.2.1 < bs.length ∧ e0.2.2 < (bucketAt bs e0.2.1).list.length) ∧
    ∀ e ∈ log, e.2.1 < (modAt bs e0.2.1 (fun b => b.set e0.2.2 e0.1)).length ∧
      e.2.2 < (bucketAt (modAt bs e0.2.1 (fun b => b.set e0.2.2 e0.1)) e.2.1).list.length :=
  -- the statement does not mention the empty value; any serves, `e0.1` is at hand
  rollback_round (o := BucketRedis.ops e0.1) (BucketRedis.lawful e0.1) bs e0 log h

/-- **every access of the walk is in range** (Redis): every `LINDEX` / `LSET` of the forward walk
    and of the replay addresses an existing entry of an existing list, every bucket handle looked
    up exists.  Note that a well-formed Redis bucket may have FEWER than `bsize` list entries (the
    list grows by `LPUSH`); the walk only touches buckets without room, and those have exactly
    `bsize` entries. -/
theorem C14_walk_in_range (emp : F) (alt : Nat → F → Nat) (c : Cuckoo (BucketRedis F))
    (r idx : Nat) (cur : F) (slots : List Nat)
    (bs : List (BucketRedis F)) (log : List (F × Nat × Nat)) (found : Bool)
    (hwf : WF emp c) (hAlt : ∀ j f, j < c.n → alt j f < c.n) (hb : 0 < c.bsize)
    (hsl : ∀ x ∈ slots, x < c.bsize) (hidx : idx < c.n)
    (hfull : (bucketAt c.buckets idx).isFree = false)
    (hk : kick (BucketRedis.ops emp) alt r c.buckets idx cur slots [] = (bs, log, found)) :
    (∀ e ∈ log, e.2.1 < c.buckets.length ∧ e.2.2 < (bucketAt c.buckets e.2.1).list.length ∧
      alt e.2.1 e.1 < c.buckets.length) ∧
    (found = false → log.length = r ∧ bs.length = c.buckets.length ∧
      ∀ e ∈ log, e.2.1 < bs.length ∧ e.2.2 < (bucketAt bs e.2.1).list.length) :=
  kick_in_range (BucketRedis.lawful emp) (BucketRedis.strictLawful emp) alt c.n c.bsize hAlt hb r c.buckets idx cur
    slots bs log found (walkShape_of_wf emp c hwf) hidx hfull hsl hk

theorem C14_strict_agrees (emp : F) (alt : Nat → F → Nat) (c : Cuckoo (BucketRedis F))
    (fp : F) (i1 i2 : Nat) (d side : Bool) (slots : List Nat)
    (hwf : WF emp c) (hr : InRange c alt i1 i2 slots) :
    insertS (BucketRedis.ops emp) (BucketRedis.strictOps emp) alt c fp i1 i2 d side slots
      = some (insert (BucketRedis.ops emp) alt c fp i1 i2 d side slots) :=
  insertS_eq (BucketRedis.lawful emp) (BucketRedis.strictLawful emp) alt c fp i1 i2 d side slots
    (walkShape_of_wf emp c hwf) hr

theorem C14_rollback_exact_strict (emp : F) (alt : Nat → F → Nat) (c : Cuckoo (BucketRedis F))
    (fp : F) (i1 i2 : Nat) (side : Bool) (slots : List Nat)
    (hwf : WF emp c) (hr : InRange c alt i1 i2 slots) :
    insertS (BucketRedis.ops emp) (BucketRedis.strictOps emp) alt c fp i1 i2 false side slots ≠ none ∧
    ∀ c', insertS (BucketRedis.ops emp) (BucketRedis.strictOps emp) alt c fp i1 i2 false side slots
        = some (.full c') → c' = c :=
  insertS_rollback_exact (BucketRedis.lawful emp) (BucketRedis.strictLawful emp) alt c fp i1 i2 side slots
    (walkShape_of_wf emp c hwf) hr

theorem C14_failure_signalled_strict (emp : F) (alt : Nat → F → Nat) (c : Cuckoo (BucketRedis F))
    (fp : F) (i1 i2 : Nat) (d side : Bool) (slots : List Nat) (c' : Cuckoo (BucketRedis F))
    (hwf : WF emp c) (hr : InRange c alt i1 i2 slots)
    (h : insertS (BucketRedis.ops emp) (BucketRedis.strictOps emp) alt c fp i1 i2 d side slots
      = some (.full c')) :
    (bucketAt c.buckets i1).isFree = false ∧ (bucketAt c.buckets i2).isFree = false ∧
    ∃ bs log, kickS (BucketRedis.ops emp) (BucketRedis.strictOps emp) alt c.retries c.buckets
        (if side then i1 else i2) fp slots [] = some (bs, log, false) ∧ log.length = c.retries ∧
      ∀ e ∈ log, e.2.1 < c.n ∧ e.2.2 < c.bsize ∧ alt e.2.1 e.1 < c.n ∧
        (bucketAt c.buckets e.2.1).isFree = false ∧
        (bucketAt c.buckets (alt e.2.1 e.1)).isFree = false :=
  insertS_full_signalled (BucketRedis.lawful emp) (BucketRedis.strictLawful emp) alt c fp i1 i2 d side slots c'
    (walkShape_of_wf emp c hwf) hr h

theorem C14_rollback_exact_in_range (emp : F) (alt : Nat → F → Nat) (c : Cuckoo (BucketRedis F))
    (fp : F) (i1 i2 : Nat) (side : Bool) (slots : List Nat) (c' : Cuckoo (BucketRedis F))
    (hwf : WF emp c) (hr : InRange c alt i1 i2 slots) :
    (insertS (BucketRedis.ops emp) (BucketRedis.strictOps emp) alt c fp i1 i2 false side slots
        = some (.full c')
      ↔ insert (BucketRedis.ops emp) alt c fp i1 i2 false side slots = .full c') ∧
    (insert (BucketRedis.ops emp) alt c fp i1 i2 false side slots = .full c' → c' = c) :=
  insertS_full_iff (BucketRedis.lawful emp) (BucketRedis.strictLawful emp) alt c fp i1 i2 side slots c'
    (walkShape_of_wf emp c hwf) hr

end

/-! ### the hypotheses are needed (Redis): strict run `none` = a failed command or a nil handle -/

def alt2 : Nat → Nat → Nat := fun j f => (j ^^^ f) % 2

/-- two full one-entry lists -/
def exFull : Cuckoo (BucketRedis Nat) := ⟨2, 1, 0, 2, [⟨1, [5], 1⟩, ⟨1, [7], 1⟩], 2⟩

/-- slot = bsize.  Redis: `LINDEX key 1` on a one-entry list answers nil, `LSET key 1 …` answers
    `ERR index out of range`; the Go code drops both errors and goes on with `""` — which is what
    the model computes with its defaults; the strict run flags the failed command. -/
theorem C14_strict_needs_slot_range :
    insertS (BucketRedis.ops 0) (BucketRedis.strictOps 0) alt2 exFull 9 0 1 false true [1, 0] = none ∧
    insert (BucketRedis.ops 0) alt2 exFull 9 0 1 false true [1, 0] = .full exFull := by decide +kernel

/-- a state that is not well-formed: the `_len` counter of bucket 1 says 1 (= size, no room) but
    its list is empty (e.g. the list key was deleted behind the filter's back).  All arguments in
    range; `LINDEX key 0` answers nil. -/
def exShort : Cuckoo (BucketRedis Nat) := ⟨2, 1, 0, 2, [⟨1, [5], 1⟩, ⟨1, [], 1⟩], 2⟩

theorem C14_strict_needs_wf :
    InRange exShort alt2 0 1 [0, 0] ∧
    insertS (BucketRedis.ops 0) (BucketRedis.strictOps 0) alt2 exShort 9 0 1 false true [0, 0] = none ∧
    insert (BucketRedis.ops 0) alt2 exShort 9 0 1 false true [0, 0] = .full exShort := by
  refine ⟨⟨by decide, by decide, by decide, by decide, ?_, by decide⟩, by decide, by decide⟩
  intro j f _; exact Nat.mod_lt _ (by decide)

/-- candidate bucket = n.  Go: the map `cuckooFilter.buckets` has no entry for
    `cuckoo_<key>_bucket_2`, the lookup yields a nil `*BucketRedis` and `isFree()` dereferences it:
    panic.  The model reads the default bucket. -/
theorem C14_strict_needs_bucket_range :
    insertS (BucketRedis.ops 0) (BucketRedis.strictOps 0) alt2 exFull 9 0 2 false true [0, 0] = none ∧
    insert (BucketRedis.ops 0) alt2 exFull 9 0 2 false true [0, 0] = .full exFull := by decide +kernel

theorem C14_strict_needs_alt_range :
    insertS (BucketRedis.ops 0) (BucketRedis.strictOps 0) (fun j _ => j + 2) exFull 9 0 1 false true [0, 0]
      = none ∧
    insert (BucketRedis.ops 0) (fun j _ => j + 2) exFull 9 0 1 false true [0, 0] = .full exFull := by
  decide +kernel

theorem exFull_wf : WF 0 exFull := by decide +kernel

theorem exFull_inRange : InRange exFull alt2 0 1 [0, 0] :=
  ⟨by decide, by decide, by decide, by decide, fun j f _ => Nat.mod_lt _ (by decide), by decide⟩

example : insertS (BucketRedis.ops 0) (BucketRedis.strictOps 0) alt2 exFull 9 0 1 false true [0, 0]
    = some (.full exFull) := by decide +kernel

example : insertS (BucketRedis.ops 0) (BucketRedis.strictOps 0) alt2 exFull 9 0 1 false true [0, 0]
    = some (insert (BucketRedis.ops 0) alt2 exFull 9 0 1 false true [0, 0]) :=
  C14_strict_agrees 0 alt2 exFull 9 0 1 false true [0, 0] exFull_wf exFull_inRange

/-- four buckets of size two: three full lists and one list that is SHORTER than `bsize` (one
    entry, room for one more: well-formed on Redis).  `alt j f = (j ^^^ f) % 4`. -/
def exFour : Cuckoo (BucketRedis Nat) :=
  ⟨4, 2, 0, 3, [⟨2, [5, 6], 2⟩, ⟨2, [7, 3], 2⟩, ⟨2, [2, 9], 2⟩, ⟨2, [4], 1⟩], 7⟩
def alt4 : Nat → Nat → Nat := fun j f => (j ^^^ f) % 4

theorem exFour_wf : WF 0 exFour := by decide +kernel

theorem exFour_inRange : InRange exFour alt4 1 2 [1, 0, 1] :=
  ⟨by decide, by decide, by decide, by decide, fun j f _ => Nat.mod_lt _ (by decide), by decide⟩

/-- candidates 1 and 2 are full; the walk (three rounds, buckets 1, 2, 0) never reaches the short
    list 3 and fails; strict run = `.full` of the initial state -/
example : insertS (BucketRedis.ops 0) (BucketRedis.strictOps 0) alt4 exFour 11 1 2 false true [1, 0, 1]
    = some (.full exFour) := by decide +kernel

example : kickS (BucketRedis.ops 0) (BucketRedis.strictOps 0) alt4 3 exFour.buckets 1 11 [1, 0, 1] []
    = some ([⟨2, [5, 2], 2⟩, ⟨2, [7, 11], 2⟩, ⟨2, [3, 9], 2⟩, ⟨2, [4], 1⟩],
        [(6, 0, 1), (2, 2, 0), (3, 1, 1)], false) := by decide +kernel

example : ∀ c', insertS (BucketRedis.ops 0) (BucketRedis.strictOps 0) alt4 exFour 11 1 2 false true [1, 0, 1]
    = some (.full c') → c' = exFour :=
  (C14_rollback_exact_strict 0 alt4 exFour 11 1 2 true [1, 0, 1] exFour_wf exFour_inRange).2

/-- a walk that ends in the short list (draws `[1, 1, 0]`): 13 displaces 3 (slot 1 of bucket 1),
    whose alternate bucket `(1 ^^^ 3) % 4 = 2` is full; 3 displaces 9 (slot 1 of bucket 2), whose
    alternate bucket `(2 ^^^ 9) % 4 = 3` has room and no hole: `LPUSH` -/
example : insertS (BucketRedis.ops 0) (BucketRedis.strictOps 0) alt4 exFour 13 1 2 false true [1, 1, 0]
    = some (.ok ⟨4, 2, 0, 3, [⟨2, [5, 6], 2⟩, ⟨2, [7, 13], 2⟩, ⟨2, [2, 3], 2⟩, ⟨2, [9, 4], 2⟩], 8⟩) := by
  decide +kernel

end Cuckoo.Redis

end Gostatix
