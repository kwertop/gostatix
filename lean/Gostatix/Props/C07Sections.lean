/-
  C07 (premise 1, continued) — HOW MANY critical sections a method call consists of, decided over
  `sectionTable`, which /verif/extract regenerates from /repo's current sources on every run
  (`Gostatix/Generated/LockTable.lean`, second table; record types in `Model/Sections.lean`;
  analysis and the list of shapes it understands in `extract/gen.go`, "Section table").

  `Props/C07Lock.lean` decides, per method, that every access to mutable
  state is dominated by `Lock()`/`RLock()` on the instance's mutex.  `Props/C07.lean` proves that
  every schedule of calls OF THE FORM `acquire ; body ; release` is serializable, and
  `Props/C07Merge.lean` treats a call that is TWO sections `snap ; app`.  Neither says that the Go
  methods have these forms: a method that compares under `RLock`, releases, and stores under a
  separate `Lock` without re-checking has every access guarded (the lock table accepts it), and is
  neither form.  Here the form is read off the source and decided:

   * `C07_section_table_aligned` — `sectionTable` lists exactly the methods of `lockTable`, in the
     same order (so the two tables can be read side by side with `List.zip`).
   * `C07_sections_understood` — the extractor understood the shape of EVERY method of the five
     types (no `sectionsUnknown`): locks taken as statements of the function body, released by a
     paired `Unlock` on every path or by `defer`, no lock in a loop / branch / closure, no mutex
     handed to anything.  A shape outside the list in `extract/gen.go` fails this theorem; it is
     never guessed.
   * `C07_single_section` — every method is exempt (`exemptOK`), one of `mergeMethods`, one of
     `delegatingMethods` (exactly ONE call, on the receiver, of a single-section method:
     `delegatesOnce`), touches nothing and locks nothing, or is exactly ONE critical section on the
     RECEIVER, at the top level, in write mode unless nothing is written, with no access to tracked
     state outside it (`plainSection`) and nothing else but calls, made inside it, of locking
     methods of a structure the receiver OWNS (`ownedCall`).  This is the call model of
     `Props/C07.lean`: `call t i = [acq t, body t i, rel t]` (Model/Conc.lean), with `body` =
     everything the method does to the instance.  `C07_single_section_covers`: not vacuous for
     the operations the property names.
   * `C07_merge_two_sections` — `CountMinSketch.Merge` and `HyperLogLog.Merge` are exactly: one
     section on the ARGUMENT that reads it and does not write it (the snapshot), released before
     the next one starts, then one write-mode section on the RECEIVER that writes it (the apply);
     neither nested, no access outside.  This is `secsOf (Op.merge) = [Sec.snap, Sec.app]` of
     Proofs/C07Merge.lean.
       This is the shape premise of Props/C07Merge.lean; its other hypotheses (`OtherUpdatesCommute`,
       apply/apply commutation, `mergesDoNotOverlap`) are about what the bodies compute and about
       the schedule, and are dealt with there.
   * `C07_lock_order` — the only nesting anywhere in the five types is: a Top-K method holds the
     Top-K lock (receiver) and, inside, calls a locking method of its `sketch` (a Count-Min
     sketch).  No method takes them in the other order: no section of any method starts on a
     Top-K while a sketch lock is held, and no Count-Min method ever touches a lock of another
     type or holds two locks.  Calls are not expanded in the table, so the second half is what
     makes the statement about the callee's sections too.  `C07_no_two_locks_of_one_type`: no two
     mutexes of the same type are ever held together (`a.Merge(b)` with `b.Merge(a)` cannot
     deadlock: the two sections of a merge are sequential).

  What is NOT proved / assumed:
   * the extractor is syntactic (go/ast, no types): instances are the receiver, parameters,
     `recv.f` for fields declared with one of the five types, and locals `a := recv.f`; shadowing,
     method values, reflection are not modelled.  Accesses through an owned structure's fields
     (`t.sketch.matrix` in `TopK.Export`) count as accesses of the OWNER, as in the lock table.
   * closures are taken to run where they are written (`sort.Slice` comparators); `go` is refused.
   * a panic raised by a callee while a not-deferred lock is held is not modelled (a `panic(..)`
     statement is).
   * sync.Mutex / RWMutex semantics and the Go memory model, as in Props/C07.lean.
-/
import Gostatix.Generated.LockTable
import Gostatix.Model.Sections
namespace Gostatix.Conc
open Gostatix.Generated

/-- methods outside the property's call classes (the same names the extractor marks exempt) -/
def exemptNames : List String := ["Import", "ReadFrom", "Equals", "GetBitSet"]

/-- two sections: snapshot of the argument, then apply to the receiver -/
def mergeMethods : List (String × String) := [("CountMinSketch", "Merge"), ("HyperLogLog", "Merge")]

/-- methods that only convert their argument and call ONE locked method of the receiver -/
def delegatingMethods : List (String × String) := [
  ("BloomFilter", "InsertString"), ("BloomFilter", "LookupString"),
  ("CountMinSketch", "UpdateOnce"), ("CountMinSketch", "UpdateString"), ("CountMinSketch", "CountString")]

/-- types whose lock is taken conditionally (`if isBitSetMem(filter) { Lock; defer Unlock }`) -/
def conditionalLockTypes : List String := ["BloomFilter"]

/-- (owner type, field, type of the field): structures with their own mutex that an instance owns
    and only reaches while holding its own lock -/
def ownedStructures : List (String × Inst × String) := [("TopK", .field "sketch", "CountMinSketch")]

theorem C07_section_table_aligned :
    sectionTable.map (fun s => (s.typ, s.method)) = lockTable.map (fun f => (f.typ, f.method)) := by decide +kernel

theorem C07_sections_understood : sectionTable.all (fun s => !s.sectionsUnknown) = true := by decide +kernel

/-- the one section of an `acquire ; body ; release` call: on the receiver, at the top level, in
    write mode unless nothing is written -/
def plainSection (typ : String) (writes : Bool) (c : SectionFact) : Bool :=
  c.inst == .recv && c.instTyp == typ && !c.nested && c.outer == .none &&
  (c.mode == .W || (c.mode == .R && !c.writes && !writes)) &&
  (!c.conditional || conditionalLockTypes.contains typ)

/-- a call, made while holding the receiver's lock, of a locking method of a structure the
    receiver owns -/
def ownedCall (typ : String) (c : SectionFact) : Bool :=
  c.mode == .call && c.nested && c.outer == .recv && c.outerTyp == typ &&
  ownedStructures.contains (typ, c.inst, c.instTyp)

def oneSectionOnRecv (f : MethodFact) (s : MethodSections) : Bool :=
  !s.sectionsUnknown && !s.bare &&
  (match s.sections with
   | c :: rest => plainSection s.typ f.writesMutable c && rest.all (ownedCall s.typ)
   | [] => false)

/-- exactly one call, on the receiver, of a method that is itself in the table as a not exempt,
    state-touching method outside `mergeMethods` / `delegatingMethods` (hence, by
    `C07_single_section`, one section) -/
def delegatesOnce (s : MethodSections) : Bool :=
  !s.sectionsUnknown && !s.bare &&
  (match s.sections with
   | [c] => c.mode == .call && c.inst == .recv && c.instTyp == s.typ && !c.nested &&
       !mergeMethods.contains (s.typ, c.callee) && !delegatingMethods.contains (s.typ, c.callee) &&
       lockTable.any (fun f => f.typ == s.typ && f.method == c.callee && !f.exempt && f.touchesMutable)
   | _ => false)

/-- exempt: by name, or a helper that takes no lock and calls no locking method (its accesses are
    charged to the sections of its callers) -/
def exemptOK (f : MethodFact) (s : MethodSections) : Bool :=
  f.exempt && (exemptNames.contains f.method || s.sections.isEmpty)

def shapeOK (f : MethodFact) (s : MethodSections) : Bool :=
  exemptOK f s || mergeMethods.contains (s.typ, s.method) ||
  (if delegatingMethods.contains (s.typ, s.method) then delegatesOnce s
   else if f.touchesMutable || !s.sections.isEmpty then oneSectionOnRecv f s
   else !s.bare)

/-- **one call = one critical section**, for every method of the five types outside the explicit
    exception lists above -/
theorem C07_single_section :
    (lockTable.zip sectionTable).all (fun p =>
      p.1.typ == p.2.typ && p.1.method == p.2.method && shapeOK p.1 p.2) = true := by decide +kernel

/-- the operations the property names, the two merges aside (`requiredMethods` of Props/C07Lock.lean
    minus `mergeMethods`; repeated here so that this file and C07Lock build, and fail, independently) -/
def singleSectionMethods : List (String × String) := [
  ("BloomFilter", "Insert"), ("BloomFilter", "Lookup"), ("BloomFilter", "Export"), ("BloomFilter", "WriteTo"), ("BloomFilter", "BloomPositiveRate"),
  ("CuckooFilter", "Insert"), ("CuckooFilter", "Lookup"), ("CuckooFilter", "Remove"), ("CuckooFilter", "Length"), ("CuckooFilter", "Export"), ("CuckooFilter", "WriteTo"),
  ("CountMinSketch", "Update"), ("CountMinSketch", "Count"), ("CountMinSketch", "Export"), ("CountMinSketch", "WriteTo"),
  ("HyperLogLog", "Update"), ("HyperLogLog", "Count"), ("HyperLogLog", "Reset"), ("HyperLogLog", "Export"), ("HyperLogLog", "WriteTo"),
  ("TopK", "Insert"), ("TopK", "Values"), ("TopK", "Export"), ("TopK", "WriteTo")]

/-- not vacuous: the operations the property names (the merges aside) are there, are not exempt,
    touch mutable state and consist of exactly one section on the receiver -/
theorem C07_single_section_covers :
    singleSectionMethods.all (fun r =>
      (lockTable.zip sectionTable).any (fun p =>
        p.1.typ == r.1 && p.1.method == r.2 && p.2.typ == r.1 && p.2.method == r.2 &&
        !p.1.exempt && p.1.touchesMutable && oneSectionOnRecv p.1 p.2)) = true := by decide +kernel

def isMergeShape (s : MethodSections) : Bool :=
  !s.sectionsUnknown && !s.bare &&
  (match s.sections with
   | [a, b] =>
       -- the snapshot: on the argument (same type), either mode, only reads, released before the apply starts
       a.inst.isArg && a.instTyp == s.typ && a.mode != .call && !a.nested && a.outer == .none &&
       a.seq && a.reads && !a.writes && !a.conditional &&
       -- the apply: on the receiver, exclusive, writes
       b.inst == .recv && b.instTyp == s.typ && b.mode == .W && !b.nested && b.outer == .none &&
       b.writes && !b.conditional
   | _ => false)

/-- the two merges have the shape `Sec.snap ; Sec.app` that Props/C07Merge.lean models -/
theorem C07_merge_two_sections :
    mergeMethods.all (fun k =>
      (sectionTable.filter (fun s => s.typ == k.1 && s.method == k.2)).map isMergeShape == [true]) = true := by
  decide +kernel

/-- and they are in the lock table as guarded, exclusive writers (so: each of the two sections is
    on the right mutex for what it touches) -/
theorem C07_merge_guarded :
    mergeMethods.all (fun k => lockTable.any (fun f =>
      f.typ == k.1 && f.method == k.2 && !f.exempt && f.touchesMutable && f.writesMutable && f.guarded && f.exclusive)) = true := by
  decide +kernel

/-- the only nesting: Top-K lock (receiver) outside, the lock of its sketch inside -/
def nestedOK (s : MethodSections) (c : SectionFact) : Bool :=
  if c.nested then
    s.typ == "TopK" && c.outer == .recv && c.outerTyp == "TopK" &&
    c.inst == .field "sketch" && c.instTyp == "CountMinSketch"
  else c.outer == .none

/-- a method of the INNER type only ever locks instances of its own type, one at a time -/
def innerTypeOK (s : MethodSections) : Bool :=
  s.typ != "CountMinSketch" || s.sections.all (fun c => c.instTyp == "CountMinSketch" && !c.nested)

theorem C07_lock_order :
    sectionTable.all (fun s => s.sections.all (nestedOK s) && innerTypeOK s) = true := by decide +kernel

/-- no two mutexes of one type are ever held together -/
theorem C07_no_two_locks_of_one_type :
    sectionTable.all (fun s => s.sections.all (fun c => !c.nested || c.outerTyp != c.instTyp)) = true := by
  decide +kernel

end Gostatix.Conc
