/-
  C15 (Bloom clause) — the false-positive rate of the Bloom filter under IDEAL hashing, by
  counting.  Companion of `Props/C15Prob.lean` (Count-Min clause).

  SETTING.  `E` a finite universe of elements, `m` bits, `k` probes.  The ideal hash family is the
  finite type of ALL functions `g : E → Fin k → Fin m`: every probe of every element is uniform on
  the `m` bits and all probes are independent.  "Probability" = fraction of this finite family (no
  measure theory).  The filter is the executable model of `Model/Bloom.lean`, run with the probe
  function `idealProbes g`.  The only hypothesis is that `y` is not inserted; `m = 0`, `k = 0` are
  allowed.

  The exact count `#FP · m^k = Σ_g (#B g)^k` (`B g` = set bits; double counting, since `B g` does
  not depend on `g y`) comes first; the union bound `#FP · m^k ≤ (k·|S|)^k · #family` is derived
  from it by `#B g ≤ k·n`.  No closed form of the occupancy distribution is proved.

  HOW FAR THIS IS FROM THE ADVERTISED `p`.  The union bound is a real but LOOSE guarantee.  With
  the constructor's `k ≈ (m/n)·ln 2` it gives `(ln 2 + n/m)^k`, about `p^(log₂(1/ln 2)) = p^0.5288…`:
  roughly the SQUARE ROOT of the advertised rate (n = 100, p = 1/16: 0.229 against 0.0625).  It
  bounds the occupied fraction by `k·n/m ≈ ln 2`, whereas the typical one is `1 − e^{−kn/m} ≈ 1/2`.
  The classical estimate `(1 − e^{−kn/m})^k ≈ p` is an APPROXIMATION and is NOT proved here.
  Nothing here shows that the constructor's filter achieves rate `p`, not even for ideal hashing.

  NOT PROVED / NOT IN SCOPE.  The code does NOT hash like this: `getPositions` computes ONE 128-bit
  metro hash `(h1, h2)` per element and derives the `k` probes by enhanced double hashing
  (`C15_probes_scheme`), so the probes of one element are NOT independent, and nothing is known
  here about the distribution of metro hash outputs.  Float rounding of the sizing formulas is not
  modelled (`bloomSize`, `bloomK` are over ℝ).  The false-positive frequency of the actual hash
  scheme is only MEASURED, by the harness suite `sizing`.
-/
import Mathlib.Analysis.Complex.ExponentialBounds
import Mathlib.Analysis.SpecialFunctions.Pow.Real
import Gostatix.Props.C15
import Gostatix.Proofs.BloomProb
import Gostatix.Props.C01
namespace Gostatix.Sizing
open Real Finset Gostatix.Bloom

section ideal
variable {E : Type} [Fintype E] [DecidableEq E]

/-- the members `g` of the ideal hash family for which `Lookup y` answers "present" after the
    history `h`.  For `y` not inserted by `h` this is the FALSE-POSITIVE event of `y`. -/
def presentSet (m k : ℕ) (h : List (BloomOp E)) (y : E) : Finset (E → Fin k → Fin m) :=
  univ.filter (fun g =>
    (run (idealProbes g) (Bloom.new m k) h).lookup (idealProbes g y) = true)

theorem mem_presentSet (m k : ℕ) (h : List (BloomOp E)) (y : E) (g : E → Fin k → Fin m) :
    g ∈ presentSet m k h y
      ↔ (run (idealProbes g) (Bloom.new m k) h).lookup (idealProbes g y) = true :=
  mem_filter_univ g

theorem card_family (m k : ℕ) :
    Fintype.card (E → Fin k → Fin m) = (m ^ k) ^ Fintype.card E := by
  rw [Fintype.card_fun, Fintype.card_fun, Fintype.card_fin, Fintype.card_fin]

/-- **exact count**: for `y` never inserted the false-positive probability is the MEAN over the
    family of `(occupied fraction)^k`. -/
theorem C15_bloom_fp_exact_sum (m k : ℕ) (h : List (BloomOp E)) (y : E)
    (hy : y ∉ insertsOf h) :
    (presentSet m k h y).card * m ^ k
      = ∑ g : E → Fin k → Fin m, (bitSet g h).card ^ k := by
  have key := Counting.card_mem_mul_card (F := Fin k → Fin m) y
    (fun g => Fintype.piFinset (fun _ : Fin k => bitSet g h))
    (fun g v => by rw [bitSet_update g h y hy v])
  have hset : presentSet m k h y
      = univ.filter (fun g : E → Fin k → Fin m =>
          g y ∈ Fintype.piFinset (fun _ : Fin k => bitSet g h)) := by
    ext g
    rw [mem_presentSet, lookup_iff_forall_mem, mem_filter_univ, Fintype.mem_piFinset]
  simpa only [hset, Fintype.card_pi_const, Fintype.card_fin, Fintype.card_piFinset_const] using key

/-- **exact count, occupancy form**: `P(FP) = Σ_B P(bit set = B) · (#B/m)^k`; no closed form for
    `#{g | bitSet g h = B}` is proved. -/
theorem C15_bloom_fp_occupancy (m k : ℕ) (h : List (BloomOp E)) (y : E)
    (hy : y ∉ insertsOf h) :
    (presentSet m k h y).card * m ^ k
      = ∑ B : Finset (Fin m),
          (univ.filter (fun g : E → Fin k → Fin m => bitSet g h = B)).card * B.card ^ k := by
  rw [C15_bloom_fp_exact_sum m k h y hy]
  exact Counting.sum_card_fiberwise (fun g : E → Fin k → Fin m => bitSet g h) (fun B => B.card ^ k)

/-- union bound, sharpest form: DISTINCT inserted elements, capped at `m` bits. -/
theorem C15_bloom_fp_union_bound_distinct (m k : ℕ) (h : List (BloomOp E)) (y : E)
    (hy : y ∉ insertsOf h) :
    (presentSet m k h y).card * m ^ k
      ≤ (min m (k * (insertsOf h).toFinset.card)) ^ k
          * Fintype.card (E → Fin k → Fin m) := by
  rw [C15_bloom_fp_exact_sum m k h y hy, ← Finset.card_univ, Nat.mul_comm,
    ← smul_eq_mul, ← Finset.sum_const]
  apply Finset.sum_le_sum
  intro g _
  apply Nat.pow_le_pow_left
  apply le_min (card_bitSet_le_m g h)
  rw [Nat.mul_comm]
  exact card_bitSet_le g h

theorem C15_bloom_fp_union_bound_history (m k : ℕ) (h : List (BloomOp E)) (y : E)
    (hy : y ∉ insertsOf h) :
    (presentSet m k h y).card * m ^ k
      ≤ (k * (insertsOf h).length) ^ k * Fintype.card (E → Fin k → Fin m) := by
  refine le_trans (C15_bloom_fp_union_bound_distinct m k h y hy) ?_
  apply Nat.mul_le_mul_right
  apply Nat.pow_le_pow_left
  exact le_trans (min_le_right _ _) (Nat.mul_le_mul_left _ (List.toFinset_card_le _))

/-- **C15, Bloom clause, ideal hashing: the union bound.**  Insert the elements of `S` into the
    empty `m`-bit filter with `k` probes per element, every probe of every element drawn uniformly
    and independently.  For `y ∉ S` the false-positive probability is at most `(k·|S|/m)^k`. -/
theorem C15_bloom_fp_union_bound (m k : ℕ) (S : List E) (y : E) (hy : y ∉ S) :
    (presentSet m k (S.map BloomOp.insert) y).card * m ^ k
      ≤ (k * S.length) ^ k * Fintype.card (E → Fin k → Fin m) := by
  have := C15_bloom_fp_union_bound_history m k (S.map BloomOp.insert) y
    (by rwa [insertsOf_map_insert])
  rwa [insertsOf_map_insert] at this

/-- the same with the event written out (no auxiliary definition in the statement). -/
theorem C15_bloom_fp_union_bound' (m k : ℕ) (S : List E) (y : E) (hy : y ∉ S) :
    (univ.filter (fun g : E → Fin k → Fin m =>
        (run (fun x => List.ofFn (fun i => (g x i : ℕ))) (Bloom.new m k)
            (S.map BloomOp.insert)).lookup (List.ofFn (fun i => (g y i : ℕ))) = true)).card
      * m ^ k
      ≤ (k * S.length) ^ k * Fintype.card (E → Fin k → Fin m) :=
  C15_bloom_fp_union_bound m k S y hy

/-- the hypothesis `y ∉ S` is needed: an inserted element is reported present by EVERY member of
    the family (C01) … -/
theorem C15_bloom_member_always_present (m k : ℕ) (h₁ h₂ : List (BloomOp E)) (y : E) :
    presentSet m k (h₁ ++ [BloomOp.insert y] ++ h₂) y = univ := by
  ext g
  simp only [mem_presentSet, mem_univ, iff_true]
  exact C01_no_false_negative (idealProbes g) (Bloom.new m k) h₁ h₂ y (idealProbes_in_range g y)

/-- … so for `y ∈ S` the bound is false as soon as it is non-trivial (`k·|S| < m`, `0 < k`). -/
theorem C15_bloom_fp_union_bound_needs_not_mem (m k : ℕ) (S : List E) (y : E) (hy : y ∈ S)
    (hk : 0 < k) (hlt : k * S.length < m) :
    ¬ (presentSet m k (S.map BloomOp.insert) y).card * m ^ k
      ≤ (k * S.length) ^ k * Fintype.card (E → Fin k → Fin m) := by
  obtain ⟨s, t, rfl⟩ := List.append_of_mem hy
  have e : (s ++ y :: t).map BloomOp.insert
      = s.map BloomOp.insert ++ [BloomOp.insert y] ++ t.map BloomOp.insert := by simp
  rw [e, C15_bloom_member_always_present, Finset.card_univ, Nat.mul_comm, not_le]
  have hm : 0 < m := by omega
  have hW : 0 < Fintype.card (E → Fin k → Fin m) := by
    rw [card_family]; exact Nat.pow_pos (Nat.pow_pos hm)
  exact Nat.mul_lt_mul_of_pos_right (Nat.pow_lt_pow_left hlt (by omega)) hW

/-- the union bound is attained: one probe, one inserted element. -/
theorem C15_bloom_fp_union_bound_tight (m : ℕ) (x y : E) (hxy : y ≠ x) :
    (presentSet m 1 [BloomOp.insert x] y).card * m ^ 1
      = (1 * [x].length) ^ 1 * Fintype.card (E → Fin 1 → Fin m) := by
  have h := C15_bloom_fp_exact_sum m 1 [BloomOp.insert x] y (by simpa [insertsOf] using hxy)
  rw [h, List.length_singleton, Nat.mul_one, Nat.pow_one, Nat.one_mul, ← Finset.card_univ,
    Finset.card_eq_sum_ones]
  apply Finset.sum_congr rfl
  intro g _
  rw [pow_one, bitSet_eq_biUnion]
  simp [insertsOf]

/-- no positivity hypotheses: for `m ^ k = 0` the family is empty (`E` is inhabited by `y`) and the
    left side is `x / 0 = 0`. -/
theorem fraction_le_of_count (m k : ℕ) (A c : ℕ) (y : E)
    (hcount : A * m ^ k ≤ c ^ k * Fintype.card (E → Fin k → Fin m)) :
    (A : ℝ) / (Fintype.card (E → Fin k → Fin m) : ℝ) ≤ ((c : ℝ) / m) ^ k := by
  have hW := card_family (E := E) m k
  generalize Fintype.card (E → Fin k → Fin m) = W at *
  rcases Nat.eq_zero_or_pos (m ^ k) with hmk | hmk
  · have hE : Fintype.card E ≠ 0 := (Fintype.card_pos_iff.mpr ⟨y⟩).ne'
    rw [hW, hmk, zero_pow hE, Nat.cast_zero, div_zero]
    have hc0 : (0 : ℝ) ≤ (c : ℝ) := Nat.cast_nonneg c
    have hm0 : (0 : ℝ) ≤ (m : ℝ) := Nat.cast_nonneg m
    exact pow_nonneg (div_nonneg hc0 hm0) k
  · have hWr : (0 : ℝ) < W := Nat.cast_pos.2 (hW ▸ Nat.pow_pos hmk)
    have hmr : (0 : ℝ) < ((m ^ k : ℕ) : ℝ) := Nat.cast_pos.2 hmk
    rw [div_pow, ← Nat.cast_pow, ← Nat.cast_pow, div_le_div_iff₀ hWr hmr,
      ← Nat.cast_mul, ← Nat.cast_mul]
    exact Nat.cast_le.2 hcount

/-- **the union bound as a probability** (fraction of the ideal family, in ℝ). -/
theorem C15_bloom_fp_fraction_le (m k : ℕ) (S : List E) (y : E) (hy : y ∉ S) :
    ((presentSet m k (S.map BloomOp.insert) y).card : ℝ)
        / (Fintype.card (E → Fin k → Fin m) : ℝ)
      ≤ (((k * S.length : ℕ) : ℝ) / m) ^ k :=
  fraction_le_of_count m k _ _ y (C15_bloom_fp_union_bound m k S y hy)

/-- the same for a filter dimensioned for `n` elements that holds at most `n`. -/
theorem C15_bloom_fp_fraction_le_capacity (m k n : ℕ) (S : List E) (y : E) (hy : y ∉ S)
    (hn : S.length ≤ n) :
    ((presentSet m k (S.map BloomOp.insert) y).card : ℝ)
        / (Fintype.card (E → Fin k → Fin m) : ℝ)
      ≤ ((k : ℝ) * n / m) ^ k := by
  have := fraction_le_of_count m k _ (k * n) y
    ((C15_bloom_fp_union_bound m k S y hy).trans
      (Nat.mul_le_mul_right _ (Nat.pow_le_pow_left (Nat.mul_le_mul_left k hn) k)))
  rwa [Nat.cast_mul] at this

theorem C15_bloom_fp_fraction_le_distinct (m k : ℕ) (S : List E) (y : E) (hy : y ∉ S) :
    ((presentSet m k (S.map BloomOp.insert) y).card : ℝ)
        / (Fintype.card (E → Fin k → Fin m) : ℝ)
      ≤ (((min m (k * S.toFinset.card) : ℕ) : ℝ) / m) ^ k := by
  have := C15_bloom_fp_union_bound_distinct m k (S.map BloomOp.insert) y
    (by rwa [insertsOf_map_insert])
  rw [insertsOf_map_insert] at this
  exact fraction_le_of_count m k _ _ y this

theorem C15_bloom_fp_fraction_le_history (m k : ℕ) (h : List (BloomOp E)) (y : E)
    (hy : y ∉ insertsOf h) :
    ((presentSet m k h y).card : ℝ) / (Fintype.card (E → Fin k → Fin m) : ℝ)
      ≤ (((k * (insertsOf h).length : ℕ) : ℝ) / m) ^ k :=
  fraction_le_of_count m k _ _ y (C15_bloom_fp_union_bound_history m k h y hy)

end ideal

theorem log_two_pos : 0 < log 2 := log_pos one_lt_two

theorem log_one_div_pos {p : ℝ} (hp : 0 < p) (hp1 : p < 1) : 0 < log (1 / p) :=
  log_pos (by rwa [one_div, one_lt_inv₀ hp])

/-- `C15_bloom_size` cleared of its division: `n·ln(1/p) ≤ m·ln²2`. -/
theorem bloomSize_mul_ge (n : ℕ) (p : ℝ) :
    n * log (1 / p) ≤ bloomSize n p * (log 2) ^ 2 := by
  have := (div_le_iff₀ (pow_pos log_two_pos 2)).1 (C15_bloom_size n p)
  rwa [one_div, log_inv, mul_neg]

/-- for the `k` of `CalculateNumHashes`: `k = ⌈⌊m/n⌋·ln 2⌉ < (m/n)·ln 2 + 1`.
    (For `m = 0` both sides are read with `x / 0 = 0`.) -/
theorem C15_bloom_load_le (m n : ℕ) (hn : 0 < n) :
    (bloomK m n : ℝ) * n / m ≤ log 2 + (n : ℝ) / m := by
  rcases Nat.eq_zero_or_pos m with rfl | hm
  · rw [Nat.cast_zero, div_zero, div_zero, add_zero]; exact log_two_pos.le
  have hm' : (m : ℝ) ≠ 0 := (Nat.cast_pos.2 hm).ne'
  have hn' : (n : ℝ) ≠ 0 := (Nat.cast_pos.2 hn).ne'
  have hq0 : (0 : ℝ) ≤ ((m / n : ℕ) : ℝ) := Nat.cast_nonneg _
  have hn0 : (0 : ℝ) ≤ (n : ℝ) := Nat.cast_nonneg n
  have hm0 : (0 : ℝ) ≤ (m : ℝ) := Nat.cast_nonneg m
  have hk : (bloomK m n : ℝ) ≤ (m : ℝ) / n * log 2 + 1 :=
    (Nat.ceil_lt_add_one (mul_nonneg hq0 log_two_pos.le)).le.trans
      (add_le_add (mul_le_mul_of_nonneg_right Nat.cast_div_le log_two_pos.le) le_rfl)
  calc (bloomK m n : ℝ) * n / m ≤ ((m : ℝ) / n * log 2 + 1) * n / m :=
        div_le_div_of_nonneg_right (mul_le_mul_of_nonneg_right hk hn0) hm0
    _ = log 2 + (n : ℝ) / m := by field_simp

/-- for the `m` of `CalculateFilterSize`. -/
theorem C15_bloom_inv_load_le (n : ℕ) (p : ℝ) (hp : 0 < p) (hp1 : p < 1) :
    (n : ℝ) / (bloomSize n p : ℝ) ≤ (log 2) ^ 2 / log (1 / p) := by
  have hlp := log_one_div_pos hp hp1
  rcases Nat.eq_zero_or_pos (bloomSize n p) with hm | hm
  · rw [hm, Nat.cast_zero, div_zero]; exact (div_pos (pow_pos log_two_pos 2) hlp).le
  have hmr : (0 : ℝ) < (bloomSize n p : ℝ) := Nat.cast_pos.2 hm
  rw [div_le_div_iff₀ hmr hlp, mul_comm (log 2 ^ 2)]
  exact bloomSize_mul_ge n p

theorem C15_bloom_size_pos (n : ℕ) (p : ℝ) (hn : 0 < n) (hp : 0 < p) (hp1 : p < 1) :
    0 < bloomSize n p :=
  have hnr : (0 : ℝ) < (n : ℝ) := Nat.cast_pos.2 hn
  Nat.ceil_pos.2 (div_pos (neg_pos.2 (mul_neg_of_pos_of_neg hnr (log_neg hp hp1)))
    (pow_pos log_two_pos 2))

/-- the number of probes the constructor chooses:
    `k ≥ ⌊m/n⌋·ln 2 > (m/n − 1)·ln 2 ≥ log₂(1/p) − ln 2`. -/
theorem C15_bloom_k_ge (n : ℕ) (p : ℝ) (hn : 0 < n) :
    log (1 / p) / log 2 - log 2 ≤ (bloomK (bloomSize n p) n : ℝ) := by
  set m := bloomSize n p
  have hnr : (0 : ℝ) < (n : ℝ) := Nat.cast_pos.2 hn
  have h2 : (m : ℝ) / n - 1 ≤ ((m / n : ℕ) : ℝ) := by
    have : ((m : ℕ) : ℝ) < ((n * (m / n + 1) : ℕ) : ℝ) := Nat.cast_lt.2 (Nat.lt_mul_div_succ m hn)
    rw [Nat.cast_mul, Nat.cast_add, Nat.cast_one] at this
    rw [sub_le_iff_le_add]
    exact ((div_lt_iff₀' hnr).2 this).le
  have h3 : log (1 / p) / (log 2) ^ 2 ≤ (m : ℝ) / n := by
    rw [div_le_div_iff₀ (pow_pos log_two_pos 2) hnr, mul_comm]
    exact bloomSize_mul_ge n p
  calc log (1 / p) / log 2 - log 2 = (log (1 / p) / (log 2) ^ 2 - 1) * log 2 := by
        rw [sub_mul, one_mul, sq, div_mul_eq_mul_div, mul_div_mul_right _ _ log_two_pos.ne']
    _ ≤ ((m / n : ℕ) : ℝ) * log 2 :=
        mul_le_mul_of_nonneg_right ((sub_le_sub_right h3 1).trans h2) log_two_pos.le
    _ ≤ (bloomK m n : ℝ) := Nat.le_ceil _

section sized
variable {E : Type} [Fintype E] [DecidableEq E]

/-- **the union bound for the filter the constructor builds.**
    `NewMemBloomFilterWithParameters(n, p)` creates `m = bloomSize n p` bits and
    `k = bloomK m n` probes; at most `n` elements are inserted. -/
theorem C15_bloom_fp_sized (n : ℕ) (p : ℝ) (hn : 0 < n) (S : List E) (y : E) (hy : y ∉ S)
    (hS : S.length ≤ n) :
    let m := bloomSize n p; let k := bloomK m n
    ((presentSet m k (S.map BloomOp.insert) y).card : ℝ)
        / (Fintype.card (E → Fin k → Fin m) : ℝ)
      ≤ (log 2 + (n : ℝ) / m) ^ k := by
  intro m k
  refine le_trans (C15_bloom_fp_fraction_le_capacity m k n S y hy hS) ?_
  exact pow_le_pow_left₀ (by positivity) (C15_bloom_load_le m n hn) k

/-- … and in terms of the requested error rate only (`k ≥ log₂(1/p) − ln 2` by `C15_bloom_k_ge`). -/
theorem C15_bloom_fp_sized_p (n : ℕ) (p : ℝ) (hn : 0 < n) (hp : 0 < p) (hp1 : p < 1)
    (S : List E) (y : E) (hy : y ∉ S) (hS : S.length ≤ n) :
    let m := bloomSize n p; let k := bloomK m n
    ((presentSet m k (S.map BloomOp.insert) y).card : ℝ)
        / (Fintype.card (E → Fin k → Fin m) : ℝ)
      ≤ (log 2 + (log 2) ^ 2 / log (1 / p)) ^ k := by
  intro m k
  refine le_trans (C15_bloom_fp_sized n p hn S y hy hS) ?_
  exact pow_le_pow_left₀
    (add_nonneg log_two_pos.le (div_nonneg (Nat.cast_nonneg n : (0 : ℝ) ≤ (n : ℝ))
      (Nat.cast_nonneg m : (0 : ℝ) ≤ (m : ℝ))))
    (add_le_add le_rfl (C15_bloom_inv_load_le n p hp hp1)) k

/-- cleared of the division this is `3x² − 1.8x − 0.2 < 0`, which holds up to `x = 0.6958…`. -/
theorem base_lt_one_of {x L : ℝ} (hx : 0 < x) (hx' : x < 347 / 500) (hL : 1 / 5 + 2 * x ≤ L) :
    x + x ^ 2 / L < 1 := by
  have hL0 : 0 < L := (add_pos (by norm_num) (mul_pos two_pos hx)).trans_le hL
  have h1 : 0 < x * (347 / 500 - x) := mul_pos hx (sub_pos.2 hx')
  have h2 : (1 - x) * (1 / 5 + 2 * x) ≤ (1 - x) * L :=
    mul_le_mul_of_nonneg_left hL (sub_nonneg.2 (hx'.le.trans (by norm_num)))
  rw [← lt_sub_iff_add_lt', div_lt_iff₀ hL0]
  linarith

/-- `ln 5 = ln(5/4) + 2 ln 2`. -/
theorem log_five_ge : 1 / 5 + 2 * log 2 ≤ log 5 :=
  calc 1 / 5 + 2 * log 2 = 1 - (5 / 4 : ℝ)⁻¹ + (2 : ℕ) * log 2 := by norm_num
    _ ≤ log (5 / 4) + log (2 ^ 2) := by
      rw [log_pow]; exact add_le_add (one_sub_inv_le_log_of_pos (by norm_num)) le_rfl
    _ = log 5 := by rw [← log_mul (by norm_num) (by norm_num)]; norm_num

/-- the base of that bound is below 1 (so the bound decays with `k`) once
    `ln(1/p)·(1 − ln 2) > ln²2` (`p < 0.2089…`), in particular for every `p ≤ 1/5`. -/
theorem C15_bloom_base_lt_one (p : ℝ) (hp : 0 < p) (hp5 : p ≤ 1 / 5) :
    log 2 + (log 2) ^ 2 / log (1 / p) < 1 := by
  refine base_lt_one_of log_two_pos (log_two_lt_d9.trans (by norm_num)) (log_five_ge.trans ?_)
  apply log_le_log (by norm_num)
  rw [one_div, le_inv_comm₀ (by norm_num) hp]
  linarith

/-- reading the exponent: with `c → ln 2` the union bound of the constructor's filter behaves like
    `p^(log₂(1/ln 2))`, `log₂(1/ln 2) = 0.5288…`. -/
theorem C15_bloom_rate_exponent (c p : ℝ) (hc : 0 < c) (hp : 0 < p) :
    c ^ (log (1 / p) / log 2) = p ^ (log (1 / c) / log 2) := by
  rw [rpow_def_of_pos hc, rpow_def_of_pos hp, one_div, one_div, log_inv, log_inv]
  congr 1; ring

/-- **p-only form**, `c = ln 2 + ln²2/ln(1/p) < 1`.  As `p → 0`, `c → ln 2` and this is
    `≈ p^0.5288…` — the advertised rate is `p` itself. -/
theorem C15_bloom_fp_sized_rpow (n : ℕ) (p : ℝ) (hn : 0 < n) (hp : 0 < p) (hp5 : p ≤ 1 / 5)
    (S : List E) (y : E) (hy : y ∉ S) (hS : S.length ≤ n) :
    let m := bloomSize n p; let k := bloomK m n
    ((presentSet m k (S.map BloomOp.insert) y).card : ℝ)
        / (Fintype.card (E → Fin k → Fin m) : ℝ)
      ≤ (log 2 + (log 2) ^ 2 / log (1 / p)) ^ (log (1 / p) / log 2 - log 2) := by
  intro m k
  have hp1 : p < 1 := hp5.trans_lt (by norm_num)
  refine le_trans (C15_bloom_fp_sized_p n p hn hp hp1 S y hy hS) ?_
  have hc0 : 0 < log 2 + (log 2) ^ 2 / log (1 / p) :=
    add_pos log_two_pos (div_pos (pow_pos log_two_pos 2) (log_one_div_pos hp hp1))
  rw [← rpow_natCast]
  exact rpow_le_rpow_of_exponent_ge hc0 (C15_bloom_base_lt_one p hp hp5).le
    (C15_bloom_k_ge n p hn)

end sized

/-- `NewMemBloomFilterWithParameters(100, 1/16)`: 578 bits, 4 probes (over ℝ; the float
    evaluation of the Go code is tie-checked by suite `sizing`). -/
theorem C15_bloom_example_dims : bloomSize 100 (1 / 16) = 578 ∧ bloomK 578 100 = 4 := by
  -- every bound below is `c · ln 2` against a numeral, for the nine-digit enclosure of `ln 2`
  have hlo : ∀ c : ℝ, 0 < c → c * 0.6931471803 < c * log 2 := fun c hc =>
    mul_lt_mul_of_pos_left log_two_gt_d9 hc
  have hhi : ∀ c : ℝ, 0 < c → c * log 2 < c * 0.6931471808 := fun c hc =>
    mul_lt_mul_of_pos_left log_two_lt_d9 hc
  have e : -((100 : ℕ) * log (1 / 16)) / log 2 ^ 2 = 400 / log 2 := by
    rw [one_div, log_inv, show (16 : ℝ) = 2 ^ 4 by norm_num, log_pow,
      div_eq_div_iff (pow_ne_zero 2 log_two_pos.ne') log_two_pos.ne']
    push_cast; ring
  constructor
  · rw [bloomSize, e, Nat.ceil_eq_iff (by norm_num), lt_div_iff₀ log_two_pos,
      div_le_iff₀ log_two_pos]
    exact ⟨(hhi _ (by norm_num)).trans (by norm_num),
      le_of_lt (lt_trans (by norm_num) (hlo _ (by norm_num)))⟩
  · rw [bloomK, Nat.ceil_eq_iff (by norm_num), show ((578 / 100 : ℕ) : ℝ) = 5 by norm_num]
    exact ⟨lt_trans (by norm_num) (hlo _ (by norm_num)),
      le_of_lt ((hhi _ (by norm_num)).trans (by norm_num))⟩

/-- for that filter the union bound guarantees a false-positive fraction below 0.23 as long as
    at most 100 elements are inserted; the advertised rate is 1/16 = 0.0625 (and the classical
    approximation `(1 − e^{−400/578})^4 ≈ 0.0622`). -/
theorem C15_bloom_example_bound {E : Type} [Fintype E] [DecidableEq E] (S : List E) (y : E)
    (hy : y ∉ S) (hS : S.length ≤ 100) :
    ((presentSet 578 4 (S.map BloomOp.insert) y).card : ℝ)
        / (Fintype.card (E → Fin 4 → Fin 578) : ℝ) ≤ 0.23 := by
  refine le_trans (C15_bloom_fp_fraction_le_capacity 578 4 100 S y hy hS) ?_
  norm_num

/-- `E = Fin 2`, 3 bits, 2 probes, `S = [0]`, `y = 1`: exactly 27 of the 81 members of the family
    have a false positive (`27 · 3² = 243 = Σ_g #B²`); the union bound allows `(2·1)² · 81 = 324`. -/
example : (presentSet 3 2 [BloomOp.insert (0 : Fin 2)] 1).card = 27 := by decide +kernel

example : Fintype.card (Fin 2 → Fin 2 → Fin 3) = 81 := by decide

example : (presentSet 3 2 ([(0 : Fin 2)].map BloomOp.insert) 1).card * 3 ^ 2
    ≤ (2 * [(0 : Fin 2)].length) ^ 2 * Fintype.card (Fin 2 → Fin 2 → Fin 3) :=
  C15_bloom_fp_union_bound 3 2 [0] 1 (by decide)

/-- the hypothesis `y ∉ S` cannot be dropped: with `y = 0 ∈ S` all 81 members answer "present"
    and `81 · 9 > 4 · 81`. -/
example : ¬ (presentSet 3 2 ([(0 : Fin 2)].map BloomOp.insert) 0).card * 3 ^ 2
    ≤ (2 * [(0 : Fin 2)].length) ^ 2 * Fintype.card (Fin 2 → Fin 2 → Fin 3) := by decide +kernel

example : ¬ (presentSet 3 2 ([(0 : Fin 2)].map BloomOp.insert) 0).card * 3 ^ 2
    ≤ (2 * [(0 : Fin 2)].length) ^ 2 * Fintype.card (Fin 2 → Fin 2 → Fin 3) :=
  C15_bloom_fp_union_bound_needs_not_mem 3 2 [0] 0 (by decide) (by decide) (by decide)

/-- the capacity hypothesis `|S| ≤ n` of `C15_bloom_fp_fraction_le_capacity` cannot be dropped:
    a filter "dimensioned for n = 0" that holds one element has false positives (2 of 4). -/
example : ¬ (presentSet 2 1 ([(0 : Fin 2)].map BloomOp.insert) 1).card * 2 ^ 1
    ≤ (1 * 0) ^ 1 * Fintype.card (Fin 2 → Fin 1 → Fin 2) := by decide

example : (presentSet 3 2 [BloomOp.insert (0 : Fin 2)] 1).card * 3 ^ 2
    = ∑ g : Fin 2 → Fin 2 → Fin 3, (bitSet g [BloomOp.insert (0 : Fin 2)]).card ^ 2 :=
  C15_bloom_fp_exact_sum 3 2 _ 1 (by decide)

/-- the sized theorem with satisfiable hypotheses. -/
example :
    let m := bloomSize 100 (1 / 16); let k := bloomK m 100
    ((presentSet m k ([(0 : Fin 3), 1].map BloomOp.insert) 2).card : ℝ)
        / (Fintype.card (Fin 3 → Fin k → Fin m) : ℝ)
      ≤ (log 2 + (log 2) ^ 2 / log (1 / (1 / 16 : ℝ))) ^ k :=
  C15_bloom_fp_sized_p 100 (1 / 16) (by norm_num) (by norm_num) (by norm_num) [0, 1] 2
    (by decide) (by simp)

end Gostatix.Sizing
