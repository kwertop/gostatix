/-
  MurmurTie — murmur3 x64_128 as written in /repo/murmur.go (translated by extract/murmur.go into
  Generated/Murmur.lean on every run) computes the hand transcription Model/Murmur.lean, for ALL
  byte strings.  `Murmur.getHash` is the hash function the cuckoo model (`Cuckoo.positions`,
  `Cuckoo.hashStr`) is instantiated with.

  GENERATED: every definition of Generated/Murmur.lean, under role names chosen by the translator
  (no hand-written file mentions a name derived from a Go identifier).  Hand-written ASSEMBLY:
  `Generated.Murmur.bmix` (the loop as a fold), `sum128` and `getHash` in Model/GoMurmur.lean, and
  the primitives of Model/GoBits.lean (`rotl64`, `byteAt`, `le64` / `loadLE64`).
  Assumptions (not proved, stated in the generated header): little-endian target for the
  `(*[2]uint64)(unsafe.Pointer(&p[i*16]))` load; 64-bit `int`/`uint`, slice lengths < 2^63.

  A piece the translator refuses has no definition and this file stops building; a piece whose
  arithmetic changed (constant, rotation, shift, stride, loop bound, seed, statement order) makes
  the corresponding `tie_*` theorem fail.
-/
import Gostatix.Model.GoMurmur
import Gostatix.Proofs.MurmurTie

namespace Gostatix.MurmurTie
open Gostatix Gostatix.Generated.Murmur

/-- the loop body of `bmix` (after the load). -/
theorem tie_bmixBlock (h1 h2 k1 k2 : UInt64) : bmixBlock h1 h2 k1 k2 = modelBlock h1 h2 k1 k2 := by
  simp (disch := decide) only [bmixBlock, modelBlock, model_rotl, UInt64.reduceToNat,
    Murmur.c1, Murmur.c2] <;> ac_rfl

/-- the unsafe `[2]uint64` view of block `i` (little-endian target) reads the two words the model
    loads from the list with the first `16*i` bytes dropped. -/
theorem tie_blockLoad (p : List UInt8) (i : Nat) :
    blockLoad p i = (Murmur.le64 (p.drop (16 * i)), Murmur.le64 ((p.drop (16 * i)).drop 8)) := by
  simp only [blockLoad, GoBits.loadLE64, le64_take, List.drop_drop, Nat.add_zero, Nat.mul_comm i 16]

/-- the finalisation of `Sum128`; the calls of `fmix64` are inlined by the translator. -/
theorem tie_finalize (h1 h2 dlen : UInt64) : finalize h1 h2 dlen = modelFinal h1 h2 dlen := by
  simp only [finalize, modelFinal, Murmur.fmix64] <;> ac_rfl

/-- the generated switch, read as two fall-through chains, each followed by its guarded mix. -/
theorem tailMix_shape (tail : List UInt8) (h1 h2 : UInt64) :
    tailMix tail h1 h2 =
      (guardMix (tail.length &&& 15 ≥ 1) h1 (fall tail (tail.length &&& 15) 0 8 0)
          0x87c37b91114253d5 0x4cf5ad432745937f 31,
       guardMix (tail.length &&& 15 ≥ 9) h2 (fall tail (tail.length &&& 15) 8 7 0)
          0x4cf5ad432745937f 0x87c37b91114253d5 33) := by
  unfold tailMix
  dsimp only [guardMix, fall, Nat.reduceAdd, UInt64.reduceAdd]

/-- the `switch len(tail) & 15 { case 15: ...; fallthrough; ... case 1: ... }` of `Sum128`. -/
theorem tie_tailMix (tail : List UInt8) (h1 h2 : UInt64) (hl : tail.length < 16) :
    tailMix tail h1 h2 = modelTail tail h1 h2 := by
  have h7 : (tail.drop 8).length ≤ 7 := by rw [List.length_drop]; omega
  rw [tailMix_shape, and15 _ hl, guardMix_eq, guardMix_eq, fall_eq _ _ _ _ (by decide),
    fall_eq _ _ _ _ (by decide), List.drop_zero, List.take_of_length_le h7]
  simp (disch := decide) only [modelTail, le64_take, model_rotl, UInt64.reduceToNat, Murmur.c1,
    Murmur.c2, UInt64.shiftLeft_zero, List.take_of_length_le (Nat.le_succ_of_le h7)]
  -- the guards `len ≥ 9` / `len > 8` (and `≥ 1` / `> 0`) unfold to the same `Nat.le`
  rfl

theorem tie_bmix_from (p : List UInt8) (n j : Nat) (h1 h2 : UInt64) :
    Murmur.bmix n (p.drop (16 * j)) h1 h2 =
      (((List.range' j n 1).foldl
          (fun s i => bmixBlock s.1 s.2 (blockLoad p i).1 (blockLoad p i).2) (h1, h2)).1,
       ((List.range' j n 1).foldl
          (fun s i => bmixBlock s.1 s.2 (blockLoad p i).1 (blockLoad p i).2) (h1, h2)).2,
       p.drop (16 * (j + n))) := by
  induction n generalizing j h1 h2 with
  | zero => simp [bmix_zero]
  | succ n ih =>
    have hd : List.drop 16 (List.drop (16 * j) p) = List.drop (16 * (j + 1)) p := by
      rw [List.drop_drop]; congr 1
    rw [bmix_succ, hd, ih (j + 1), List.range'_succ, List.foldl_cons, tie_bmixBlock, tie_blockLoad]
    have e : 16 * (j + 1 + n) = 16 * (j + (n + 1)) := by omega
    rw [e]

/-- `(*digest128).bmix(data, nblocks)` from the state `(h1, h2)`. -/
theorem tie_bmix (p : List UInt8) (n : Nat) (h1 h2 : UInt64) :
    Murmur.bmix n p h1 h2
      = ((Generated.Murmur.bmix p n h1 h2).1, (Generated.Murmur.bmix p n h1 h2).2, p.drop (16 * n)) := by
  have h := tie_bmix_from p n 0 h1 h2
  simp only [Nat.mul_zero, List.drop_zero, Nat.zero_add] at h
  simp only [Generated.Murmur.bmix, bmixLoopFrom, bmixLoopStep, Nat.sub_zero]
  exact h

/-- both words of `sum128` of murmur.go, for every input. -/
theorem tie_murmur_sum128_words (data : List UInt8) :
    Generated.Murmur.sum128 data = Murmur.sum128 data := by
  have hb := tie_bmix data (data.length / 16) 0 0
  have hl : (data.drop (16 * (data.length / 16))).length < 16 := by
    rw [List.length_drop]; omega
  rw [model_sum128 data _ _ _ hb, ← tie_tailMix _ _ _ hl, ← tie_finalize]
  simp only [Generated.Murmur.sum128, digestSum128, nblocksOf, tailStart, lengthArg, seedH1, seedH2,
    Nat.mul_comm (data.length / 16) 16, Nat.toUInt64]

/-- the first word, as the `Nat` the cuckoo model works with (`Murmur.getHash`). -/
theorem tie_murmur_sum128 (data : List UInt8) :
    (Generated.Murmur.sum128 data).1.toNat = Murmur.getHash data := by
  rw [tie_murmur_sum128_words]; rfl

theorem tie_murmur_sum128_snd (data : List UInt8) :
    (Generated.Murmur.sum128 data).2 = (Murmur.sum128 data).2 := by
  rw [tie_murmur_sum128_words]

/-- `getHash` of base_cuckoo_filter.go (which word it takes is read from the source). -/
theorem tie_murmur_getHash (data : List UInt8) :
    (Generated.Murmur.getHash data).toNat = Murmur.getHash data := by
  simp only [Generated.Murmur.getHash, getHashWord, tie_murmur_sum128]

theorem murmur_all_translated : Generated.Murmur.unsupported = [] := rfl

/-! The expected values are the output of the REAL Go function: `sum128` / `getHash` run by `go test`
  in a scratch copy of /repo (test printing `sum128([]byte(s))` for the strings below; go1.23.5,
  linux/amd64, i.e. a little-endian target).  Lengths 0, 1, 16 (one block, empty tail), 17 (one
  block + 1), 40 (two blocks + 8: only the `k1` half of the switch), 15 (no block, all 15 cases). -/

/-- `''` (0 bytes): Go prints `0 0` -/
example : Generated.Murmur.sum128 [] = (0, 0)
    ∧ Murmur.sum128 [] = (0, 0)
    ∧ Murmur.getHash [] = 0 := by decide +kernel

/-- `'a'` (1 bytes): Go prints `9607679276477937801 16624257681780017498` -/
example : Generated.Murmur.sum128 [97] = (9607679276477937801, 16624257681780017498)
    ∧ Murmur.sum128 [97] = (9607679276477937801, 16624257681780017498)
    ∧ Murmur.getHash [97] = 9607679276477937801 := by decide +kernel

/-- `'0123456789abcdef'` (16 bytes): Go prints `5467490433528156583 9782763267945859290` -/
example : Generated.Murmur.sum128 [48, 49, 50, 51, 52, 53, 54, 55, 56, 57, 97, 98, 99, 100, 101, 102] = (5467490433528156583, 9782763267945859290)
    ∧ Murmur.sum128 [48, 49, 50, 51, 52, 53, 54, 55, 56, 57, 97, 98, 99, 100, 101, 102] = (5467490433528156583, 9782763267945859290)
    ∧ Murmur.getHash [48, 49, 50, 51, 52, 53, 54, 55, 56, 57, 97, 98, 99, 100, 101, 102] = 5467490433528156583 := by decide +kernel

/-- `'0123456789abcdefg'` (17 bytes): Go prints `10246358950979434974 576729866477728494` -/
example : Generated.Murmur.sum128 [48, 49, 50, 51, 52, 53, 54, 55, 56, 57, 97, 98, 99, 100, 101, 102, 103] = (10246358950979434974, 576729866477728494)
    ∧ Murmur.sum128 [48, 49, 50, 51, 52, 53, 54, 55, 56, 57, 97, 98, 99, 100, 101, 102, 103] = (10246358950979434974, 576729866477728494)
    ∧ Murmur.getHash [48, 49, 50, 51, 52, 53, 54, 55, 56, 57, 97, 98, 99, 100, 101, 102, 103] = 10246358950979434974 := by decide +kernel

/-- `'0123456789abcdefghijklmnopqrstuvwxyzABCD'` (40 bytes): Go prints `1784887533826638729 13095193262717793959` -/
example : Generated.Murmur.sum128 [48, 49, 50, 51, 52, 53, 54, 55, 56, 57, 97, 98, 99, 100, 101, 102, 103, 104, 105, 106, 107, 108, 109, 110, 111, 112, 113, 114, 115, 116, 117, 118, 119, 120, 121, 122, 65, 66, 67, 68] = (1784887533826638729, 13095193262717793959)
    ∧ Murmur.sum128 [48, 49, 50, 51, 52, 53, 54, 55, 56, 57, 97, 98, 99, 100, 101, 102, 103, 104, 105, 106, 107, 108, 109, 110, 111, 112, 113, 114, 115, 116, 117, 118, 119, 120, 121, 122, 65, 66, 67, 68] = (1784887533826638729, 13095193262717793959)
    ∧ Murmur.getHash [48, 49, 50, 51, 52, 53, 54, 55, 56, 57, 97, 98, 99, 100, 101, 102, 103, 104, 105, 106, 107, 108, 109, 110, 111, 112, 113, 114, 115, 116, 117, 118, 119, 120, 121, 122, 65, 66, 67, 68] = 1784887533826638729 := by decide +kernel

/-- `'hello, world!!!'` (15 bytes): Go prints `12035381082801483794 14804553198186399093` -/
example : Generated.Murmur.sum128 [104, 101, 108, 108, 111, 44, 32, 119, 111, 114, 108, 100, 33, 33, 33] = (12035381082801483794, 14804553198186399093)
    ∧ Murmur.sum128 [104, 101, 108, 108, 111, 44, 32, 119, 111, 114, 108, 100, 33, 33, 33] = (12035381082801483794, 14804553198186399093)
    ∧ Murmur.getHash [104, 101, 108, 108, 111, 44, 32, 119, 111, 114, 108, 100, 33, 33, 33] = 12035381082801483794 := by decide +kernel

end Gostatix.MurmurTie
