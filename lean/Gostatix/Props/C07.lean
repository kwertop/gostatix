/-
  C07 — in-memory structures under concurrent use.

  What is proved here (for ALL schedules, all thread counts, all call bodies):
   * a schedule of calls `acq; body; rel` that respects the mutex is equal — final state and the
     result of every call — to the SEQUENTIAL execution of the calls in lock-acquisition order
     (`C07_serializable`); that order keeps every thread's program order
     (`C07_program_order_preserved`) and contains every call exactly once (`C07_no_lost_update`).
   * for Bloom / Count-Min / HyperLogLog the update steps commute, so the final state does not
     depend on the order at all (`C07_order_independent_*`,
     `C07_any_interleaving_equals_sequential`).
  What is NOT proved here: that the Go methods really are of the shape `acq; body; rel`, i.e. that
  every access to mutable state is inside a critical section of the receiver's mutex.  That
  premise is the obligation `Conc.lockDisciplineOK table = true` over the table the extractor
  regenerates from the Go source on every run.  The Go memory model (a mutex orders the critical
  sections) is an assumption.
-/
import Gostatix.Proofs.Conc
namespace Gostatix
open Conc

universe u v

section serial
variable {σ : Type u} {ρ : Type v}

/-- Every schedule of guarded calls that is valid for the mutex has the same final state and the
    same result for every call as running the calls one after another in the order in which the
    mutex was acquired. -/
theorem C07_serializable (threads : List (List (σ → σ × ρ))) (s : σ) (w : List Act)
    (hi : Interleaving (sched threads) w) (hv : validMutex w) :
    execConc threads s w = execSerial threads s (acqOrder w) := by
  unfold execConc execSerial
  rw [exec_stepAct_eq, bodies_eq_acqOrder hi hv]

/-- The serial order restricted to thread `t` is `t`'s calls in program order `0, 1, 2, …`:
    a caller's later calls come after its own completed updates. -/
theorem C07_program_order_preserved (threads : List (List (σ → σ × ρ))) (w : List Act)
    (hi : Interleaving (sched threads) w) (hv : validMutex w) (t : Nat) :
    (acqOrder w).filter (fun c => c.1 == t)
      = (List.range ((threads[t]?).getD []).length).map (fun i => (t, i)) := by
  rw [← bodies_eq_acqOrder hi hv, bodiesOf_filter, proj_progs hi t, bodiesOf_prog, sched_calls]

theorem C07_own_writes_visible (threads : List (List (σ → σ × ρ))) (w : List Act)
    (hi : Interleaving (sched threads) w) (hv : validMutex w) (t : Nat) :
    ((List.range ((threads[t]?).getD []).length).map (fun i => (t, i))).Sublist (acqOrder w) := by
  rw [← C07_program_order_preserved threads w hi hv t]
  exact List.filter_sublist

/-- The serial order is a permutation of all calls, without repetition: every call's body is
    applied exactly once. -/
theorem C07_no_lost_update (threads : List (List (σ → σ × ρ))) (w : List Act)
    (hi : Interleaving (sched threads) w) (hv : validMutex w) :
    (acqOrder w).Perm (allCalls (threads.map List.length)) ∧
    (allCalls (threads.map List.length)).Nodup ∧
    ∀ c ∈ allCalls (threads.map List.length), (acqOrder w).count c = 1 := by
  have hp := acqOrder_perm_allCalls hi hv
  have hn := callIdsFrom_nodup 0 (threads.map List.length)
  exact ⟨hp, hn, fun c hc => (hp.count_eq c).trans (hn.count.trans (if_pos hc))⟩

/-- the call ids are exactly the positions that hold a body -/
theorem C07_calls_are_bodies (threads : List (List (σ → σ × ρ))) (c : CallId) :
    c ∈ allCalls (threads.map List.length) ↔ (bodyAt threads c).isSome = true := by
  rw [allCalls, mem_callIdsFrom, bodyAt, Nat.sub_zero, List.getElem?_map]
  cases threads[c.1]? with
  | none => simp
  | some calls => simp

/-- **no lost update, on the state**: the final state of every valid schedule is the result of
    applying the bodies of ALL calls of all threads, each exactly once, in some order. -/
theorem C07_final_state_applies_all_bodies (threads : List (List (σ → σ × ρ))) (s : σ) (w : List Act)
    (hi : Interleaving (sched threads) w) (hv : validMutex w) :
    ∃ l : List (σ → σ × ρ), l.Perm threads.flatten ∧
      (execConc threads s w).1 = l.foldl (fun s f => (f s).1) s := by
  refine ⟨(acqOrder w).filterMap (bodyAt threads), ?_, ?_⟩
  · have hp := acqOrder_perm_allCalls hi hv
    have := hp.filterMap (bodyAt threads)
    rw [allCalls, filterMap_bodyAt_callIdsFrom threads threads 0 (by intro i; simp)] at this
    exact this
  · rw [C07_serializable threads s w hi hv, execSerial, execSerial_state]

end serial

/-- generic: pairwise commuting steps ⇒ the fold only depends on the multiset of steps -/
theorem C07_perm_foldl_of_commute {σ : Type u} {α : Type v} (f : σ → α → σ)
    (hc : ∀ s a b, f (f s a) b = f (f s b) a) {l₁ l₂ : List α} (p : l₁.Perm l₂) (s : σ) :
    l₁.foldl f s = l₂.foldl f s :=
  foldl_perm_of_commute hc p s

/-- generic: with commuting steps EVERY interleaving of the threads' update lists ends in the
    state of running the threads one after another. -/
theorem C07_any_interleaving_equals_sequential {σ : Type u} {α : Type v} (f : σ → α → σ)
    (hc : ∀ s a b, f (f s a) b = f (f s b) a) (ts : List (List α)) (w : List α)
    (hi : Interleaving ts w) (s : σ) :
    exec f s w = execThreads f s ts :=
  exec_interleaving_of_commute hc hi s

/-- `Bloom.insert` calls: any two orders of the same multiset of calls give the same filter. -/
theorem C07_order_independent_bloom (b : Bloom) (l₁ l₂ : List (List Nat)) (p : l₁.Perm l₂) :
    l₁.foldl Bloom.insert b = l₂.foldl Bloom.insert b :=
  foldl_perm_of_commute Bloom.insert_commute p b

/-- `CMS.update` calls (element positions, count): any order gives the same matrix.  No
    well-formedness of the matrix is needed. -/
theorem C07_order_independent_cms (s : CMS) (l₁ l₂ : List (List Nat × Nat)) (p : l₁.Perm l₂) :
    l₁.foldl (fun s u => s.update u.1 u.2) s = l₂.foldl (fun s u => s.update u.1 u.2) s :=
  foldl_perm_of_commute cmsStep_commute p s

/-- `HLL.upd` calls (register index, value): any order gives the same registers. -/
theorem C07_order_independent_hll (regs : List Nat) (l₁ l₂ : List (Nat × Nat)) (p : l₁.Perm l₂) :
    l₁.foldl HLL.upd regs = l₂.foldl HLL.upd regs :=
  foldl_perm_of_commute HLL.upd_commute p regs

theorem C07_any_interleaving_bloom (b : Bloom) (ts : List (List (List Nat))) (w : List (List Nat))
    (hi : Interleaving ts w) : exec Bloom.insert b w = execThreads Bloom.insert b ts :=
  exec_interleaving_of_commute Bloom.insert_commute hi b

theorem C07_any_interleaving_cms (s : CMS) (ts : List (List (List Nat × Nat))) (w : List (List Nat × Nat))
    (hi : Interleaving ts w) : exec cmsStep s w = execThreads cmsStep s ts :=
  exec_interleaving_of_commute cmsStep_commute hi s

theorem C07_any_interleaving_hll (regs : List Nat) (ts : List (List (Nat × Nat))) (w : List (Nat × Nat))
    (hi : Interleaving ts w) : exec HLL.upd regs w = execThreads HLL.upd regs ts :=
  exec_interleaving_of_commute HLL.upd_commute hi regs

/-- mutex model and commutation together: threads of guarded `Insert` calls on one Bloom filter,
    ANY valid schedule: the final filter is the fold of all inserts in ANY order. -/
theorem C07_bloom_concurrent_inserts (b : Bloom) (threads : List (List (List Nat))) (w : List Act)
    (hi : Interleaving (sched (threads.map (List.map (fun ps (b : Bloom) => (b.insert ps, ()))))) w)
    (hv : validMutex w) (order : List (List Nat)) (ho : order.Perm threads.flatten) :
    (execConc (threads.map (List.map (fun ps (b : Bloom) => (b.insert ps, ())))) b w).1
      = order.foldl Bloom.insert b := by
  obtain ⟨l, hl, he⟩ := C07_final_state_applies_all_bodies _ b w hi hv
  rw [he]
  have hflat : (threads.map (List.map (fun ps (b : Bloom) => (b.insert ps, ())))).flatten
      = threads.flatten.map (fun ps (b : Bloom) => (b.insert ps, ())) := by
    rw [List.map_flatten]
  rw [hflat] at hl
  -- fold over the bodies = fold of `Bloom.insert` over the probe lists
  have hfold : ∀ (ps : List (List Nat)) (s : Bloom),
      (ps.map (fun ps (b : Bloom) => (b.insert ps, ()))).foldl (fun s f => (f s).1) s
        = ps.foldl Bloom.insert s := by
    intro ps; induction ps with
    | nil => intro s; rfl
    | cons p ps ih => intro s; simp only [List.map_cons, List.foldl_cons]; exact ih _
  -- the bodies that occur are inserts, and inserts commute
  have hcomm : ∀ f ∈ l, ∀ g ∈ l, ∀ s : Bloom, (g (f s).1).1 = (f (g s).1).1 := by
    intro f hf g hg s
    obtain ⟨p, _, rfl⟩ := List.mem_map.1 (hl.mem_iff.1 hf)
    obtain ⟨q, _, rfl⟩ := List.mem_map.1 (hl.mem_iff.1 hg)
    exact Bloom.insert_commute s p q
  rw [foldl_perm_of_commute_on hl hcomm, hfold]
  exact C07_order_independent_bloom b _ _ ho.symm

/-! ### the lock-table obligation is decidable, and not vacuous -/

/-- what a passing table says: every non-exempt method that touches mutable state does so under
    the receiver's mutex, and writers hold the exclusive lock. -/
theorem C07_lock_discipline_meaning (table : List MethodFact) (h : lockDisciplineOK table = true) :
    ∀ m ∈ table, m.exempt = false → m.touchesMutable = true →
      m.guarded = true ∧ (m.writesMutable = true → m.exclusive = true) := by
  intro m hm he ht
  have := List.all_eq_true.1 h m hm
  simp only [MethodFact.ok, he, ht, Bool.false_or, Bool.not_true, Bool.and_eq_true,
    Bool.or_eq_true, Bool.not_eq_true'] at this
  refine ⟨this.1, fun hw => ?_⟩
  rcases this.2 with h | h
  · rw [hw] at h; cases h
  · exact h

example : lockDisciplineOK
    [ ⟨"CountMinSketch", "Update", true, true, true, true, false⟩,
      ⟨"CountMinSketch", "Count", true, false, true, false, false⟩,
      ⟨"CountMinSketch", "Import", true, true, false, false, true⟩ ] = true := by decide

/-- an unguarded writer (Top-K without a mutex, defect D20) fails the obligation -/
example : lockDisciplineOK [ ⟨"TopK", "Insert", true, true, false, false, false⟩ ] = false := by decide
/-- a writer that only takes the read lock fails too -/
example : lockDisciplineOK [ ⟨"HyperLogLog", "Reset", true, true, true, false, false⟩ ] = false := by decide

/-! ### non-vacuity: two threads of two inserts each, one explicit valid schedule -/
namespace C07Example

def ins (ps : List Nat) : Bloom → Bloom × Bool := fun b => (b.insert ps, b.lookup ps)

/-- thread 0 inserts probes [0,1] then [2,5]; thread 1 inserts [1,3] then [0,1] -/
def threads : List (List (Bloom → Bloom × Bool)) := [[ins [0, 1], ins [2, 5]], [ins [1, 3], ins [0, 1]]]

/-- thread 0's first call, both calls of thread 1, thread 0's second call -/
def w : List Act :=
  [.acq 0, .body 0 0, .rel 0, .acq 1, .body 1 0, .rel 1, .acq 1, .body 1 1, .rel 1, .acq 0, .body 0 1, .rel 0]

theorem w_interleaving : Interleaving (sched threads) w :=
  Interleaving.of_pick (is := [0, 0, 0, 1, 1, 1, 1, 1, 1, 0, 0, 0]) (by decide +kernel)

theorem w_valid : validMutex w := by decide +kernel

/-- a schedule in which thread 1 takes the mutex inside thread 0's critical section is rejected -/
example : ¬ validMutex [.acq 0, .acq 1, .body 0 0, .body 1 0, .rel 0, .rel 1] := by decide +kernel

theorem w_order : acqOrder w = [(0, 0), (1, 0), (1, 1), (0, 1)] := by decide +kernel

/-- `C07_serializable` instantiated, with the concrete final filter and results: the second
    `[0,1]` insert (call (1,1)) sees the bits thread 0 set — result `true`. -/
example :
    execConc threads (Bloom.new 8 2) w = execSerial threads (Bloom.new 8 2) [(0, 0), (1, 0), (1, 1), (0, 1)] ∧
    (execConc threads (Bloom.new 8 2) w).1.bits = [true, true, true, true, false, true, false, false] ∧
    (execConc threads (Bloom.new 8 2) w).2 = [((0, 0), false), ((1, 0), false), ((1, 1), true), ((0, 1), false)] := by
  refine ⟨?_, by decide +kernel, by decide +kernel⟩
  rw [← w_order]; exact C07_serializable threads _ w w_interleaving w_valid

example : (acqOrder w).filter (fun c => c.1 == 1) = [(1, 0), (1, 1)] :=
  C07_program_order_preserved threads w w_interleaving w_valid 1

example : (acqOrder w).Perm [(0, 0), (0, 1), (1, 0), (1, 1)] :=
  (C07_no_lost_update threads w w_interleaving w_valid).1

/-- order independence: the four inserts in program order of thread 1 then thread 0 -/
example : (execConc threads (Bloom.new 8 2) w).1
    = [[1, 3], [0, 1], [0, 1], [2, 5]].foldl Bloom.insert (Bloom.new 8 2) := by decide +kernel

end C07Example

end Gostatix
