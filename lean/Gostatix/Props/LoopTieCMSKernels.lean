/-
  LoopTieCMSKernels — the two translators agree: the statements INSIDE the loops, as extract/loops.go
  translates them within the whole function bodies (Generated/Loops.lean), are the kernels that
  extract/arith.go translates from the same source lines (Generated/Arith.lean) and that
  Props/ArithTieCMS.lean / Props/ArithTieCMSCells.lean tie to the models.

  Separate from Props/LoopTieCMS.lean on purpose: arith.go refuses several harmless rewrites of the
  statements (a renamed loop variable, the row slice taken into a local, the cell statement in a
  helper); then the ArithTie files and THIS file stop building, while Props/LoopTieCMS.lean still
  proves the whole functions equal to the model.
-/
import Gostatix.Props.LoopTieCMS
import Gostatix.Props.ArithTieCMS
import Gostatix.Props.ArithTieCMSCells

namespace Gostatix.LoopTie
open Gostatix Gostatix.GoLoop Gostatix.Generated.Loops Gostatix.Generated.Arith

/-- entry `c` of `getPositions`, as the loop translation computes it, is arith.go's `cmsPosition` -/
theorem loops_position_is_kernel (a b cols : UInt64) (c : Nat) :
    posOf a b cols c = cmsPosition a b (UInt64.ofNat c) cols := rfl

/-- hence `getPositions` is the list of the kernel's values, and `positions` is the list that
    Props/ArithTieCMS.lean (`tie_cmsPositionsOf`) derives from the kernel -/
theorem tie_loop_getPositions_kernel (H : Hash) (s : Sketch) (data : List UInt8) (hc : 0 < s.columns) :
    cmsGetPositions H s data
      = some ((List.range s.rows.toNat).map fun c => cmsPosition (h1 H data) (h2 H data) (UInt64.ofNat c) s.columns) :=
  tie_loop_getPositionsU H s data hc

theorem tie_loop_update_kernels (H : Hash) (s : Sketch) (data : List UInt8) (count : UInt64) (h : WFM s) :
    cmsUpdate H s data count
      = some { s with matrix := ArithTie.updRowsG s.matrix (positions H s data) count,
                      allSum := cmsAllSumUpdate s.allSum count } := by
  rw [tie_loop_update_fields H s data count h, ArithTie.tie_updRows]; rfl

theorem WFM_one (s v : UInt64) : WFM { rows := 1, columns := 1, allSum := s, matrix := [[v]] } :=
  ⟨rfl, fun row hrow => by rw [List.mem_singleton.1 hrow]; rfl, show (0 : UInt64) < 1 by decide⟩

/-- the cell statement of `Update` inside its loop, as loops.go translates it, is arith.go's kernel:
    one iteration of the generated loop stores `cmsCellUpdate cell count` (on a 1 x 1 sketch) -/
theorem loops_cell_update_is_kernel (H : Hash) (cell count allSum : UInt64) (data : List UInt8) :
    cmsUpdate H { rows := 1, columns := 1, allSum := allSum, matrix := [[cell]] } data count
      = some { rows := 1, columns := 1, allSum := cmsAllSumUpdate allSum count,
               matrix := [[cmsCellUpdate cell count]] } := by
  rw [tie_loop_update_fields H _ data count (WFM_one allSum cell)]
  have : positions H { rows := 1, columns := 1, allSum := allSum, matrix := [[cell]] } data = [0] := by
    simp [positions, CMS.positionsOf, CMS.position, List.range_succ, Nat.mod_one]
  rw [this]
  rfl

/-- the cell statement of `Merge` inside its loops is arith.go's kernel `cmsCellMerge` -/
theorem loops_cell_merge_is_kernel (x y s1 s2 : UInt64) :
    cmsMerge { rows := 1, columns := 1, allSum := s1, matrix := [[x]] }
             { rows := 1, columns := 1, allSum := s2, matrix := [[y]] }
      = some ({ rows := 1, columns := 1, allSum := s1, matrix := [[cmsCellMerge x y]] }, cmsMergeErr.nil) := by
  rw [tie_loop_merge _ _ (WFM_one s1 x) (WFM_one s2 y), if_neg fun h => h rfl,
    if_neg fun h => h rfl]
  rfl

end Gostatix.LoopTie
