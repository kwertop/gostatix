/-
  C16Cond — property C16 ("concurrent updates through Redis are not lost") for the two structures
  where it FAILS in general (finding D21: `CuckooFilterRedis.Insert`, `TopKRedis.Insert`, see
  `C16_cuckoo_counterexample`, `C16_topk_counterexample` in Props/C16.lean): the conditions under
  which it holds, and where exactly it stops holding.

  GRANULARITY AND ASSUMPTIONS (as in Props/C16.lean): one Redis command / one Lua script is one
  atomic step on the shared store; a client call is the list of steps it issues; an execution is
  an `Interleaving` of the clients' lists.  The programs are the transcriptions of Props/C16.lean:
    * cuckoo: `C16CuckooN` (Proofs/C16Cond.lean) is `C16Cuckoo` with a natural number instead of a
      Boolean as client name, hence ANY number of clients; `C16_cuckoo_model_contains_two_client`
      shows that the two-client model is its restriction to the clients 0 and 1.  As there, the
      eviction loop is not modelled: a client that finds both candidates full sets `evicting`;
    * Top-K: the writer is client `false` of `C16TopK` (ZCARD, ZRANGE 0 0, ZSCORE, ZREM, ZADD,
      ZCARD, ZPOPMIN; the estimate `f` is a parameter, the sketch part is `C16_cms`); a reader's
      `Values()` is ONE command `ZRANGE heap 0 -1 WITHSCORES` whose reply is recorded (`C16TopKR`).

  MAIN RESULTS.  Cuckoo: `C16_cuckoo_disjoint_buckets` (disjoint candidate pairs: every
  interleaving ends in THE sequential state), `C16_cuckoo_room_for_all` (shared buckets with room
  for all: the postcondition holds, but not the sequential state, `C16_cuckoo_shared_bucket_order`),
  `C16_cuckoo_room_needed` (sharpness).  Top-K: `C16_topk_single_writer` (one writer, readers see
  command-granularity sets: `C16_topk_reader_sees_k_plus_one`,
  `C16_topk_reader_misses_tracked_member`), `C16_topk_two_refreshers` and its two sharpness
  examples `C16_topk_refresh_needs_monotone`, `C16_topk_refresh_same_member`.

  NOT PROVED / NOT MODELLED: the eviction loop under concurrency; removals concurrent with inserts;
  more than two Top-K writers; that the command lists are what the Go code issues (transcription,
  as in Props/C16.lean); atomicity of single commands and scripts (assumption).
-/
import Gostatix.Proofs.C16Cond
namespace Gostatix
open Conc

section cuckoo
open C16CuckooN

/-- the two-client model of Props/C16.lean is the restriction of the N-client model to clients 0
    and 1: running the translated schedule and forgetting the other clients gives the same state -/
theorem C16_cuckoo_model_contains_two_client (s : St) (w : List C16Cuckoo.Cmd) :
    toTwo (exec step s (w.map ofCmd)) = exec C16Cuckoo.step (toTwo s) w :=
  toTwo_exec s w

theorem hasRoom_of_forall {s0 : St} {reqs : List Req}
    (hf : ∀ r ∈ reqs, (s0.bucket r.2.1).isFree = true ∨ (s0.bucket r.2.2).isFree = true) :
    HasRoom s0 reqs := by
  intro j hj
  exact hf _ (List.mem_of_getElem? (getElem?_req reqs hj))

theorem mem_reqs_iff_req {reqs : List Req} {r : Req} (h : r ∈ reqs) :
    ∃ j, j < reqs.length ∧ req reqs j = r := by
  obtain ⟨j, hj⟩ := List.mem_iff_getElem?.1 h
  exact ⟨j, (List.getElem?_eq_some_iff.1 hj).1, req_of_getElem? reqs hj⟩

/-- **shared buckets with room for everybody.**  Any number of clients, one `Insert` each, fresh
    locals; every targeted bucket has room for all the clients that target it (`RoomForAll`:
    `len + #{clients whose first candidate with room it is} ≤ size`).  Proof: an invariant of every
    interleaving (`Inv`, `inv_after` in Proofs/C16Cond.lean). -/
theorem C16_cuckoo_room_for_all (s0 : St) (reqs : List Req) (w : List Cmd)
    (hloc : ∀ c, c < reqs.length → s0.loc c = {})
    (hroom : RoomForAll s0 reqs)
    (hi : Interleaving (progs reqs) w) :
    (∀ c, c < reqs.length →
      ((exec step s0 w).loc c).acked = true ∧ ((exec step s0 w).loc c).evicting = false) ∧
    (exec step s0 w).length = s0.length + reqs.length ∧
    (∀ r ∈ reqs, r.1 ≠ 0 → found (exec step s0 w) r = true) ∧
    ((∀ r ∈ reqs, r.1 ≠ 0) → stored (exec step s0 w) = stored s0 + reqs.length) := by
  obtain ⟨pc, hpc, hI⟩ := inv_after hroom hloc hi
  refine ⟨?_, ?_, ?_, ?_⟩
  · intro c hc
    rw [hI.locs c hc]
    exact locAt_done _ _ (hpc c hc)
  · rw [hI.length, cnt_all _ _ (fun j hj => by simpa using hpc j hj)]
  · intro r hr' hne
    obtain ⟨j, hj, rfl⟩ := mem_reqs_iff_req hr'
    have hm := hI.found j hj (addedAt_done _ _ (hpc j hj)) hne
    have hl : ((exec step s0 w).bucket (tj s0 reqs j)).lookup (req reqs j).1 = true := by
      simpa [BucketRedis.lookup] using hm
    unfold found
    rcases tj_mem (s0 := s0) (reqs := reqs) j with e | e
    · rw [e] at hl; rw [hl]; rfl
    · rw [e] at hl; rw [hl, Bool.or_true]
  · intro hne
    rw [hI.stored (fun j hj => hne _ (List.mem_of_getElem? (getElem?_req reqs hj))),
      cnt_all _ _ (fun j hj => addedAt_done _ _ (hpc j hj))]

/-- the postcondition of `C16_cuckoo_counterexample` is preserved by every interleaving -/
theorem C16_cuckoo_room_for_all_length_is_stored (s0 : St) (reqs : List Req) (w : List Cmd)
    (hloc : ∀ c, c < reqs.length → s0.loc c = {})
    (hroom : RoomForAll s0 reqs) (hne : ∀ r ∈ reqs, r.1 ≠ 0)
    (h0 : s0.length = stored s0) (hi : Interleaving (progs reqs) w) :
    (exec step s0 w).length = stored (exec step s0 w) := by
  obtain ⟨_, h1, _, h2⟩ := C16_cuckoo_room_for_all s0 reqs w hloc hroom hi
  rw [h1, h2 hne, h0]

/-- **disjoint candidate buckets.**  Any number of clients, one `Insert` each, fresh locals; no
    bucket is a candidate of two different clients, and every client has a candidate bucket with
    room in the initial store (so no eviction loop runs).  Then EVERY interleaving ends in the
    state (store AND locals) of running the clients one after another, which is the state the
    sequential model `Cuckoo.insert` computes; the rest is `C16_cuckoo_room_for_all`.  Proof:
    commands of different clients on different buckets commute (`progs_indep`), and independent
    threads can be serialised.  `alt`, `d`, `side`, `slots` and the configuration of `cm` are
    irrelevant (no walk runs). -/
theorem C16_cuckoo_disjoint_buckets (s0 : St) (reqs : List Req) (w : List Cmd)
    (alt : Nat → C16Cuckoo.Fp → Nat) (d side : Bool) (slots : List Nat)
    (cm : Cuckoo (BucketRedis C16Cuckoo.Fp))
    (hcb : cm.buckets = s0.buckets) (hcl : cm.length = s0.length)
    (hloc : ∀ c, s0.loc c = {})
    (hd : Disjoint reqs)
    (hf : ∀ r ∈ reqs, (s0.bucket r.2.1).isFree = true ∨ (s0.bucket r.2.2).isFree = true)
    (hi : Interleaving (progs reqs) w) :
    exec step s0 w = exec step s0 (progs reqs).flatten ∧
    (∃ cm', modelRun alt d side slots cm reqs = some cm' ∧
      (exec step s0 w).buckets = cm'.buckets ∧ (exec step s0 w).length = cm'.length) ∧
    (∀ c, c < reqs.length →
      ((exec step s0 w).loc c).acked = true ∧ ((exec step s0 w).loc c).evicting = false) ∧
    (exec step s0 w).length = s0.length + reqs.length ∧
    (∀ r ∈ reqs, r.1 ≠ 0 → found (exec step s0 w) r = true) ∧
    ((∀ r ∈ reqs, r.1 ≠ 0) → stored (exec step s0 w) = stored s0 + reqs.length) := by
  have hseq : exec step s0 w = exec step s0 (progs reqs).flatten :=
    exec_interleaving_of_indep step hi (progs_indep reqs hd) s0
  obtain ⟨cm', m1, m2, m3⟩ :=
    seq_run alt d side slots reqs 0 s0 cm hcb hcl (fun e _ => hloc e) hd hf
  have hr := hasRoom_of_forall hf
  obtain ⟨a, b, c, e⟩ := C16_cuckoo_room_for_all s0 reqs w (fun c _ => hloc c)
    (roomForAll_of_disjoint hd hr) hi
  refine ⟨hseq, ⟨cm', m1, ?_, ?_⟩, a, b, c, e⟩
  · rw [hseq]; exact m2
  · rw [hseq]; exact m3

/-- two buckets of size 2, both empty; client 0 inserts fingerprint 7, client 1 fingerprint 9, both
    with candidates 0 and 1: bucket 0 is shared and has room for both -/
def sShared : St := { buckets := [BucketRedis.new 2, BucketRedis.new 2], length := 0 }
def rShared : List Req := [(7, 0, 1), (9, 0, 1)]
/-- both run `isFree(0)`, then client 1's `add` runs before client 0's -/
def wShared : List Cmd :=
  [.isFree1 0 0, .isFree1 1 0, .add1 1 0 9, .add1 0 0 7, .isFree2 0 1, .add2 0 1 7, .finish 0,
   .isFree2 1 1, .add2 1 1 9, .finish 1]

theorem wShared_interleaving : Interleaving (progs rShared) wShared :=
  Interleaving.of_pick (is := [0, 1, 1, 0, 0, 0, 0, 1, 1, 1]) (by decide +kernel)

/-- **"same bucket, room for all" does NOT give the state of THE sequential application**: the
    interleaving `wShared` ends with bucket 0 = `[7, 9]`, running client 0 then client 1 ends with
    `[9, 7]` (`LPUSH` prepends).  It ends where the other sequential order ends. -/
theorem C16_cuckoo_shared_bucket_order :
    (exec step sShared wShared).buckets = [⟨2, [7, 9], 2⟩, ⟨2, [], 0⟩] ∧
    (exec step sShared (progs rShared).flatten).buckets = [⟨2, [9, 7], 2⟩, ⟨2, [], 0⟩] ∧
    (exec step sShared (insertProg 1 (9, 0, 1) ++ insertProg 0 (7, 0, 1))).buckets
      = [⟨2, [7, 9], 2⟩, ⟨2, [], 0⟩] ∧
    (let s := exec step sShared wShared
     (s.loc 0).acked = true ∧ (s.loc 1).acked = true ∧ s.length = 2 ∧ stored s = 2 ∧
     found s (7, 0, 1) = true ∧ found s (9, 0, 1) = true) := by decide +kernel

theorem sShared_hasRoom : HasRoom sShared rShared := by
  unfold HasRoom; decide +kernel

theorem sShared_roomForAll : RoomForAll sShared rShared := by
  unfold RoomForAll; decide +kernel

example : (exec step sShared wShared).length = sShared.length + 2 :=
  (C16_cuckoo_room_for_all sShared rShared wShared (fun _ _ => rfl)
    sShared_roomForAll wShared_interleaving).2.1

/-- the same two clients on buckets of size ONE (room for one, two clients target bucket 0) -/
def sTight : St := { buckets := [BucketRedis.new 1, BucketRedis.new 1], length := 0 }

/-- **`RoomForAll` is sharp**: with room for one and two clients targeting the bucket the same
    schedule acknowledges both inserts, sets `length = 2`, stores ONE fingerprint and cannot find
    the other (finding D21 in the N-client model). -/
theorem C16_cuckoo_room_needed :
    Interleaving (progs rShared) wShared ∧ HasRoom sTight rShared ∧ ¬ RoomForAll sTight rShared ∧
    (let s := exec step sTight wShared
     (s.loc 0).acked = true ∧ (s.loc 1).acked = true ∧ s.length = 2 ∧ stored s = 1 ∧
     found s (7, 0, 1) = false ∧ found s (9, 0, 1) = true) := by
  refine ⟨wShared_interleaving, ?_, ?_, by decide +kernel⟩
  · unfold HasRoom; decide +kernel
  · unfold RoomForAll; decide +kernel

/-! ### non-vacuity -/

/-- six buckets of size 2; 0 is full, 1 has a hole, 2 and 3 have room, 4 is full, 5 has room -/
def sSix : St :=
  { buckets := [⟨2, [3, 4], 2⟩, ⟨2, [0, 5], 1⟩, ⟨2, [6], 1⟩, ⟨2, [], 0⟩, ⟨2, [8, 1], 2⟩, ⟨2, [2], 1⟩],
    length := 7 }
/-- client 0: first candidate full, second has a hole; client 1: first candidate has room;
    client 2: first candidate full, second has room -/
def rSix : List Req := [(11, 0, 1), (12, 2, 3), (13, 4, 5)]

theorem rSix_disjoint : Disjoint rSix :=
  Disjoint.of_lt rSix (by decide +kernel)

theorem rSix_free : ∀ r ∈ rSix, (sSix.bucket r.2.1).isFree = true ∨ (sSix.bucket r.2.2).isFree = true := by
  decide +kernel

def wSix : List Cmd :=
  [.isFree1 2 4, .isFree1 0 0, .isFree1 1 2, .add1 1 2 12, .add1 0 0 11, .add1 2 4 13,
   .isFree2 0 1, .isFree2 2 5, .add2 2 5 13, .isFree2 1 3, .add2 0 1 11, .finish 2,
   .add2 1 3 12, .finish 0, .finish 1]

theorem wSix_interleaving : Interleaving (progs rSix) wSix :=
  Interleaving.of_pick (is := [2, 0, 1, 1, 0, 2, 0, 2, 2, 1, 0, 2, 1, 0, 1]) (by decide +kernel)

example : exec step sSix wSix = exec step sSix (progs rSix).flatten :=
  (C16_cuckoo_disjoint_buckets sSix rSix wSix (fun i _ => i) false true []
    ⟨6, 2, 1, 3, sSix.buckets, sSix.length⟩ rfl rfl (fun _ => rfl) rSix_disjoint rSix_free
    wSix_interleaving).1

example : (exec step sSix wSix).buckets
      = [⟨2, [3, 4], 2⟩, ⟨2, [11, 5], 2⟩, ⟨2, [12, 6], 2⟩, ⟨2, [], 0⟩, ⟨2, [8, 1], 2⟩, ⟨2, [13, 2], 2⟩] ∧
    (exec step sSix wSix).length = 10 ∧ stored (exec step sSix wSix) = 10 := by decide +kernel

example : modelRun (fun i _ => i) false true [] ⟨6, 2, 1, 3, sSix.buckets, sSix.length⟩ rSix
    = some ⟨6, 2, 1, 3, (exec step sSix wSix).buckets, 10⟩ := by decide +kernel

end cuckoo

section topk
open C16TopK (St Cmd step insertProg)
open C16TopKR

/-- **one writer, any number of readers.**  The writer runs the inserts `ins` (element, estimate),
    every other thread only issues `Values()` reads.  `observable k z₀ ins`: the sorted set after
    0…7 commands of one of the inserts (`zAfter`) — NOT necessarily a set that exists between two
    inserts. -/
theorem C16_topk_single_writer (k : Nat) (s0 : St) (ins : List HElem) (readers : List (List RCmd))
    (hr : ∀ t ∈ readers, ∀ a ∈ t, getW a = none) (w : List RCmd)
    (hi : Interleaving (writerProg ins :: readers) w) :
    (exec (rstep k) ⟨s0, []⟩ w).st = exec (step k) s0 (writerCmds ins) ∧
    (exec (rstep k) ⟨s0, []⟩ w).st.z = ins.foldl (fun z e => TopK.offerRedis k z e.1 e.2) s0.z ∧
    ∀ o ∈ (exec (rstep k) ⟨s0, []⟩ w).obs, o.2 ∈ observable k s0.z ins := by
  have hw : w.filterMap getW = writerCmds ins := by
    rw [interleaving_filterMap hi hr, filterMap_writerProg]
  obtain ⟨h1, new, h2, h3⟩ := exec_rstep k w ⟨s0, []⟩
  rw [hw] at h1 h3
  refine ⟨h1, by rw [h1]; exact writer_seq k ins s0, ?_⟩
  intro o ho
  rw [h2] at ho
  simp only [List.nil_append] at ho
  obtain ⟨p, q, hpq, hz⟩ := h3 o ho
  rw [hz]
  exact prefix_observable k ins s0 p q hpq

theorem C16_topk_reader_bound (k : Nat) (s0 : St) (ins : List HElem) (readers : List (List RCmd))
    (hr : ∀ t ∈ readers, ∀ a ∈ t, getW a = none) (w : List RCmd)
    (hi : Interleaving (writerProg ins :: readers) w) (hk : s0.z.length ≤ k) :
    ∀ o ∈ (exec (rstep k) ⟨s0, []⟩ w).obs, o.2.length ≤ k + 1 := fun o ho =>
  observable_length k ins s0.z hk o.2 ((C16_topk_single_writer k s0 ins readers hr w hi).2.2 o ho)

/-- the sets that exist BETWEEN two inserts of the writer -/
def betweenInserts (k : Nat) (z : List HElem) (ins : List HElem) : List (List HElem) :=
  (List.range (ins.length + 1)).map fun j =>
    (ins.take j).foldl (fun z e => TopK.offerRedis k z e.1 e.2) z

/-- k = 2, set `[a:1, b:5]`, the writer inserts `c` with estimate 7; the reader's `ZRANGE` runs
    between the writer's ZADD and its second ZCARD -/
def wPlusOne : List RCmd :=
  (writerProg [("c", 7)]).take 5 ++ [.read 0] ++ (writerProg [("c", 7)]).drop 5

/-- **a reader can see `k + 1` entries**, a set that exists neither before nor after the insert -/
theorem C16_topk_reader_sees_k_plus_one :
    Interleaving [writerProg [("c", 7)], [.read 0]] wPlusOne ∧
    (exec (rstep 2) ⟨{ z := [("a", 1), ("b", 5)] }, []⟩ wPlusOne).obs
      = [(0, [("a", 1), ("b", 5), ("c", 7)])] ∧
    [("a", 1), ("b", 5), ("c", 7)] ∉ betweenInserts 2 [("a", 1), ("b", 5)] [("c", 7)] ∧
    (exec (rstep 2) ⟨{ z := [("a", 1), ("b", 5)] }, []⟩ wPlusOne).st.z = [("b", 5), ("c", 7)] :=
  ⟨Interleaving.of_pick (is := [0, 0, 0, 0, 0, 1, 0, 0]) (by decide +kernel), by decide +kernel, by decide +kernel, by decide +kernel⟩

/-- the writer refreshes the tracked member `b` (5 → 7); the reader's `ZRANGE` runs between the
    writer's ZREM and its ZADD -/
def wMissing : List RCmd :=
  (writerProg [("b", 7)]).take 4 ++ [.read 0] ++ (writerProg [("b", 7)]).drop 4

/-- **a reader can miss a member that is tracked before AND after the insert** -/
theorem C16_topk_reader_misses_tracked_member :
    Interleaving [writerProg [("b", 7)], [.read 0]] wMissing ∧
    (exec (rstep 2) ⟨{ z := [("a", 1), ("b", 5)] }, []⟩ wMissing).obs = [(0, [("a", 1)])] ∧
    [("a", 1)] ∉ betweenInserts 2 [("a", 1), ("b", 5)] [("b", 7)] ∧
    (exec (rstep 2) ⟨{ z := [("a", 1), ("b", 5)] }, []⟩ wMissing).st.z = [("a", 1), ("b", 7)] :=
  ⟨Interleaving.of_pick (is := [0, 0, 0, 0, 1, 0, 0, 0]) (by decide +kernel), by decide +kernel, by decide +kernel, by decide +kernel⟩

example : [("a", 1), ("b", 5), ("c", 7)] ∈ observable 2 [("a", 1), ("b", 5)] [("c", 7)] ∧
    [("a", 1)] ∈ observable 2 [("a", 1), ("b", 5)] [("b", 7)] := by decide +kernel

/-- two inserts, two readers with three reads -/
def wTwoReaders : List RCmd :=
  (writerProg [("b", 7), ("c", 9)]).take 4 ++ [.read 0, .read 1] ++
    ((writerProg [("b", 7), ("c", 9)]).drop 4).take 8 ++ [.read 0] ++
    (writerProg [("b", 7), ("c", 9)]).drop 12

theorem wTwoReaders_interleaving :
    Interleaving [writerProg [("b", 7), ("c", 9)], [.read 0, .read 0], [.read 1]] wTwoReaders :=
  Interleaving.of_pick (is := [0, 0, 0, 0, 1, 2, 0, 0, 0, 0, 0, 0, 0, 0, 1, 0, 0]) (by decide +kernel)

example : (exec (rstep 2) ⟨{ z := [("a", 1), ("b", 5)] }, []⟩ wTwoReaders).st.z
    = [("b", 7), ("c", 9)].foldl (fun z e => TopK.offerRedis 2 z e.1 e.2) [("a", 1), ("b", 5)] :=
  (C16_topk_single_writer 2 { z := [("a", 1), ("b", 5)] } [("b", 7), ("c", 9)]
    [[.read 0, .read 0], [.read 1]]
    (by decide +kernel)
    wTwoReaders wTwoReaders_interleaving).2.1

example : (exec (rstep 2) ⟨{ z := [("a", 1), ("b", 5)] }, []⟩ wTwoReaders).obs
      = [(0, [("a", 1)]), (1, [("a", 1)]), (0, [("a", 1), ("b", 7), ("c", 9)])] ∧
    (exec (rstep 2) ⟨{ z := [("a", 1), ("b", 5)] }, []⟩ wTwoReaders).st.z = [("b", 7), ("c", 9)] := by
  decide +kernel

/-- **two writers refreshing two different tracked members**, new estimates ≥ the current scores
    (a Count-Min estimate never decreases).  No ZPOPMIN ever runs. -/
theorem C16_topk_two_refreshers (k : Nat) (z0 : List HElem) (x y : String) (sx f sy g : Nat)
    (hwf : Redis.ZWf z0) (hlen : z0.length ≤ k) (hne : x ≠ y)
    (hx : (x, sx) ∈ z0) (hy : (y, sy) ∈ z0) (hf : sx ≤ f) (hg : sy ≤ g)
    (s0 : St) (hz : s0.z = z0) (w : List Cmd)
    (hi : Interleaving [insertProg false x f, insertProg true y g] w) :
    (exec (step k) s0 w).z = TopK.zadd (TopK.zadd z0 x f) y g ∧
    (exec (step k) s0 (insertProg false x f ++ insertProg true y g)).z = (exec (step k) s0 w).z ∧
    (exec (step k) s0 (insertProg true y g ++ insertProg false x f)).z = (exec (step k) s0 w).z := by
  have H : C16TopK2.Hyp k z0 (fun c => if c then ⟨y, sy, g⟩ else ⟨x, sx, f⟩) :=
    ⟨hwf, hlen, hne, fun c => by cases c <;> assumption, fun c => by cases c <;> assumption⟩
  have key := fun w' hi' => C16TopK2.two_refreshers H s0 hz w' hi'
  have h1 := key w hi
  have h2 := key (insertProg false x f ++ insertProg true y g)
    (by simpa using Interleaving.sequential [insertProg false x f, insertProg true y g])
  have h3 := key (insertProg true y g ++ insertProg false x f) (Interleaving.swap _ _)
  exact ⟨h1, h2.trans h1.symm, h3.trans h1.symm⟩

/-- k = 2, `z₀ = [y:10, x:50]`; writer A offers `x` with the LOWER estimate 5, writer B refreshes
    `y` to 20.  A's ZCARD runs while `y` is removed and sees one entry -/
def wNonMono : List Cmd :=
  [.zcard true, .zrange true 20, .zscore true "y", .zrem true "y",
   .zcard false, .zrange false 5, .zscore false "x", .zrem false "x", .zadd false "x" 5,
   .zcard2 false, .zpopmin false, .zadd true "y" 20, .zcard2 true, .zpopmin true]

/-- **without `estimate ≥ current score` the claim is false**: both sequential orders reject A's
    offer (5 < minimum, set full) and end in `[y:20, x:50]`; the interleaving lets A through
    (ZCARD = 1 < k while `y` is removed) and ends in `[x:5, y:20]`. -/
theorem C16_topk_refresh_needs_monotone :
    Interleaving [insertProg false "x" 5, insertProg true "y" 20] wNonMono ∧
    (exec (step 2) { z := [("y", 10), ("x", 50)] } wNonMono).z = [("x", 5), ("y", 20)] ∧
    (exec (step 2) { z := [("y", 10), ("x", 50)] }
      (insertProg false "x" 5 ++ insertProg true "y" 20)).z = [("y", 20), ("x", 50)] ∧
    (exec (step 2) { z := [("y", 10), ("x", 50)] }
      (insertProg true "y" 20 ++ insertProg false "x" 5)).z = [("y", 20), ("x", 50)] :=
  ⟨Interleaving.of_pick (is := [1, 1, 1, 1, 0, 0, 0, 0, 0, 0, 0, 1, 1, 1]) (by decide +kernel),
    by decide +kernel, by decide +kernel, by decide +kernel⟩

/-- k = 2, `z₀ = [x:5, w:9]`; both writers refresh the SAME member `x`, A with 7, B with 8; B's
    ZADD runs before A's -/
def wSame : List Cmd :=
  [.zcard false, .zrange false 7, .zcard true, .zrange true 8, .zscore false "x", .zscore true "x",
   .zrem true "x", .zadd true "x" 8, .zcard2 true, .zpopmin true,
   .zrem false "x", .zadd false "x" 7, .zcard2 false, .zpopmin false]

/-- **for the same member the claim is false**: both sequential orders end with `x:8` (after B, A's
    7 is below the minimum of the full set and is rejected); the interleaving ends with `x:7`. -/
theorem C16_topk_refresh_same_member :
    Interleaving [insertProg false "x" 7, insertProg true "x" 8] wSame ∧
    (exec (step 2) { z := [("x", 5), ("w", 9)] } wSame).z = [("x", 7), ("w", 9)] ∧
    (exec (step 2) { z := [("x", 5), ("w", 9)] }
      (insertProg false "x" 7 ++ insertProg true "x" 8)).z = [("x", 8), ("w", 9)] ∧
    (exec (step 2) { z := [("x", 5), ("w", 9)] }
      (insertProg true "x" 8 ++ insertProg false "x" 7)).z = [("x", 8), ("w", 9)] :=
  ⟨Interleaving.of_pick (is := [0, 0, 1, 1, 0, 1, 1, 1, 1, 1, 0, 0, 0, 0]) (by decide +kernel),
    by decide +kernel, by decide +kernel, by decide +kernel⟩

/-- k = 3, `[y:1, x:5, w:9]`, `x → 6`, `y → 7`; both members are removed at the same time -/
def wRefresh : List Cmd :=
  [.zcard false, .zcard true, .zrange true 7, .zrange false 6, .zscore true "y", .zrem true "y",
   .zscore false "x", .zrem false "x", .zadd true "y" 7, .zcard2 true, .zadd false "x" 6,
   .zpopmin true, .zcard2 false, .zpopmin false]

theorem wRefresh_interleaving :
    Interleaving [insertProg false "x" 6, insertProg true "y" 7] wRefresh :=
  Interleaving.of_pick (is := [0, 1, 1, 0, 1, 1, 0, 0, 1, 1, 0, 1, 0, 0]) (by decide +kernel)

example : (exec (step 3) { z := [("y", 1), ("x", 5), ("w", 9)] } wRefresh).z
    = TopK.zadd (TopK.zadd [("y", 1), ("x", 5), ("w", 9)] "x" 6) "y" 7 :=
  (C16_topk_two_refreshers 3 [("y", 1), ("x", 5), ("w", 9)] "x" "y" 5 6 1 7 (by decide +kernel) (by decide +kernel)
    (by decide +kernel) (by decide +kernel) (by decide +kernel) (by decide +kernel) (by decide +kernel) _ rfl wRefresh wRefresh_interleaving).1

example : (exec (step 3) { z := [("y", 1), ("x", 5), ("w", 9)] } wRefresh).z
    = [("x", 6), ("y", 7), ("w", 9)] := by decide +kernel

end topk
end Gostatix
