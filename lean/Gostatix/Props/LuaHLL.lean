/-
  LuaHLL — the Lua scripts EXTRACTED from hyperloglog_redis.go and top_k_redis.go
  (`Gostatix/Generated/LuaScripts.lean`, regenerated from the Go sources on every run), run by the
  interpreter of Model/Lua.lean (`Lua.run`), compute the HAND-WRITTEN models of Model/Redis.lean,
  Model/RedisTopK.lean, Model/Json.lean, Model/Equals.lean — so the property theorems about those
  models (C08, C09, C17, C19 …) are theorems about the scripts in the Go sources.  A change of a
  script in the Go sources changes the generated term and breaks the proof below unless the new
  script still computes the model.

  KEYS/ARGV are as the Go call sites build them (`script.Run(ctx, client, []string{keys…}, args…)`,
  numbers spelled in decimal: `Gostatix.Redis.decimal`).  `Numeral c` = "`c` is a non-empty string
  of digits of value ≤ 2^53", the form in which the library itself writes registers
  (`Numeral_decimal`); `ListAt st k l` = "`LRANGE k 0 -1` succeeds with `l`" (the key holds the
  list `l`, or is absent and `l = []`).  Every theorem is for all stores and arguments that satisfy
  its hypotheses and for every fuel above an explicit bound (a constant plus the rounds of the loop).

  Script by script (hypotheses; the theorem whose doc comment shows why each is needed):
  * `lua_updateList_eq`: `updateList` = `hllUpdate h idx val`, store and outcome, every failure included
    (`idx, val ≤ 2^53`: `lua_updateList_big`; the register read is a `Numeral`: `lua_updateList_differs`).
  * `lua_initList_eq`: `initList` = `hllInit h` (`m` even: `lua_initList_odd`; `m/2 ≤ 4800`: `lua_initList_overflow`).
  * `lua_mergeRegisters_eq` / `lua_merge_eq`: `mergeRegistersScript` = `hllMergeScript` / `hllMerge h g` (lists or
    absent keys: `lua_merge_differs_wrongtype`, `lua_mergeRegisters_wrongtype`; `Numeral` entries:
    `lua_merge_differs_numeral`; at most 4800 registers: `lua_merge_overflow`).
  * `lua_hllEquals_eq`: `equals` = `hllEquals h g` (`lua_hllEquals_differs_wrongtype`, `lua_hllEquals_differs_numeral`).
  * `lua_importRegisters_eq`: `importRegistersScript` = `RPUSH key r₁ … rₙ` for `n ≤ 4800`
    (`lua_importRegisters_overflow`); `lua_importRegisters_json` ties it to `Json.HLLRedis.importRegisters`.
  * `lua_importHeap_eq`: `importHeapScript` = the `ZADD`s of the pairs in order (`zaddAll`); `lua_importHeap_json`.
  * `lua_topkEquals_eq`: the Top-K `equals` = `Equals.compareHeaps` of the two sorted sets
    (`lua_topkEquals_differs_wrongtype`).
  The `…_abs` theorems transport the C08 simulation theorems through the scripts.
  Not tied: `hyperloglog_redis_harmonicMeanScript` (float arithmetic `2^(-x)`, `string.format('%.17g')`: outside the
  interpreter's integer subset, it evaluates to `unsupported`, `lua_harmonicMean_unsupported`).

  The examples at the end evaluate the interpreter and the hand models on concrete stores in the
  kernel (`decide +kernel`: plain kernel reduction, no `native_decide`, no extra axiom).
-/
import Gostatix.Proofs.LuaHLL
import Gostatix.Proofs.LuaTopK
import Gostatix.Props.C08
import Gostatix.Props.C17
namespace Gostatix.LuaHLL
open Gostatix Gostatix.Lua Gostatix.Redis Gostatix.Generated.LuaScripts Gostatix.LuaCMS

theorem numeral_of_parse {l : List String} {regs : List Nat}
    (hm : l.map parseDecimal = regs.map some) (hb : ∀ r ∈ regs, r ≤ 2 ^ 53) :
    ∀ c ∈ l, Numeral c := by
  induction l generalizing regs with
  | nil => intro c hc; cases hc
  | cons a l ih =>
    cases regs with
    | nil => simp at hm
    | cons r regs =>
      simp only [List.map_cons, List.cons.injEq] at hm
      intro c hc
      rcases List.mem_cons.mp hc with rfl | hc
      · exact ⟨r, hm.1, hb r List.mem_cons_self⟩
      · exact ih hm.2 (fun x hx => hb x (List.mem_cons_of_mem _ hx)) c hc

theorem listAt_of_absHLL {st : Store} {h : HLLHandle} {c : HLL} (habs : absHLL st h = some c)
    (hb : ∀ r ∈ c.regs, r ≤ 2 ^ 53) :
    ∃ l, st h.key = some (.list l) ∧ ListAt st h.key l ∧ l.length = h.m ∧ ∀ x ∈ l, Numeral x := by
  obtain ⟨_, l, hl, hlen, hmap⟩ := (absHLL_eq_some_iff _ _ _).mp habs
  exact ⟨l, hl, cmdLRANGE_list hl, hlen, numeral_of_parse hmap hb⟩

/-! ## `updateList` (HyperLogLogRedis.updateRegisters) -/

/-- the extracted `updateList`, on the arguments `updateRegisters(index, count)` passes, is
    `hllUpdate`: same store, same outcome (reply `1`, or an error exactly when the model fails). -/
theorem lua_updateList_eq (st : Store) (h : HLLHandle) (idx val fuel : Nat) (hfuel : 20 ≤ fuel)
    (hidx : idx ≤ 2 ^ 53) (hval : val ≤ 2 ^ 53)
    (hreg : ∀ l c, st h.key = some (.list l) → l[idx]? = some c → Numeral c) :
    run fuel hyperloglog_redis_updateList [h.key] [decimal idx, decimal val] st =
      ((hllUpdate h idx val st).1,
        unitOutcome (hllUpdate h idx val st).2 (updateListError st h.key)) := by
  obtain ⟨f, rfl⟩ := Nat.exists_eq_add_of_le' hfuel
  exact updateList_eq st h idx val f hidx hval hreg

/-- `C08_hll_update` through the extracted script: on a store that represents the registers `c`,
    the script answers `1` and leaves a store that represents `HLL.update c idx val`. -/
theorem lua_updateList_abs (st : Store) (h : HLLHandle) (c : HLL) (idx val fuel : Nat)
    (hfuel : 20 ≤ fuel) (hidx' : idx ≤ 2 ^ 53) (hval : val ≤ 2 ^ 53)
    (habs : absHLL st h = some c) (hidx : idx < h.m) (hb : ∀ r ∈ c.regs, r ≤ 2 ^ 53) :
    ∃ s' c', HLL.update c idx val = .ok c' ∧
      run fuel hyperloglog_redis_updateList [h.key] [decimal idx, decimal val] st =
        (s', .reply (.int 1)) ∧
      absHLL s' h = some c' ∧ ∀ k, k ≠ h.key → s' k = st k := by
  obtain ⟨s', c', hu, hrun, habs', hframe⟩ := C08_hll_update h st c idx val habs hidx
  obtain ⟨l, hl, _, _, hnum⟩ := listAt_of_absHLL habs hb
  refine ⟨s', c', hu, ?_, habs', hframe⟩
  rw [lua_updateList_eq st h idx val fuel hfuel hidx' hval, hrun]
  · rfl
  · intro l' x hl' hx
    rw [hl] at hl'; injection hl' with hl'; injection hl' with hl'; subst hl'
    exact hnum x (List.mem_of_getElem? hx)

/-! ## `initList` (HyperLogLogRedis.initRegisters) -/

/-- the extracted `initList` is `hllInit`: same store, same outcome. -/
theorem lua_initList_eq (st : Store) (h : HLLHandle) (fuel : Nat) (hfuel : h.m / 2 + 16 ≤ fuel)
    (heven : h.m % 2 = 0) (hsafe : h.m / 2 ≤ 4800) :
    run fuel hyperloglog_redis_initList [h.key] [decimal h.m] st =
      ((hllInit h st).1, unitOutcome (hllInit h st).2 (initListError h.m)) := by
  obtain ⟨f, rfl⟩ := Nat.exists_eq_add_of_le' hfuel
  have hm : h.m ≤ numLimit := by
    have : numLimit = 2 ^ 53 := rfl
    omega
  exact initList_eq st h f hm heven hsafe

theorem lua_initList_abs (st : Store) (h : HLLHandle) (fuel : Nat) (hfuel : h.m / 2 + 16 ≤ fuel)
    (hfresh : st h.key = none) (hm : 0 < h.m) (heven : h.m % 2 = 0) (hsafe : h.m / 2 ≤ 4800) :
    ∃ s', run fuel hyperloglog_redis_initList [h.key] [decimal h.m] st = (s', .reply (.int 1)) ∧
      absHLL s' h = some (HLL.new h.m) ∧ ∀ k, k ≠ h.key → s' k = st k := by
  obtain ⟨s', hrun, habs, hframe⟩ := C08_hll_init h st hfresh hm heven
  refine ⟨s', ?_, habs, hframe⟩
  rw [lua_initList_eq st h fuel hfuel heven hsafe, hrun]
  rfl

/-- where the two sides differ: 10240 registers or more.  Under miniredis (gopher-lua's data stack
    of 5120 slots) `unpack` raises and nothing is written; the hand model (`hllInit`, written after
    real Redis' limit of 8000) pushes the zeros. -/
theorem lua_initList_overflow (st : Store) (h : HLLHandle) (fuel : Nat) (hfuel : h.m / 2 + 16 ≤ fuel)
    (heven : h.m % 2 = 0) (hbig : 5120 ≤ h.m / 2) (hmax : h.m / 2 < 67108864) :
    run fuel hyperloglog_redis_initList [h.key] [decimal h.m] st = (st, .error "registry overflow") := by
  obtain ⟨f, rfl⟩ := Nat.exists_eq_add_of_le' hfuel
  have hm : h.m ≤ numLimit := by
    have : numLimit = 2 ^ 53 := rfl
    omega
  exact initList_overflow st h f hm heven hbig hmax

/-! ## `mergeRegistersScript` (HyperLogLogRedis.mergeRegisters) -/

/-- the extracted `mergeRegistersScript` is `hllMergeScript`: same store; reply `1` when the model
    succeeds, an error when it fails. -/
theorem lua_mergeRegisters_eq (st : Store) (key1 key2 : String) (m fuel : Nat) (l1 l2 : List String)
    (hfuel : m + 18 ≤ fuel) (hm : m ≤ 2 ^ 53)
    (h1 : ListAt st key1 l1) (h2 : ListAt st key2 l2) (hlen : l1.length ≤ 4800)
    (hn1 : ∀ c ∈ l1.take m, Numeral c) (hn2 : ∀ c ∈ l2.take m, Numeral c) :
    run fuel hyperloglog_redis_mergeRegistersScript [key1, key2] [decimal m] st =
      ((hllMergeScript key1 key2 m st).1,
        unitOutcome (hllMergeScript key1 key2 m st).2 (mergeErrorMsg m l1 l2)) := by
  obtain ⟨f, rfl⟩ := Nat.exists_eq_add_of_le' hfuel
  exact merge_eq f st key1 key2 m l1 l2 hm h1 h2 hlen hn1 hn2

/-- `Merge`'s script call (`[]string{h.key, g.key}`, `h.numRegisters`) after the Go-side check
    `h.numRegisters == g.numRegisters`: it is `hllMerge h g`. -/
theorem lua_merge_eq (st : Store) (h g : HLLHandle) (fuel : Nat) (l1 l2 : List String)
    (hmm : h.m = g.m) (hfuel : h.m + 18 ≤ fuel) (hm : h.m ≤ 2 ^ 53)
    (h1 : ListAt st h.key l1) (h2 : ListAt st g.key l2) (hlen : l1.length ≤ 4800)
    (hn1 : ∀ c ∈ l1.take h.m, Numeral c) (hn2 : ∀ c ∈ l2.take h.m, Numeral c) :
    run fuel hyperloglog_redis_mergeRegistersScript [h.key, g.key] [decimal h.m] st =
      ((hllMerge h g st).1, unitOutcome (hllMerge h g st).2 (mergeErrorMsg h.m l1 l2)) := by
  have : hllMerge h g = hllMergeScript h.key g.key h.m := by
    unfold hllMerge; rw [if_neg (by simp [hmm])]
  rw [this]
  exact lua_mergeRegisters_eq st h.key g.key h.m fuel l1 l2 hfuel hm h1 h2 hlen hn1 hn2

/-- without the `ListAt` hypotheses, for `size > 0`: a key that is not a list makes both sides fail
    in the first iteration, nothing is written (the hand model: an error table has no entries;
    the interpreter: nil cannot be indexed).  So the two agree on every store when `size > 0`
    and the entries read are `Numeral`s. -/
theorem lua_mergeRegisters_wrongtype (st : Store) (key1 key2 : String) (m fuel : Nat)
    (hfuel : m + 18 ≤ fuel) (hm : m ≤ 2 ^ 53) (hpos : 0 < m)
    (hw : NotListAt st key1 ∨
      (∃ l1, ListAt st key1 l1 ∧ (∀ c ∈ l1.take 1, Numeral c) ∧ NotListAt st key2)) :
    run fuel hyperloglog_redis_mergeRegistersScript [key1, key2] [decimal m] st =
      ((hllMergeScript key1 key2 m st).1,
        unitOutcome (hllMergeScript key1 key2 m st).2 "attempt to index a non-table object(nil)") := by
  obtain ⟨f, rfl⟩ := Nat.exists_eq_add_of_le' hfuel
  obtain ⟨h1, h2⟩ := merge_wrongtype f st key1 key2 m hm hpos hw
  refine h1.trans ?_
  rw [h2]; rfl

/-- `C08_hll_merge` through the extracted script: on a store that represents the registers `a`
    (receiver) and `b`, the script answers `1` and leaves a store that represents the merge. -/
theorem lua_merge_abs (st : Store) (h g : HLLHandle) (a b : HLL) (fuel : Nat)
    (hmm : h.m = g.m) (hfuel : h.m + 18 ≤ fuel) (hpos : 0 < h.m) (hsafe : h.m ≤ 4800)
    (ha : absHLL st h = some a) (hb : absHLL st g = some b)
    (hba : ∀ r ∈ a.regs, r ≤ 2 ^ 53) (hbb : ∀ r ∈ b.regs, r ≤ 2 ^ 53) :
    ∃ s' c, HLL.merge a b = .ok c ∧
      run fuel hyperloglog_redis_mergeRegistersScript [h.key, g.key] [decimal h.m] st =
        (s', .reply (.int 1)) ∧
      absHLL s' h = some c ∧ ∀ k, k ≠ h.key → s' k = st k := by
  obtain ⟨l1, _, hl1, hlen1, hnum1⟩ := listAt_of_absHLL ha hba
  obtain ⟨l2, _, hl2, _, hnum2⟩ := listAt_of_absHLL hb hbb
  have hrun := lua_merge_eq st h g fuel l1 l2 hmm hfuel (by omega) hl1 hl2 (by omega)
    (fun c hc => hnum1 c (List.mem_of_mem_take hc)) (fun c hc => hnum2 c (List.mem_of_mem_take hc))
  have hC := C08_hll_merge h g st a b ha hb hpos
  cases hmerge : HLL.merge a b with
  | ok c =>
    rw [hmerge] at hC
    obtain ⟨s', hm', habs', _, hframe⟩ := hC
    refine ⟨s', c, rfl, ?_, habs', hframe⟩
    rw [hrun, hm']; rfl
  | err =>
    exfalso
    have hma : a.m = h.m := ((absHLL_eq_some_iff _ _ _).mp ha).1
    have hmb : b.m = g.m := ((absHLL_eq_some_iff _ _ _).mp hb).1
    unfold HLL.merge at hmerge
    rw [if_neg (by omega)] at hmerge
    cases hmerge
  | panic => rw [hmerge] at hC; exact hC.elim

/-- where the two sides differ: a receiver with 5120 registers or more.  The loop succeeds, `DEL`
    deletes the receiver's registers, then `unpack` raises (miniredis): the registers are LOST and
    an error is reported, while the hand model (`hllMergeScript`) writes the merged registers. -/
theorem lua_merge_overflow (st : Store) (key1 key2 : String) (m fuel : Nat) (l1 l2 vals : List String)
    (hfuel : m + 18 ≤ fuel) (hm : m ≤ 2 ^ 53)
    (h1 : ListAt st key1 l1) (h2 : ListAt st key2 l2)
    (hbig : 5120 ≤ l1.length) (hmax : l1.length + 1 < 67108864)
    (hn1 : ∀ c ∈ l1.take m, Numeral c) (hn2 : ∀ c ∈ l2.take m, Numeral c)
    (hv : hllMergeVals m l1 l2 st = (st, some vals)) :
    run fuel hyperloglog_redis_mergeRegistersScript [key1, key2] [decimal m] st =
      (st.del key1, .error "registry overflow") := by
  obtain ⟨f, rfl⟩ := Nat.exists_eq_add_of_le' hfuel
  exact merge_overflow f st key1 key2 m l1 l2 vals hm h1 h2 hbig hmax hn1 hn2 hv

/-! ## `equals` (HyperLogLogRedis.compareRegisters) -/

/-- the extracted `equals`, called as `compareRegisters` does after the Go-side check
    `h.numRegisters == g.numRegisters`, is `hllEquals h g`: store untouched, reply `1` for `true`
    and the nil reply for `false` (go-redis: `redis.Nil`, reported as "not equal"). -/
theorem lua_hllEquals_eq (st : Store) (h g : HLLHandle) (fuel : Nat) (l1 l2 : List String)
    (hmm : h.m = g.m) (hfuel : h.m + 18 ≤ fuel) (hm : h.m < 67108864)
    (h1 : ListAt st h.key l1) (h2 : ListAt st g.key l2)
    (hn1 : ∀ c ∈ l1.take h.m, Numeral c) (hn2 : ∀ c ∈ l2.take h.m, Numeral c) :
    run fuel hyperloglog_redis_equals [h.key, g.key] [decimal h.m] st =
      ((hllEquals h g st).1, boolOutcome (hllEquals h g st).2) := by
  obtain ⟨f, rfl⟩ := Nat.exists_eq_add_of_le' hfuel
  have hm' : h.m ≤ numLimit := by
    have : numLimit = 2 ^ 53 := rfl
    omega
  rw [hllEquals_of_listAt h g st l1 l2 hmm h1 h2]
  exact equals_eq f st h.key g.key h.m l1 l2 hm' hm h1 h2 hn1 hn2

theorem lua_hllEquals_abs (st : Store) (h g : HLLHandle) (a b : HLL) (fuel : Nat)
    (hmm : h.m = g.m) (hfuel : h.m + 18 ≤ fuel) (hm : h.m < 67108864)
    (ha : absHLL st h = some a) (hb : absHLL st g = some b)
    (hba : ∀ r ∈ a.regs, r ≤ 2 ^ 53) (hbb : ∀ r ∈ b.regs, r ≤ 2 ^ 53) :
    run fuel hyperloglog_redis_equals [h.key, g.key] [decimal h.m] st =
      (st, boolOutcome (some (HLL.equals a b))) := by
  obtain ⟨l1, _, hl1, _, hnum1⟩ := listAt_of_absHLL ha hba
  obtain ⟨l2, _, hl2, _, hnum2⟩ := listAt_of_absHLL hb hbb
  rw [lua_hllEquals_eq st h g fuel l1 l2 hmm hfuel hm hl1 hl2
    (fun c hc => hnum1 c (List.mem_of_mem_take hc)) (fun c hc => hnum2 c (List.mem_of_mem_take hc)),
    C08_hll_equals h g st a b ha hb]

/-! ## `importRegistersScript` (HyperLogLogRedis.importRegisters) -/

/-- the extracted `importRegistersScript`, on the registers as `Import` passes them, is
    `RPUSH key r₁ … rₙ`: same store, same outcome (no register: "wrong number of arguments"). -/
theorem lua_importRegisters_eq (st : Store) (key : String) (regs : List Nat) (fuel : Nat)
    (hfuel : regs.length + 18 ≤ fuel) (hn : regs.length ≤ 4800) (hr : ∀ r ∈ regs, r ≤ 2 ^ 53) :
    run fuel hyperloglog_redis_importRegistersScript [key] (regs.map decimal) st =
      ((cmdRPUSH key (regs.map decimal) st).1,
        unitOutcome (cmdRPUSH key (regs.map decimal) st).2 (importError regs)) := by
  obtain ⟨f, rfl⟩ := Nat.exists_eq_add_of_le' hfuel
  exact import_eq st key regs f hn hr

/-- 5120 registers or more: `unpack` raises (miniredis), nothing is written. -/
theorem lua_importRegisters_overflow (st : Store) (key : String) (regs : List Nat) (fuel : Nat)
    (hfuel : regs.length + 18 ≤ fuel) (hbig : 5120 ≤ regs.length) (hmax : regs.length < 67108864)
    (hr : ∀ r ∈ regs, r ≤ 2 ^ 53) :
    run fuel hyperloglog_redis_importRegistersScript [key] (regs.map decimal) st =
      (st, .error "registry overflow") := by
  obtain ⟨f, rfl⟩ := Nat.exists_eq_add_of_le' hfuel
  exact import_overflow st key regs f hbig hmax hr

/-- the Redis list at `key` spells the numbers the Json-level store (Model/Json.lean) holds at
    `k` (an absent key on both sides; Redis has no empty lists). -/
def NumsRepr (js : Json.Store) (k : Json.Key) (st : Store) (key : String) : Prop :=
  match js k with
  | .absent => st key = none
  | .nums l => l ≠ [] ∧ st key = some (.list (l.map decimal))
  | _ => False

/-- the extracted script simulates the hand model `Json.HLLRedis.importRegisters limit` (whose
    `limit` is the `unpack` limit) for every `limit` the register count respects: same success,
    and the resulting stores still correspond. -/
theorem lua_importRegisters_json (js : Json.Store) (id : Nat) (st : Store) (key : String)
    (regs : List Nat) (limit fuel : Nat) (hfuel : regs.length + 18 ≤ fuel)
    (hn : regs.length ≤ 4800) (hlim : regs.length ≤ limit) (hr : ∀ r ∈ regs, r ≤ 2 ^ 53)
    (hrepr : NumsRepr js (.rand id) st key) :
    ∃ st', run fuel hyperloglog_redis_importRegistersScript [key] (regs.map decimal) st =
        (st', if (Json.HLLRedis.importRegisters limit js id regs).2 then .reply (.int 1)
              else .error (importError regs)) ∧
      NumsRepr (Json.HLLRedis.importRegisters limit js id regs).1 (.rand id) st' key := by
  rw [lua_importRegisters_eq st key regs fuel hfuel hn hr]
  unfold Json.HLLRedis.importRegisters
  cases regs with
  | nil =>
    refine ⟨st, ?_, by simpa using hrepr⟩
    simp [cmdRPUSH, unitOutcome]
  | cons r rs =>
    have hne : ¬ (r :: rs = [] ∨ limit < (r :: rs).length) := by
      intro h; rcases h with h | h
      · cases h
      · omega
    rw [if_neg hne]
    unfold NumsRepr at hrepr
    cases hj : js (.rand id) with
    | absent =>
      rw [hj] at hrepr
      simp only at hrepr
      refine ⟨st.set key (.list ((r :: rs).map decimal)), ?_, ?_⟩
      · rw [cmdRPUSH_none hrepr (by simp)]; rfl
      · simp [NumsRepr, Json.Store.rpushNums, Json.Store.set, Json.Store.getNums, hj, Json.Val.toNums,
          Store.set]
    | nums l =>
      rw [hj] at hrepr
      simp only at hrepr
      refine ⟨st.set key (.list (l.map decimal ++ (r :: rs).map decimal)), ?_, ?_⟩
      · unfold cmdRPUSH; rw [hrepr.2]; simp [unitOutcome]
      · simp [NumsRepr, Json.Store.rpushNums, Json.Store.set, Json.Store.getNums, hj, Json.Val.toNums,
          Store.set]
    | str _ => rw [hj] at hrepr; exact hrepr.elim
    | int _ => rw [hj] at hrepr; exact hrepr.elim
    | strs _ => rw [hj] at hrepr; exact hrepr.elim
    | keys _ => rw [hj] at hrepr; exact hrepr.elim
    | hash _ => rw [hj] at hrepr; exact hrepr.elim

/-- … and when the register count is beyond both limits (5120 ≤ n, `limit < n`) both fail
    without writing. -/
theorem lua_importRegisters_json_overflow (js : Json.Store) (id : Nat) (st : Store) (key : String)
    (regs : List Nat) (limit fuel : Nat) (hfuel : regs.length + 18 ≤ fuel)
    (hbig : 5120 ≤ regs.length) (hmax : regs.length < 67108864) (hlim : limit < regs.length)
    (hr : ∀ r ∈ regs, r ≤ 2 ^ 53) :
    run fuel hyperloglog_redis_importRegistersScript [key] (regs.map decimal) st =
        (st, .error "registry overflow") ∧
      Json.HLLRedis.importRegisters limit js id regs = (js, false) := by
  refine ⟨lua_importRegisters_overflow st key regs fuel hfuel hbig hmax hr, ?_⟩
  unfold Json.HLLRedis.importRegisters
  rw [if_pos (Or.inr hlim)]

/-! ## `importHeapScript` (TopKRedis.importHeap) -/

/-- the extracted `importHeapScript`, on `ARGV = element, count, element, count, …` as `importHeap`
    builds it, is the sequence of `ZADD`s (`zaddAll`, built from `cmdZADD`): same store, same
    outcome (a key of the wrong type: WRONGTYPE from the first `ZADD`). -/
theorem lua_importHeap_eq (st : Store) (key : String) (ps : List (String × Nat)) (fuel : Nat)
    (hfuel : ps.length + 15 ≤ fuel) (hlen : 2 * ps.length < 67108864)
    (hsc : ∀ p ∈ ps, p.2 ≤ 2 ^ 53) :
    run fuel top_k_redis_importHeapScript [key] (heapArgs ps) st =
      ((zaddAll key ps st).1, unitOutcome (zaddAll key ps st).2 msgWrongType) := by
  obtain ⟨f, rfl⟩ := Nat.exists_eq_add_of_le' hfuel
  exact importHeap_eq st key ps f hlen hsc

/-- on a key that holds the sorted set `z` (or nothing, `z = []`) the script answers `1` and the
    key then holds `Json.importHeap` of the hand model of `Import` (Model/Json.lean), with the
    bytewise order on member names; other keys are untouched. -/
theorem lua_importHeap_json (st : Store) (key : String) (z : List HElem) (ps : List (String × Nat))
    (fuel : Nat) (hfuel : ps.length + 15 ≤ fuel) (hlen : 2 * ps.length < 67108864)
    (hsc : ∀ p ∈ ps, p.2 ≤ 2 ^ 53) (hz : zsetAt st key = some z) :
    ∃ st', run fuel top_k_redis_importHeapScript [key] (heapArgs ps) st = (st', .reply (.int 1)) ∧
      zsetAt st' key = some (Json.importHeap (fun a b : String => decide (a < b)) z ps) ∧
      ∀ k, k ≠ key → st' k = st k := by
  obtain ⟨st', h1, h2, h3⟩ := zaddAll_zset key ps st z hz
  refine ⟨st', ?_, ?_, h3⟩
  · rw [lua_importHeap_eq st key ps fuel hfuel hlen hsc, h1]; rfl
  · rw [h2, json_importHeap_eq]

/-! ## `equals` (TopKRedis.compareHeaps) -/

theorem withScores_inj : ∀ (z1 z2 : List HElem), withScores z1 = withScores z2 → z1 = z2 := by
  intro z1
  induction z1 with
  | nil =>
    intro z2 h
    cases z2 with
    | nil => rfl
    | cons e z2 => simp [withScores] at h
  | cons e z1 ih =>
    intro z2 h
    cases z2 with
    | nil => simp [withScores] at h
    | cons e2 z2 =>
      simp only [withScores, List.foldr_cons, List.cons.injEq] at h
      obtain ⟨h1, h2, h3⟩ := h
      have := ih z2 h3
      subst this
      obtain ⟨a, b⟩ := e
      obtain ⟨a2, b2⟩ := e2
      simp only at h1 h2
      rw [h1, decimal_inj h2]

/-- the extracted `equals` of top_k_redis.go, called as `compareHeaps` does, is
    `Equals.compareHeaps` (Model/Equals.lean) of the sorted sets at the two keys: store untouched,
    reply `1` for `true`, nil for `false`. -/
theorem lua_topkEquals_eq (st : Store) (key1 key2 : String) (k fuel : Nat) (z1 z2 : List HElem)
    (hfuel : 2 * z1.length + 17 ≤ fuel) (hlen : 2 * z1.length < 67108864)
    (h1 : zsetAt st key1 = some z1) (h2 : zsetAt st key2 = some z2) :
    run fuel top_k_redis_equals [key1, key2] [decimal k] st =
      (st, boolOutcome (Equals.compareHeaps z1 z2)) := by
  obtain ⟨f, rfl⟩ := Nat.exists_eq_add_of_le' hfuel
  refine (topkEquals_eq f st key1 key2 k z1 z2 h1 h2 hlen).trans ?_
  rw [Equals.compareHeaps_eq_decide]
  congr 3
  by_cases h : z1 = z2
  · simp [h]
  · have : withScores z1 ≠ withScores z2 := fun e => h (withScores_inj z1 z2 e)
    simp [h, this]

/-! ## where the hypotheses are needed, and non-vacuity: concrete runs -/

section examples

def outcomeTag : Outcome → Nat × String
  | .reply (.int n) => (0, renderInt n)
  | .reply .nil => (1, "")
  | .reply _ => (2, "")
  | .error msg => (3, msg)
  | .unsupported w => (4, w)
  | .outOfFuel => (5, "")

def numeralB (c : String) : Bool :=
  match parseDecimal c with
  | some n => decide (n ≤ 2 ^ 53)
  | none => false

theorem Numeral_of_check {c : String} (h : numeralB c = true) : Numeral c := by
  unfold numeralB at h
  cases hp : parseDecimal c with
  | none => rw [hp] at h; cases h
  | some n => rw [hp] at h; exact ⟨n, hp, by simpa [numLimit] using h⟩

theorem numerals_of_check {l : List String} (h : l.all numeralB = true) : ∀ c ∈ l, Numeral c :=
  fun c hc => Numeral_of_check (List.all_eq_true.mp h c hc)

def exH : HLLHandle := { m := 4, key := "bbbbbbbbbbbbbbbb", metadataKey := "bbbbbbbbbbbbbbbc" }
def exG : HLLHandle := { m := 4, key := "cccccccccccccccc", metadataKey := "cccccccccccccccd" }

/-- two sketches as the library's own constructors and updates leave them (hand models). -/
def exS₀ : Store := (hllInit exG (hllInit exH Store.empty).1).1
def exS₁ : Store := (hllUpdate exG 0 9 (hllUpdate exH 1 3 (hllUpdate exH 2 7 exS₀).1).1).1

def exD : Store := Store.empty.set exH.key (.list ["0", "0x10", "7", "0"])

def exW : Store := Store.empty.set exH.key (.hash [("a", "b")])

def exD' : Store := (Store.empty.set exH.key (.list ["0x10"])).set exG.key (.list ["16"])

def exPairs : List (String × Nat) := [("x", 3), ("y", 1), ("x", 2)]

def exZ : Store :=
  (Store.empty.set "h1" (.zset [("y", 1), ("x", 2)])).set "h2" (.zset [("y", 1), ("x", 3)])

/-- the runs on `exS₁`, decided together: the kernel then evaluates the chain of stores once, not once per run. -/
theorem exS₁_runs :
    exS₁ exH.key = some (.list ["0", "3", "7", "0"]) ∧
    exS₁ exG.key = some (.list ["9", "0", "0", "0"]) ∧
    outcomeTag (run 20 hyperloglog_redis_updateList [exH.key] [decimal 1, decimal 5] exS₁).2 = (0, "1") ∧
    (run 20 hyperloglog_redis_updateList [exH.key] [decimal 1, decimal 5] exS₁).1 exH.key =
      some (.list ["0", "5", "7", "0"]) ∧
    (run 20 hyperloglog_redis_updateList [exH.key] [decimal 2, decimal 5] exS₁).1 exH.key =
      some (.list ["0", "3", "7", "0"]) ∧
    outcomeTag (run 20 hyperloglog_redis_updateList [exH.key] [decimal 4, decimal 1] exS₁).2 =
      (3, "attempt to compare number with nil") ∧
    (hllUpdate exH 4 1 exS₁).2 = none ∧
    outcomeTag (run 20 hyperloglog_redis_updateList [exH.key] [decimal (2 ^ 53 + 1), decimal 5] exS₁).2 =
      (4, "tonumber of a numeral beyond 2^53") ∧
    outcomeTag (run 30 hyperloglog_redis_mergeRegistersScript [exH.key, exG.key] [decimal 4] exS₁).2 = (0, "1") ∧
    (run 30 hyperloglog_redis_mergeRegistersScript [exH.key, exG.key] [decimal 4] exS₁).1 exH.key =
      some (.list ["9", "3", "7", "0"]) ∧
    outcomeTag (run 30 hyperloglog_redis_mergeRegistersScript [exH.key, "nokey"] [decimal 4] exS₁).2 =
      (3, "attempt to compare number with nil") ∧
    (hllMergeScript exH.key "nokey" 4 exS₁).2 = none ∧
    outcomeTag (run 30 hyperloglog_redis_equals [exH.key, exG.key] [decimal 4] exS₁).2 = (1, "") ∧
    outcomeTag (run 30 hyperloglog_redis_equals [exH.key, exH.key] [decimal 4] exS₁).2 = (0, "1") ∧
    (hllEquals exH exG exS₁).2 = some false ∧
    (run 30 hyperloglog_redis_importRegistersScript [exH.key] ([1].map decimal) exS₁).1 exH.key =
      some (.list ["0", "3", "7", "0", "1"]) ∧
    outcomeTag (run 50 hyperloglog_redis_harmonicMeanScript [exH.key] [decimal 4] exS₁).2 =
      (4, "number literal 0.0") := by decide +kernel

/-- the same for the damaged stores `exD`, `exW`, `exD'`. -/
theorem exDamaged_runs :
    (outcomeTag (run 20 hyperloglog_redis_updateList [exH.key] [decimal 1, decimal 5] exD).2 = (0, "1") ∧
      (hllUpdate exH 1 5 exD).2 = none) ∧
    (outcomeTag (run 30 hyperloglog_redis_mergeRegistersScript [exH.key, exG.key] [decimal 0] exW).2 =
        (3, "bad argument #1 to unpack (table expected)") ∧
      (hllMergeScript exH.key exG.key 0 exW).2 = some ()) ∧
    outcomeTag (run 30 hyperloglog_redis_mergeRegistersScript [exH.key, exG.key] [decimal 4] exW).2 =
      (3, "attempt to index a non-table object(nil)") ∧
    (outcomeTag (run 30 hyperloglog_redis_mergeRegistersScript [exH.key, exG.key] [decimal 4] exD).2 = (3, "attempt to compare number with nil") ∧
      outcomeTag (run 30 hyperloglog_redis_mergeRegistersScript [exH.key, exH.key] [decimal 4] exD).2 = (0, "1") ∧
      (hllMergeScript exH.key exH.key 4 exD).2 = none) ∧
    (outcomeTag (run 30 hyperloglog_redis_equals [exH.key, "nokey"] [decimal 4] exW).2 =
        (3, "attempt to index a non-table object(nil)") ∧
      (hllEquals exH { exG with key := "nokey" } exW).2 = some true) ∧
    (outcomeTag (run 30 hyperloglog_redis_equals [exH.key, exG.key] [decimal 1] exD').2 = (0, "1") ∧
      (hllEquals { exH with m := 1 } { exG with m := 1 } exD').2 = some false) ∧
    outcomeTag (run 30 top_k_redis_importHeapScript [exH.key] (heapArgs exPairs) exW).2 =
      (3, msgWrongType) ∧
    (zaddAll exH.key exPairs exW).2 = none ∧
    outcomeTag (run 30 top_k_redis_equals [exH.key, "h2"] [decimal 2] exW).2 =
      (3, "attempt to get length of a nil value") := by decide +kernel

/-- the same for the Top-K store `exZ`. -/
theorem exZ_runs :
    outcomeTag (run 30 top_k_redis_equals ["h1", "h2"] [decimal 2] exZ).2 = (1, "") ∧
    outcomeTag (run 30 top_k_redis_equals ["h1", "h1"] [decimal 2] exZ).2 = (0, "1") ∧
    outcomeTag (run 30 top_k_redis_equals ["h1", "nokey"] [decimal 2] exZ).2 = (1, "") := by decide +kernel

/-- the same for the runs on the empty database. -/
theorem exEmpty_runs :
    outcomeTag (run 30 hyperloglog_redis_initList [exH.key] [decimal 4] Store.empty).2 = (0, "1") ∧
    (run 30 hyperloglog_redis_initList [exH.key] [decimal 4] Store.empty).1 exH.key =
      some (.list ["0", "0", "0", "0"]) ∧
    outcomeTag (run 30 hyperloglog_redis_initList ["k"] [decimal 0] Store.empty).2 =
      (3, "ERR wrong number of arguments for 'lpush' command") ∧
    (hllInit { m := 0, key := "k", metadataKey := "mk" } Store.empty).2 = none ∧
    (outcomeTag (run 30 hyperloglog_redis_initList ["k"] [decimal 3] Store.empty).2 =
        (4, "division with a remainder (float result)") ∧
      (hllInit { m := 3, key := "k", metadataKey := "mk" } Store.empty).2 = some ()) ∧
    outcomeTag (run 30 hyperloglog_redis_importRegistersScript ["k"] ([3, 0, 7].map decimal) Store.empty).2 =
      (0, "1") ∧
    (run 30 hyperloglog_redis_importRegistersScript ["k"] ([3, 0, 7].map decimal) Store.empty).1 "k" =
      some (.list ["3", "0", "7"]) ∧
    outcomeTag (run 30 hyperloglog_redis_importRegistersScript ["k"] [] Store.empty).2 =
      (3, "ERR wrong number of arguments for 'rpush' command") ∧
    heapArgs exPairs = ["x", "3", "y", "1", "x", "2"] ∧
    outcomeTag (run 30 top_k_redis_importHeapScript ["hk"] (heapArgs exPairs) Store.empty).2 = (0, "1") ∧
    (run 30 top_k_redis_importHeapScript ["hk"] (heapArgs exPairs) Store.empty).1 "hk" =
      some (.zset [("y", 1), ("x", 2)]) := by decide +kernel

example : exS₁ exH.key = some (.list ["0", "3", "7", "0"]) := exS₁_runs.1
example : exS₁ exG.key = some (.list ["9", "0", "0", "0"]) := exS₁_runs.2.1

example : run 30 hyperloglog_redis_initList [exH.key] [decimal 4] Store.empty =
    ((hllInit exH Store.empty).1, unitOutcome (hllInit exH Store.empty).2 (initListError 4)) :=
  lua_initList_eq Store.empty exH 30 (by decide +kernel) (by decide +kernel) (by decide +kernel)
example : outcomeTag (run 30 hyperloglog_redis_initList [exH.key] [decimal 4] Store.empty).2 = (0, "1") := exEmpty_runs.1
example : (run 30 hyperloglog_redis_initList [exH.key] [decimal 4] Store.empty).1 exH.key =
    some (.list ["0", "0", "0", "0"]) := exEmpty_runs.2.1
example : ∃ s', run 30 hyperloglog_redis_initList [exH.key] [decimal 4] Store.empty = (s', .reply (.int 1)) ∧
    absHLL s' exH = some (HLL.new 4) ∧ ∀ k, k ≠ exH.key → s' k = Store.empty k :=
  lua_initList_abs Store.empty exH 30 (by decide) rfl (by decide) (by decide) (by decide)
/-- the failure cases are covered too: `m = 0` pushes nothing. -/
example : outcomeTag (run 30 hyperloglog_redis_initList ["k"] [decimal 0] Store.empty).2 =
    (3, "ERR wrong number of arguments for 'lpush' command") := exEmpty_runs.2.2.1
example : (hllInit { m := 0, key := "k", metadataKey := "mk" } Store.empty).2 = none := exEmpty_runs.2.2.2.1

/-- `heven` is needed: for an odd `m` the bound `m/2` is a float, outside the interpreter's
    numbers (`unsupported`), while the hand model pushes `⌊m/2⌋` zeros twice (as real Lua does). -/
theorem lua_initList_odd :
    outcomeTag (run 30 hyperloglog_redis_initList ["k"] [decimal 3] Store.empty).2 =
      (4, "division with a remainder (float result)") ∧
    (hllInit { m := 3, key := "k", metadataKey := "mk" } Store.empty).2 = some () := exEmpty_runs.2.2.2.2.1

/-- `hsafe` is needed: `lua_initList_overflow` at 10240 registers, on the empty database, where the
    hand model succeeds. -/
example : run 6000 hyperloglog_redis_initList ["k"] [decimal 10240] Store.empty =
    (Store.empty, .error "registry overflow") :=
  lua_initList_overflow Store.empty { m := 10240, key := "k", metadataKey := "mk" } 6000
    (by decide +kernel) (by decide +kernel) (by decide +kernel) (by decide +kernel)
example : ∃ s', hllInit { m := 10240, key := "k", metadataKey := "mk" } Store.empty = (s', some ()) := by
  obtain ⟨s', h, _⟩ := C08_hll_init { m := 10240, key := "k", metadataKey := "mk" } Store.empty rfl
    (by decide) (by decide)
  exact ⟨s', h⟩

example : run 20 hyperloglog_redis_updateList [exH.key] [decimal 1, decimal 5] exS₁ =
    ((hllUpdate exH 1 5 exS₁).1, unitOutcome (hllUpdate exH 1 5 exS₁).2 (updateListError exS₁ exH.key)) :=
  lua_updateList_eq exS₁ exH 1 5 20 (by decide +kernel) (by decide +kernel) (by decide +kernel) (by
    intro l c hl hc
    have : exS₁ exH.key = some (.list ["0", "3", "7", "0"]) := exS₁_runs.1
    rw [this] at hl; injection hl with hl; injection hl with hl; subst hl
    exact numerals_of_check (l := ["0", "3", "7", "0"]) (by decide +kernel) c (List.mem_of_getElem? hc))
example : outcomeTag (run 20 hyperloglog_redis_updateList [exH.key] [decimal 1, decimal 5] exS₁).2 = (0, "1") := exS₁_runs.2.2.1
example : (run 20 hyperloglog_redis_updateList [exH.key] [decimal 1, decimal 5] exS₁).1 exH.key =
    some (.list ["0", "5", "7", "0"]) := exS₁_runs.2.2.2.1
example : ∃ s' c', HLL.update ⟨4, [0, 3, 7, 0]⟩ 1 5 = .ok c' ∧
    run 20 hyperloglog_redis_updateList [exH.key] [decimal 1, decimal 5] exS₁ = (s', .reply (.int 1)) ∧
    absHLL s' exH = some c' ∧ ∀ k, k ≠ exH.key → s' k = exS₁ k :=
  lua_updateList_abs exS₁ exH ⟨4, [0, 3, 7, 0]⟩ 1 5 20 (by decide) (by decide) (by decide) (by decide)
    (by decide) (by decide)
/-- a smaller value leaves the register. -/
example : (run 20 hyperloglog_redis_updateList [exH.key] [decimal 2, decimal 5] exS₁).1 exH.key =
    some (.list ["0", "3", "7", "0"]) := exS₁_runs.2.2.2.2.1
/-- index out of range: both sides fail, nothing written (`updateListError`). -/
example : outcomeTag (run 20 hyperloglog_redis_updateList [exH.key] [decimal 4, decimal 1] exS₁).2 =
    (3, "attempt to compare number with nil") := exS₁_runs.2.2.2.2.2.1
example : (hllUpdate exH 4 1 exS₁).2 = none := exS₁_runs.2.2.2.2.2.2.1

/-- `hreg` is needed: on the register `"0x10"` gopher-lua's `tonumber` answers 16 (the script
    goes on and answers `1`), the hand model's `parseDecimal` answers nil (the script fails). -/
theorem lua_updateList_differs :
    outcomeTag (run 20 hyperloglog_redis_updateList [exH.key] [decimal 1, decimal 5] exD).2 = (0, "1") ∧
    (hllUpdate exH 1 5 exD).2 = none := exDamaged_runs.1

/-- `hidx` is needed (in this form: an interpreter limit, numbers beyond 2^53 are not modelled). -/
theorem lua_updateList_big :
    outcomeTag (run 20 hyperloglog_redis_updateList [exH.key] [decimal (2 ^ 53 + 1), decimal 5] exS₁).2 =
      (4, "tonumber of a numeral beyond 2^53") := exS₁_runs.2.2.2.2.2.2.2.1

example : run 30 hyperloglog_redis_mergeRegistersScript [exH.key, exG.key] [decimal 4] exS₁ =
    ((hllMerge exH exG exS₁).1, unitOutcome (hllMerge exH exG exS₁).2
      (mergeErrorMsg 4 ["0", "3", "7", "0"] ["9", "0", "0", "0"])) :=
  lua_merge_eq exS₁ exH exG 30 ["0", "3", "7", "0"] ["9", "0", "0", "0"] rfl (by decide +kernel) (by decide +kernel)
    (cmdLRANGE_list exS₁_runs.1) (cmdLRANGE_list exS₁_runs.2.1) (by decide +kernel)
    (numerals_of_check (by decide +kernel)) (numerals_of_check (by decide +kernel))
example : outcomeTag (run 30 hyperloglog_redis_mergeRegistersScript [exH.key, exG.key] [decimal 4] exS₁).2 =
    (0, "1") := exS₁_runs.2.2.2.2.2.2.2.2.1
example : (run 30 hyperloglog_redis_mergeRegistersScript [exH.key, exG.key] [decimal 4] exS₁).1 exH.key =
    some (.list ["9", "3", "7", "0"]) := exS₁_runs.2.2.2.2.2.2.2.2.2.1
/-- a failure case that is covered: the argument has fewer registers than `size`. -/
example : outcomeTag (run 30 hyperloglog_redis_mergeRegistersScript [exH.key, "nokey"] [decimal 4] exS₁).2 =
    (3, "attempt to compare number with nil") := exS₁_runs.2.2.2.2.2.2.2.2.2.2.1
example : (hllMergeScript exH.key "nokey" 4 exS₁).2 = none := exS₁_runs.2.2.2.2.2.2.2.2.2.2.2.1

/-- the `ListAt` hypotheses are needed: a receiver key of the wrong type and `size = 0`.  The hand
    model follows real Redis (the failed `pcall` gives an error table that `unpack` takes as an empty
    table: `DEL`, failed `RPUSH`, `return true`); the interpreter follows miniredis (`pcall` gives
    nil: `DEL`, then `unpack(nil)` raises). -/
theorem lua_merge_differs_wrongtype :
    outcomeTag (run 30 hyperloglog_redis_mergeRegistersScript [exH.key, exG.key] [decimal 0] exW).2 =
      (3, "bad argument #1 to unpack (table expected)") ∧
    (hllMergeScript exH.key exG.key 0 exW).2 = some () := exDamaged_runs.2.1

/-- … while for `size > 0` the two sides agree on it (`lua_mergeRegisters_wrongtype`). -/
example : run 30 hyperloglog_redis_mergeRegistersScript [exH.key, exG.key] [decimal 4] exW =
    ((hllMergeScript exH.key exG.key 4 exW).1,
      unitOutcome (hllMergeScript exH.key exG.key 4 exW).2 "attempt to index a non-table object(nil)") :=
  lua_mergeRegisters_wrongtype exW exH.key exG.key 4 30 (by decide) (by decide) (by decide) (Or.inl rfl)
example : outcomeTag (run 30 hyperloglog_redis_mergeRegistersScript [exH.key, exG.key] [decimal 4] exW).2 =
    (3, "attempt to index a non-table object(nil)") := exDamaged_runs.2.2.1

/-- the `Numeral` hypotheses are needed (as for `updateList`). -/
theorem lua_merge_differs_numeral :
    outcomeTag (run 30 hyperloglog_redis_mergeRegistersScript [exH.key, exG.key] [decimal 4] exD).2 = (3, "attempt to compare number with nil") ∧
    outcomeTag (run 30 hyperloglog_redis_mergeRegistersScript [exH.key, exH.key] [decimal 4] exD).2 = (0, "1") ∧
    (hllMergeScript exH.key exH.key 4 exD).2 = none := exDamaged_runs.2.2.2.1

example : ∃ s' c, HLL.merge ⟨4, [0, 3, 7, 0]⟩ ⟨4, [9, 0, 0, 0]⟩ = .ok c ∧
    run 30 hyperloglog_redis_mergeRegistersScript [exH.key, exG.key] [decimal 4] exS₁ = (s', .reply (.int 1)) ∧
    absHLL s' exH = some c ∧ ∀ k, k ≠ exH.key → s' k = exS₁ k :=
  lua_merge_abs exS₁ exH exG ⟨4, [0, 3, 7, 0]⟩ ⟨4, [9, 0, 0, 0]⟩ 30 rfl (by decide) (by decide) (by decide)
    (by decide) (by decide) (by decide) (by decide)

example : run 30 hyperloglog_redis_equals [exH.key, exG.key] [decimal 4] exS₁ =
    ((hllEquals exH exG exS₁).1, boolOutcome (hllEquals exH exG exS₁).2) :=
  lua_hllEquals_eq exS₁ exH exG 30 ["0", "3", "7", "0"] ["9", "0", "0", "0"] rfl (by decide +kernel) (by decide +kernel)
    (cmdLRANGE_list exS₁_runs.1) (cmdLRANGE_list exS₁_runs.2.1)
    (numerals_of_check (by decide +kernel)) (numerals_of_check (by decide +kernel))
example : outcomeTag (run 30 hyperloglog_redis_equals [exH.key, exG.key] [decimal 4] exS₁).2 = (1, "") := exS₁_runs.2.2.2.2.2.2.2.2.2.2.2.2.1
example : outcomeTag (run 30 hyperloglog_redis_equals [exH.key, exH.key] [decimal 4] exS₁).2 = (0, "1") := exS₁_runs.2.2.2.2.2.2.2.2.2.2.2.2.2.1
example : (hllEquals exH exG exS₁).2 = some false := exS₁_runs.2.2.2.2.2.2.2.2.2.2.2.2.2.2.1

/-- the `ListAt` hypotheses are needed: the hand model reads a key of the wrong type as an empty
    table (real Redis), the interpreter as nil (miniredis), and indexing nil raises. -/
theorem lua_hllEquals_differs_wrongtype :
    outcomeTag (run 30 hyperloglog_redis_equals [exH.key, "nokey"] [decimal 4] exW).2 =
      (3, "attempt to index a non-table object(nil)") ∧
    (hllEquals exH { exG with key := "nokey" } exW).2 = some true := exDamaged_runs.2.2.2.2.1

/-- the `Numeral` hypotheses are needed: `"0x10"` and `"16"` are the same number for gopher-lua's
    `tonumber`, while the hand model reads the first as nil. -/
theorem lua_hllEquals_differs_numeral :
    outcomeTag (run 30 hyperloglog_redis_equals [exH.key, exG.key] [decimal 1] exD').2 = (0, "1") ∧
    (hllEquals { exH with m := 1 } { exG with m := 1 } exD').2 = some false := exDamaged_runs.2.2.2.2.2.1

example : run 30 hyperloglog_redis_equals [exH.key, exG.key] [decimal 4] exS₁ =
    (exS₁, boolOutcome (some (HLL.equals ⟨4, [0, 3, 7, 0]⟩ ⟨4, [9, 0, 0, 0]⟩))) :=
  lua_hllEquals_abs exS₁ exH exG ⟨4, [0, 3, 7, 0]⟩ ⟨4, [9, 0, 0, 0]⟩ 30 rfl (by decide) (by decide)
    (by decide) (by decide) (by decide) (by decide)

example : run 30 hyperloglog_redis_importRegistersScript ["k"] ([3, 0, 7].map decimal) Store.empty =
    ((cmdRPUSH "k" ([3, 0, 7].map decimal) Store.empty).1,
      unitOutcome (cmdRPUSH "k" ([3, 0, 7].map decimal) Store.empty).2 (importError [3, 0, 7])) :=
  lua_importRegisters_eq Store.empty "k" [3, 0, 7] 30 (by decide +kernel) (by decide +kernel) (by decide +kernel)
example : outcomeTag (run 30 hyperloglog_redis_importRegistersScript ["k"] ([3, 0, 7].map decimal) Store.empty).2 =
    (0, "1") := exEmpty_runs.2.2.2.2.2.1
example : (run 30 hyperloglog_redis_importRegistersScript ["k"] ([3, 0, 7].map decimal) Store.empty).1 "k" =
    some (.list ["3", "0", "7"]) := exEmpty_runs.2.2.2.2.2.2.1
/-- `Import` appends to what the key holds (no `DEL`). -/
example : (run 30 hyperloglog_redis_importRegistersScript [exH.key] ([1].map decimal) exS₁).1 exH.key =
    some (.list ["0", "3", "7", "0", "1"]) := exS₁_runs.2.2.2.2.2.2.2.2.2.2.2.2.2.2.2.1
example : ∃ st', run 30 hyperloglog_redis_importRegistersScript ["k"] ([3, 0, 7].map decimal) Store.empty =
      (st', if (Json.HLLRedis.importRegisters 8000 (fun _ => .absent) 5 [3, 0, 7]).2 then .reply (.int 1)
            else .error (importError [3, 0, 7])) ∧
    NumsRepr (Json.HLLRedis.importRegisters 8000 (fun _ => .absent) 5 [3, 0, 7]).1 (.rand 5) st' "k" :=
  lua_importRegisters_json (fun _ => .absent) 5 Store.empty "k" [3, 0, 7] 8000 30 (by decide) (by decide)
    (by decide) (by decide) rfl
/-- no register: the error of `RPUSH` without values. -/
example : outcomeTag (run 30 hyperloglog_redis_importRegistersScript ["k"] [] Store.empty).2 =
    (3, "ERR wrong number of arguments for 'rpush' command") := exEmpty_runs.2.2.2.2.2.2.2.1

example : run 30 top_k_redis_importHeapScript ["hk"] (heapArgs exPairs) Store.empty =
    ((zaddAll "hk" exPairs Store.empty).1, unitOutcome (zaddAll "hk" exPairs Store.empty).2 msgWrongType) :=
  lua_importHeap_eq Store.empty "hk" exPairs 30 (by decide +kernel) (by decide +kernel) (by decide +kernel)
example : heapArgs exPairs = ["x", "3", "y", "1", "x", "2"] := exEmpty_runs.2.2.2.2.2.2.2.2.1
example : outcomeTag (run 30 top_k_redis_importHeapScript ["hk"] (heapArgs exPairs) Store.empty).2 = (0, "1") := exEmpty_runs.2.2.2.2.2.2.2.2.2.1
/-- the later score of `x` wins; `ZRANGE` order is (score, member). -/
example : (run 30 top_k_redis_importHeapScript ["hk"] (heapArgs exPairs) Store.empty).1 "hk" =
    some (.zset [("y", 1), ("x", 2)]) := exEmpty_runs.2.2.2.2.2.2.2.2.2.2
example : Json.importHeap (fun a b : String => decide (a < b)) [] exPairs = [("y", 1), ("x", 2)] := by decide +kernel
example : ∃ st', run 30 top_k_redis_importHeapScript ["hk"] (heapArgs exPairs) Store.empty = (st', .reply (.int 1)) ∧
    zsetAt st' "hk" = some (Json.importHeap (fun a b : String => decide (a < b)) [] exPairs) ∧
    ∀ k, k ≠ "hk" → st' k = Store.empty k :=
  lua_importHeap_json Store.empty "hk" [] exPairs 30 (by decide) (by decide) (by decide) rfl
/-- a failure case that is covered: a key of the wrong type. -/
example : outcomeTag (run 30 top_k_redis_importHeapScript [exH.key] (heapArgs exPairs) exW).2 =
    (3, msgWrongType) := exDamaged_runs.2.2.2.2.2.2.1
example : (zaddAll exH.key exPairs exW).2 = none := exDamaged_runs.2.2.2.2.2.2.2.1

example : run 30 top_k_redis_equals ["h1", "h2"] [decimal 2] exZ =
    (exZ, boolOutcome (Equals.compareHeaps [("y", 1), ("x", 2)] [("y", 1), ("x", 3)])) :=
  lua_topkEquals_eq exZ "h1" "h2" 2 30 _ _ (by decide +kernel) (by decide +kernel) (by decide +kernel) (by decide +kernel)
example : outcomeTag (run 30 top_k_redis_equals ["h1", "h2"] [decimal 2] exZ).2 = (1, "") := exZ_runs.1
example : outcomeTag (run 30 top_k_redis_equals ["h1", "h1"] [decimal 2] exZ).2 = (0, "1") := exZ_runs.2.1
/-- different sizes: the length test answers. -/
example : outcomeTag (run 30 top_k_redis_equals ["h1", "nokey"] [decimal 2] exZ).2 = (1, "") := exZ_runs.2.2
example : Equals.compareHeaps [("y", 1), ("x", 2)] [("y", 1), ("x", 3)] = some false := by decide +kernel

/-- the sorted-set hypotheses are needed: on a key of another type the `pcall`ed `ZRANGE` gives nil
    (miniredis) and `#vals1` raises; `Equals.compareHeaps` is a function of two sorted sets. -/
theorem lua_topkEquals_differs_wrongtype :
    outcomeTag (run 30 top_k_redis_equals [exH.key, "h2"] [decimal 2] exW).2 =
      (3, "attempt to get length of a nil value") := exDamaged_runs.2.2.2.2.2.2.2.2

/-! ### `harmonicMeanScript`: outside the interpreter's subset -/

theorem lua_harmonicMean_unsupported :
    outcomeTag (run 50 hyperloglog_redis_harmonicMeanScript [exH.key] [decimal 4] exS₁).2 =
      (4, "number literal 0.0") := exS₁_runs.2.2.2.2.2.2.2.2.2.2.2.2.2.2.2.2

end examples

end Gostatix.LuaHLL
