/-
  C09 — a Redis-backed structure can be re-attached through its metadata key.

  `…Create` is the `HSET` a constructor issues on its metadata key (field names and values as in
  the Go code, numbers in decimal); `…Attach` is `New…FromKey`: `HGETALL` + `strconv` parsing.
  The theorems: attaching right after creating gives back the same handle — parameters and base
  keys — and therefore the same Redis keys (`keysOf`), so by C08/C19 the same answers.
  `HashOrAbsent s k`: the metadata key is fresh or already holds a hash (else `HSET` fails).
  Numeric hypotheses are the ranges of Go's `int`/`uint32` parsers.

  `NewRedisBloomFilterWithParameters` stores the clamped `size`/`numHashes` (commit fa61ac6), the
  values the created filter works with, so `C09_attach_roundtrip_bloom_params` holds for every
  input.
-/
import Gostatix.Proofs.RedisAttach
namespace Gostatix.Redis

/-- the metadata `HSET` of a handle's own values (`NewRedisBloomFilterFromBitSet`). -/
theorem C09_attach_roundtrip_bloom (h : BloomHandle) (s : Store)
    (hs : HashOrAbsent s h.metadataKey) (h1 : h.size < 2 ^ 63) (h2 : h.k < 2 ^ 63) :
    bloomAttach (bloomCreate h s).1 h.metadataKey = some h := by
  unfold bloomCreate bloomAttach
  rw [hgetall_hset hs]
  simp only [hashSetAll_cons, hashSetAll_nil, field_hashSet, String.reduceEq, if_true, if_false, atoi_decimal _ h1,
    atoi_decimal _ h2]

/-- `NewRedisBloomFilterWithParameters` (after fix fa61ac6, which stores `util.Max(size, 1)` and
    `util.Max(numHashes, 1)`): for ANY computed `size`/`numHashes` — zero included — attaching
    through the metadata key gives exactly the handle the constructor returned, i.e. the clamped
    parameters the created filter works with.  (`< 2^63` is the range of `strconv.Atoi`.) -/
theorem C09_attach_roundtrip_bloom_params (size numHashes : Nat) (bk mk : String) (s : Store)
    (hs : HashOrAbsent s mk) (h1 : size < 2 ^ 63) (h2 : numHashes < 2 ^ 63) :
    bloomAttach (bloomCreateRaw size numHashes bk mk s).1 mk =
      (bloomCreateRaw size numHashes bk mk s).2 ∧
    (bloomCreateRaw size numHashes bk mk s).2 =
      some { size := max size 1, k := max numHashes 1, bitsetKey := bk, metadataKey := mk } := by
  rw [bloomCreateRaw_eq size numHashes bk mk s hs]
  exact ⟨C09_attach_roundtrip_bloom _ s hs (by show max size 1 < _; omega)
    (by show max numHashes 1 < _; omega), rfl⟩

/-- `setMetadata(length)` (constructor: length 0; `Import`: the exported length). -/
theorem C09_attach_roundtrip_cuckoo (h : CuckooHandle) (length : Nat) (s : Store)
    (hs : HashOrAbsent s h.metadataKey)
    (h1 : h.n < 2 ^ 63) (h2 : h.bsize < 2 ^ 63) (h3 : h.fpl < 2 ^ 63) (h4 : h.retries < 2 ^ 63) :
    cuckooAttach (cuckooSetMetadata h length s).1 h.metadataKey = some h := by
  unfold cuckooSetMetadata cuckooAttach
  rw [hgetall_hset hs]
  simp only [hashSetAll_cons, hashSetAll_nil, field_hashSet, String.reduceEq, if_true, if_false, atoi_decimal _ h1,
    atoi_decimal _ h2, atoi_decimal _ h3, atoi_decimal _ h4]

/-- hence the re-created bucket handles (`localInitBuckets`) name the same Redis keys. -/
theorem C09_attach_cuckoo_same_keys (h : CuckooHandle) (s : Store)
    (hs : HashOrAbsent s h.metadataKey)
    (h1 : h.n < 2 ^ 63) (h2 : h.bsize < 2 ^ 63) (h3 : h.fpl < 2 ^ 63) (h4 : h.retries < 2 ^ 63) :
    (cuckooAttach (cuckooCreate h s).1 h.metadataKey).map CuckooHandle.keysOf = some h.keysOf := by
  unfold cuckooCreate
  rw [C09_attach_roundtrip_cuckoo h 0 s hs h1 h2 h3 h4]; rfl

/-- `NewCountMinSketchRedisFromKey` demands `rows > 0` and `columns > 0`, as the constructor does. -/
theorem C09_attach_roundtrip_cms (h : CMSHandle) (s : Store) (hs : HashOrAbsent s h.metadataKey)
    (h1 : 0 < h.rows) (h2 : 0 < h.cols) (h3 : h.rows < 2 ^ 63) (h4 : h.cols < 2 ^ 63) :
    cmsAttach (cmsCreate h s).1 h.metadataKey = some h := by
  unfold cmsCreate cmsAttach
  rw [hgetall_hset hs]
  simp only [hashSetAll_cons, hashSetAll_nil, field_hashSet, String.reduceEq, if_true, if_false, atoi_decimal _ h3,
    atoi_decimal _ h4]
  rw [if_neg (by omega)]

/-- `numBytesPerHash` and `correctionBias` are recomputed from `m` by `makeAbstractHyperLogLog`
    in both paths; `m` must be a positive power of two in both. -/
theorem C09_attach_roundtrip_hll (h : HLLHandle) (s : Store) (hs : HashOrAbsent s h.metadataKey)
    (h1 : 0 < h.m) (h2 : h.m &&& (h.m - 1) = 0) (h3 : h.m < 2 ^ 63) :
    hllAttach (hllCreate h s).1 h.metadataKey = some h := by
  unfold hllCreate hllAttach
  rw [hgetall_hset hs]
  simp only [hashSetAll_cons, hashSetAll_nil, field_hashSet, String.reduceEq, if_true, if_false, atoi_decimal _ h3]
  rw [if_neg (not_or.mpr ⟨Nat.ne_of_gt h1, Decidable.not_not.mpr h2⟩)]

/-- `NewTopKRedis` writes the nested sketch's metadata and its own (`sketchKey` = the sketch's
    metadata key); `NewTopKRedisFromKey` follows `sketchKey`.  `k` is parsed as a 32-bit value. -/
theorem C09_attach_roundtrip_topk (h : TopKHandle) (s : Store)
    (hs : HashOrAbsent s h.metadataKey) (hs' : HashOrAbsent s h.sketch.metadataKey)
    (hne : h.metadataKey ≠ h.sketch.metadataKey) (hk : h.k < 2 ^ 32)
    (h1 : 0 < h.sketch.rows) (h2 : 0 < h.sketch.cols)
    (h3 : h.sketch.rows < 2 ^ 63) (h4 : h.sketch.cols < 2 ^ 63) :
    topkAttach (topkCreate h s).1 h.metadataKey = some h := by
  -- the sketch's `HSET` first: it succeeds and touches the sketch's metadata key only
  have hc : cmsCreate h.sketch s = ((cmsCreate h.sketch s).1, some ()) := by
    unfold cmsCreate; rw [cmdHSET_ok hs']
  have hfr : ∀ k, k ≠ h.sketch.metadataKey → (cmsCreate h.sketch s).1 k = s k := by
    intro k hk; unfold cmsCreate; rw [cmdHSET_ok hs']; exact Store.set_ne _ _ hk
  have hsk := C09_attach_roundtrip_cms h.sketch s hs' h1 h2 h3 h4
  generalize (cmsCreate h.sketch s).1 = s₁ at hc hfr hsk
  have hs₁ : HashOrAbsent s₁ h.metadataKey := by unfold HashOrAbsent; rw [hfr _ hne]; exact hs
  unfold topkCreate topkAttach
  rw [Script.bind_ok hc, hgetall_hset hs₁]
  simp only [hashSetAll_cons, hashSetAll_nil, field_hashSet, String.reduceEq, if_true, if_false,
    parseUint32_decimal _ hk]
  rw [cmsAttach_congr (s' := s₁) (by rw [cmdHSET_ok hs₁]; exact Store.set_ne _ _ hne.symm), hsk]

/-- `k` is written as a (64-bit) `uint` but read back with `ParseUint(…, 10, 32)`: from `2^32`
    on the re-attached structure tracks `2^32 - 1` elements. -/
theorem C09_attach_topk_k_overflow :
    parseUint32 (decimal (2 ^ 32)) = 2 ^ 32 - 1 ∧ parseUint32 (decimal (2 ^ 32)) ≠ 2 ^ 32 := by
  decide +kernel

theorem C09_other_keys_irrelevant_bloom (s s' : Store) (mk : String) (e : s mk = s' mk) :
    bloomAttach s mk = bloomAttach s' mk := bloomAttach_congr e

theorem C09_other_keys_irrelevant_cuckoo (s s' : Store) (mk : String) (e : s mk = s' mk) :
    cuckooAttach s mk = cuckooAttach s' mk := cuckooAttach_congr e

theorem C09_other_keys_irrelevant_cms (s s' : Store) (mk : String) (e : s mk = s' mk) :
    cmsAttach s mk = cmsAttach s' mk := cmsAttach_congr e

theorem C09_other_keys_irrelevant_hll (s s' : Store) (mk : String) (e : s mk = s' mk) :
    hllAttach s mk = hllAttach s' mk := hllAttach_congr e

/-- Top-K also reads the sketch's metadata key named in its own hash, and nothing else. -/
theorem C09_other_keys_irrelevant_topk (s s' : Store) (mk : String) (e : s mk = s' mk)
    (e' : ∀ vals, (cmdHGETALL mk s).2 = some vals →
      s (field vals "sketchKey") = s' (field vals "sketchKey")) :
    topkAttach s mk = topkAttach s' mk := topkAttach_congr e e'

theorem C09_other_keys_irrelevant (s s' : Store) (mk : String) (e : s mk = s' mk) :
    bloomAttach s mk = bloomAttach s' mk ∧ cuckooAttach s mk = cuckooAttach s' mk ∧
    cmsAttach s mk = cmsAttach s' mk ∧ hllAttach s mk = hllAttach s' mk :=
  ⟨C09_other_keys_irrelevant_bloom s s' mk e, C09_other_keys_irrelevant_cuckoo s s' mk e,
    C09_other_keys_irrelevant_cms s s' mk e, C09_other_keys_irrelevant_hll s s' mk e⟩

/-- in particular any operation of another structure on disjoint keys (C19) cannot change what
    a later attach returns. -/
theorem C09_attach_after_foreign_op {ρ : Type} (K : List String) (op : Op ρ)
    (hsup : SupportedOn K op) (mk : String) (hmk : mk ∉ K) (s : Store) :
    cmsAttach (op s).1 mk = cmsAttach s mk ∧ hllAttach (op s).1 mk = hllAttach s mk ∧
    bloomAttach (op s).1 mk = bloomAttach s mk ∧ cuckooAttach (op s).1 mk = cuckooAttach s mk :=
  have H := C09_other_keys_irrelevant _ _ mk (hsup.1 s mk hmk)
  ⟨H.2.2.1, H.2.2.2, H.1, H.2.1⟩

section examples

def exBloom : BloomHandle := { size := 75, k := 3, bitsetKey := "aaaaaaaaaaaaaaaa", metadataKey := "aaaaaaaaaaaaaaab" }
def exCk : CuckooHandle :=
  { n := 100, bsize := 4, fpl := 2, retries := 500, key := "aaaaaaaaaaaaaaac", metadataKey := "aaaaaaaaaaaaaaad" }
def exSk : CMSHandle := { rows := 5, cols := 272, key := "aaaaaaaaaaaaaaae", metadataKey := "aaaaaaaaaaaaaaaf" }
def exHy : HLLHandle := { m := 64, key := "aaaaaaaaaaaaaaag", metadataKey := "aaaaaaaaaaaaaaah" }
def exTk : TopKHandle :=
  { k := 10, errorRate := "0.01", accuracy := "0.01", heapKey := "aaaaaaaaaaaaaaai",
    metadataKey := "aaaaaaaaaaaaaaaj", sketch := exSk }

example : HashOrAbsent Store.empty "aaaaaaaaaaaaaaab" := Or.inl rfl

/-- `NewRedisBloomFilterWithParameters(100, 0.7)`: `size = 75`, raw
    `numHashes = ceil(float64(75/100) * ln 2) = 0`, clamped to 1.  The metadata says 1 and the
    re-attached filter has one hash function, like the created one. -/
example :
    let r := bloomCreateRaw 75 0 "aaaaaaaaaaaaaaaa" "aaaaaaaaaaaaaaab" Store.empty
    r.1 "aaaaaaaaaaaaaaab" =
      some (.hash [("size", "75"), ("numHashes", "1"), ("bitsetKey", "aaaaaaaaaaaaaaaa")]) ∧
    r.2 = some { size := 75, k := 1, bitsetKey := "aaaaaaaaaaaaaaaa", metadataKey := "aaaaaaaaaaaaaaab" } ∧
    bloomAttach r.1 "aaaaaaaaaaaaaaab" =
      some { size := 75, k := 1, bitsetKey := "aaaaaaaaaaaaaaaa", metadataKey := "aaaaaaaaaaaaaaab" } ∧
    bloomAttach r.1 "aaaaaaaaaaaaaaab" = r.2 := by
  decide +kernel

/-- the facts about the stores right after the constructors' `HSET`,
    decided together so that each is evaluated once. -/
theorem exCreate_runs :
    ((cmsCreate exSk Store.empty).1 "aaaaaaaaaaaaaaaf" =
      some (.hash [("rows", "5"), ("columns", "272"), ("key", "aaaaaaaaaaaaaaae")])) ∧
    ((cuckooCreate exCk Store.empty).1 "aaaaaaaaaaaaaaad" =
      some (.hash [("size", "100"), ("bucketSize", "4"), ("fingerPrintLength", "2"), ("retries", "500"),
      ("key", "aaaaaaaaaaaaaaac"), ("length", "0")])) ∧
    (bloomAttach (bloomCreate exBloom Store.empty).1 exBloom.metadataKey = some exBloom) ∧
    (cuckooAttach (cuckooCreate exCk Store.empty).1 exCk.metadataKey = some exCk) ∧
    (cmsAttach (cmsCreate exSk Store.empty).1 exSk.metadataKey = some exSk) ∧
    (hllAttach (hllCreate exHy Store.empty).1 exHy.metadataKey = some exHy) ∧
    (topkAttach (topkCreate exTk Store.empty).1 exTk.metadataKey = some exTk) ∧
    (hllAttach (hllCreate { exHy with m := 48 } Store.empty).1 exHy.metadataKey = none) ∧
    (cmsAttach (cmsCreate { exSk with rows := 0 } Store.empty).1 exSk.metadataKey = none) ∧
    (cmsAttach Store.empty "aaaaaaaaaaaaaaaf" = none) ∧
    (bloomAttach Store.empty "zzzzzzzzzzzzzzzz" =
      some { size := 0, k := 0, bitsetKey := "", metadataKey := "zzzzzzzzzzzzzzzz" }) ∧
    (cmsAttach (cmsCreate exSk Store.empty).1 exSk.key = none) := by
  decide +kernel

example : (cmsCreate exSk Store.empty).1 "aaaaaaaaaaaaaaaf" =
    some (.hash [("rows", "5"), ("columns", "272"), ("key", "aaaaaaaaaaaaaaae")]) := exCreate_runs.1
example : (cuckooCreate exCk Store.empty).1 "aaaaaaaaaaaaaaad" =
    some (.hash [("size", "100"), ("bucketSize", "4"), ("fingerPrintLength", "2"), ("retries", "500"),
      ("key", "aaaaaaaaaaaaaaac"), ("length", "0")]) := exCreate_runs.2.1

example : bloomAttach (bloomCreate exBloom Store.empty).1 exBloom.metadataKey = some exBloom := exCreate_runs.2.2.1
example : cuckooAttach (cuckooCreate exCk Store.empty).1 exCk.metadataKey = some exCk := exCreate_runs.2.2.2.1
example : cmsAttach (cmsCreate exSk Store.empty).1 exSk.metadataKey = some exSk := exCreate_runs.2.2.2.2.1
example : hllAttach (hllCreate exHy Store.empty).1 exHy.metadataKey = some exHy := exCreate_runs.2.2.2.2.2.1
example : topkAttach (topkCreate exTk Store.empty).1 exTk.metadataKey = some exTk := exCreate_runs.2.2.2.2.2.2.1

/-- the hypotheses matter: not a power of two / zero rows / nothing stored ⇒ error … -/
example : hllAttach (hllCreate { exHy with m := 48 } Store.empty).1 exHy.metadataKey = none := exCreate_runs.2.2.2.2.2.2.2.1
example : cmsAttach (cmsCreate { exSk with rows := 0 } Store.empty).1 exSk.metadataKey = none := exCreate_runs.2.2.2.2.2.2.2.2.1
example : cmsAttach Store.empty "aaaaaaaaaaaaaaaf" = none := exCreate_runs.2.2.2.2.2.2.2.2.2.1
/-- … while the Bloom and Cuckoo `FromKey` accept a key that holds nothing and hand out a
    zero-sized structure (the Go code then divides by zero on first use). -/
example : bloomAttach Store.empty "zzzzzzzzzzzzzzzz" =
    some { size := 0, k := 0, bitsetKey := "", metadataKey := "zzzzzzzzzzzzzzzz" } := exCreate_runs.2.2.2.2.2.2.2.2.2.2.1
example : cmsAttach (cmsCreate exSk Store.empty).1 exSk.key = none := exCreate_runs.2.2.2.2.2.2.2.2.2.2.2

end examples

end Gostatix.Redis
