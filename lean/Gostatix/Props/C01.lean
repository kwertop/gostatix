/-
  C01 — Bloom filter never returns a false negative.
  Theorems are for an ARBITRARY probe function `probes : E → List Nat` whose positions are in
  range; the correspondence suite `bloom` checks that the implementation is an instance.
-/
import Gostatix.Proofs.Bloom
namespace Gostatix.Bloom

/-- Immediately after `Insert x`, `Lookup x` is true (probes in range). -/
theorem C01_insert_then_lookup (b : Bloom) (ps : List Nat) (hr : ∀ p ∈ ps, p < b.bits.length) :
    (b.insert ps).lookup ps = true := by
  simp only [lookup, insert, List.all_eq_true]
  intro p hp
  exact setBits_sets b.bits ps p hp (hr p hp)

/-- **No false negatives**: for every history `h₁ ++ [insert x] ++ h₂` of inserts and lookups of
    arbitrary elements, starting from any filter state `b`, `Lookup x` on the resulting state is
    true — for every probe function whose positions for `x` are in range. -/
theorem C01_no_false_negative {E} (probes : E → List Nat) (b : Bloom)
    (h₁ h₂ : List (BloomOp E)) (x : E)
    (hr : ∀ p ∈ probes x, p < b.bits.length) :
    (run probes b (h₁ ++ [BloomOp.insert x] ++ h₂)).lookup (probes x) = true := by
  have e : run probes b (h₁ ++ [BloomOp.insert x] ++ h₂)
      = run probes ((run probes b h₁).insert (probes x)) h₂ := by
    simp [run, List.foldl_append, step]
  rw [e]
  apply lookup_mono ((run probes b h₁).insert (probes x))
  · intro q hq; exact run_bits_mono probes _ h₂ q hq
  · apply C01_insert_then_lookup
    intro p hp; rw [run_length]; exact hr p hp

/-- A filter into which nothing was inserted reports every element absent
    (the element has at least one probe, i.e. `numHashes ≥ 1`, which the constructors clamp). -/
theorem C01_empty_absent (size k : Nat) (ps : List Nat) (hne : ps ≠ []) :
    (Bloom.new size k).lookup ps = false := by
  cases ps with
  | nil => exact absurd rfl hne
  | cons p ps =>
    simp only [lookup, new, List.all_cons, Bool.and_eq_false_iff]
    left
    simp only [List.getD_eq_getElem?_getD, List.getElem?_replicate]
    split <;> rfl

/-- lookups (of anything) never change the filter, so a fresh filter stays "all absent"
    under any number of lookups. -/
theorem C01_lookups_keep_empty {E} (probes : E → List Nat) (size k : Nat) (xs : List E) (y : E)
    (hne : probes y ≠ []) :
    (run probes (Bloom.new size k) (xs.map BloomOp.lookup)).lookup (probes y) = false := by
  have : run probes (Bloom.new size k) (xs.map BloomOp.lookup) = Bloom.new size k := by
    induction xs with
    | nil => rfl
    | cons x xs ih => simpa [run, step] using ih
  rw [this]; exact C01_empty_absent size k _ hne

/-- The transcribed `getIndex` is always in range for `size ≥ 1`: `bitset.Set` never has to grow
    the set and `Test` never reads past the end. -/
theorem C01_probe_in_range (h1 h2 i size : Nat) (hs : 1 ≤ size) : getIndex h1 h2 i size < size := by
  unfold getIndex; exact Nat.mod_lt _ (by omega)

theorem C01_probesOf_in_range (h1 h2 k size : Nat) (hs : 1 ≤ size) :
    ∀ p ∈ probesOf h1 h2 k size, p < size := by
  intro p hp
  simp only [probesOf, List.mem_map, List.mem_range] at hp
  obtain ⟨i, _, rfl⟩ := hp
  exact C01_probe_in_range h1 h2 i size hs

theorem C01_probesOf_nonempty (h1 h2 k size : Nat) (hk : 1 ≤ k) : probesOf h1 h2 k size ≠ [] := by
  intro h
  have : (probesOf h1 h2 k size).length = k := by simp [probesOf]
  rw [h] at this; simp at this; omega

/-- The end-to-end statement for the concrete probing scheme of the code: any constructor
    parameters (clamped to ≥ 1), any two hash words per element. -/
theorem C01_no_false_negative_concrete {E} (hash : E → Nat × Nat) (size k : Nat)
    (h₁ h₂ : List (BloomOp E)) (x : E) :
    let b := Bloom.new size k
    let probes := fun e => probesOf (hash e).1 (hash e).2 b.k b.size
    (run probes b (h₁ ++ [BloomOp.insert x] ++ h₂)).lookup (probes x) = true := by
  intro b probes
  apply C01_no_false_negative
  intro p hp
  have : b.bits.length = b.size := by simp [b, new]
  rw [this]
  exact C01_probesOf_in_range _ _ _ _ (by simp [b, new]; omega) p hp

example : (run (fun (e : Nat) => [e % 5, (e + 2) % 5]) (Bloom.new 5 2)
    [.insert 1, .insert 7, .lookup 3, .insert 4]).lookup [7 % 5, (7+2) % 5] = true := by decide +kernel

end Gostatix.Bloom
