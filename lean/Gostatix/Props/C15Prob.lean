/-
  C15 (Count-Min clause) — the (ε, δ) guarantee of the Count-Min sketch under IDEAL hashing.

  WHAT IS PROVED.  `E` a finite universe of elements, `h` any history of `(element, count)`
  updates, `x` any element; the sketch the constructor builds from `(ε, δ)`: `d = ⌈ln(1/δ)⌉` rows,
  `w = ⌈e/ε⌉` columns.  The hash function of every row is drawn UNIFORMLY and INDEPENDENTLY from
  ALL functions `E → Fin w`, i.e. `g : Fin d → E → Fin w` uniformly from that finite type.  Then
  the fraction of the family for which the estimate of `x` exceeds its true count by more than
  `ε · total h` is at most `δ`.  The proof is the classical Count-Min analysis done by counting:
  cell invariant (`C03_cell_invariant`), Markov by double counting per row, product set for the
  independent rows, `(1/e)^d ≤ δ`.  Natural-number counters, no overflow (`Model/CMS.lean`).

  WHAT IS NOT PROVED.  The code does NOT hash like this.  `getPositions` computes ONE 128-bit metro
  hash `(h1, h2)` of the element and uses double hashing (`C15_cms_scheme`).  The rows of that
  scheme are NOT independent: all `d` columns of an element are determined by `h1, h2`, and two
  elements with equal `(h1 mod w, h2 mod w)`-behaviour collide in every row at once.  Nothing is
  known here about the distribution of metro hash outputs; the frequencies for the concrete scheme
  are only measured by the test suite.
-/
import Gostatix.Props.C15
import Gostatix.Proofs.CMSProb
import Gostatix.Props.C03
namespace Gostatix.Sizing
open Real Finset Gostatix.CMS

section ideal
variable {E : Type} {d w : ℕ}

def posOf (g : Fin d → E → Fin w) (x : E) : List Nat := List.ofFn (fun r => (g r x : Nat))

theorem posOf_length (g : Fin d → E → Fin w) (x : E) : (posOf g x).length = d := by
  simp [posOf]

theorem posOf_getD (g : Fin d → E → Fin w) (x : E) (r : Fin d) :
    (posOf g x).getD r 0 = (g r x : Nat) := by
  have hr : (r : Nat) < (posOf g x).length := by rw [posOf_length]; exact r.isLt
  rw [List.getD_eq_getElem?_getD, List.getElem?_eq_getElem hr]
  simp [posOf]

theorem posOf_PosOK (g : Fin d → E → Fin w) : PosOK (posOf g) d w := by
  intro e
  refine ⟨posOf_length g e, ?_⟩
  intro p hp
  simp only [posOf, List.mem_ofFn] at hp
  obtain ⟨r, rfl⟩ := hp
  exact (g r e).isLt

/-- by how much the estimate of `x` exceeds its true count after the history `h` (no truncation
    when `0 < d`, by `C03_lower`; with `d = 0` the estimate is 0). -/
def overshoot [DecidableEq E] (g : Fin d → E → Fin w) (h : List (E × Nat)) (x : E) : Nat :=
  (run (posOf g) (CMS.new d w) h).count (posOf g x) - trueCount h x

theorem overshoot_spec [DecidableEq E] (g : Fin d → E → Fin w) (h : List (E × Nat)) (x : E)
    (hd : 0 < d) :
    (run (posOf g) (CMS.new d w) h).count (posOf g x) = trueCount h x + overshoot g h x := by
  have := C03_lower (posOf g) d w h x hd (posOf_PosOK g)
  unfold overshoot; omega

variable [Fintype E] [DecidableEq E]

theorem probed_cell (g : Fin d → E → Fin w) (h : List (E × Nat)) (x : E) (r : Fin d) :
    cell (run (posOf g) (CMS.new d w) h).m r ((posOf g x).getD r 0)
      = trueCount h x + rowOver (trueCount h) x (g r) := by
  have hinv := C03_cell_invariant (posOf g) (CMS.new d w) h (C03_wf_new d w) (posOf_PosOK g)
    r ((posOf g x).getD r 0) r.isLt
  have hnew := new_cell d w r ((posOf g x).getD r 0)
  unfold cell at hnew ⊢
  rw [hinv, hnew, Nat.zero_add,
    sumL_filter_eq_sum (fun y => (posOf g y).getD r 0 = (posOf g x).getD r 0) h,
    ← sum_same_col (trueCount h) x (g r)]
  apply Finset.sum_congr _ (fun _ _ => rfl)
  ext y
  simp only [mem_filter, mem_univ, true_and, posOf_getD]
  exact Fin.val_inj

/-- the estimate is a minimum over the rows. -/
theorem overshoot_le_rowOver (g : Fin d → E → Fin w) (h : List (E × Nat)) (x : E) (r : Fin d) :
    overshoot g h x ≤ rowOver (trueCount h) x (g r) := by
  have hlen : (run (posOf g) (CMS.new d w) h).m.length = d :=
    (foldl_update_shape (posOf g) d w _ (new_shape d w) h).1
  have hc := count_le_cell (run (posOf g) (CMS.new d w) h) (posOf g x) r
    (by rw [hlen]; exact r.isLt) (by rw [posOf_length]; exact r.isLt)
  rw [probed_cell] at hc
  unfold overshoot; omega

/-- Core statement for an arbitrary `d × w` sketch with `e ≤ ε·w` and `exp(-d) ≤ δ`. -/
theorem C15_cms_ideal_core (d w : ℕ) (ε δ : ℝ) (hw : exp 1 ≤ ε * w) (hd : exp (-(d : ℝ)) ≤ δ)
    (h : List (E × Nat)) (x : E) :
    ((Finset.univ.filter (fun g : Fin d → E → Fin w =>
        ε * (total h : ℝ) < (overshoot g h x : ℝ))).card : ℝ)
      ≤ δ * (Fintype.card (Fin d → E → Fin w) : ℝ) := by
  set B : Finset (E → Fin w) :=
    Finset.univ.filter (fun f => ε * (total h : ℝ) < (rowOver (trueCount h) x f : ℝ)) with hBdef
  have h1 := card_bad_row_mul_exp (trueCount h) x w ε hw (total h) (total_eq_sum h).symm B
    fun f hf => (mem_filter.mp hf).2
  -- the bad set is contained in the product set
  have h2 : (Finset.univ.filter (fun g : Fin d → E → Fin w =>
        ε * (total h : ℝ) < (overshoot g h x : ℝ))).card ≤ B.card ^ d := by
    apply Counting.card_le_pow_of_forall
    intro g hg r
    have hlt := (mem_filter.mp hg).2
    have hle : (overshoot g h x : ℝ) ≤ (rowOver (trueCount h) x (g r) : ℝ) := by
      exact_mod_cast overshoot_le_rowOver g h x r
    exact mem_filter.mpr ⟨mem_univ _, lt_of_lt_of_le hlt hle⟩
  have h3 := pow_le_delta_mul (B.card : ℝ) (Fintype.card (E → Fin w) : ℝ) δ d
    (Nat.cast_nonneg _) h1 hd
  have hcard : Fintype.card (Fin d → E → Fin w) = Fintype.card (E → Fin w) ^ d :=
    (Fintype.card_fun (α := Fin d) (β := E → Fin w)).trans (by rw [Fintype.card_fin])
  rw [hcard, Nat.cast_pow]
  refine le_trans ?_ h3
  exact_mod_cast h2

/-- **C15, Count-Min clause, ideal hashing.**  A Count-Min sketch created from `(ε, δ)`
    (`cmsRows δ` rows, `cmsCols ε` columns) whose row hash functions are drawn uniformly and
    independently from all functions `E → Fin (cmsCols ε)` over-estimates an element by more than
    `ε` times the total count with probability (= fraction of the family) at most `δ`.
    No upper bound on `δ` is needed: for `δ ≥ 1` the sketch has 0 rows, the estimate is 0 and the
    claim is trivial. -/
theorem C15_cms_eps_delta_ideal (ε δ : ℝ) (hε : 0 < ε) (hδ : 0 < δ)
    (h : List (E × Nat)) (x : E) :
    let d := cmsRows δ; let w := cmsCols ε
    ((Finset.univ.filter (fun g : Fin d → E → Fin w =>
        ε * (total h : ℝ) < (overshoot g h x : ℝ))).card : ℝ)
      ≤ δ * (Fintype.card (Fin d → E → Fin w) : ℝ) := by
  intro d w
  exact C15_cms_ideal_core d w ε δ ((div_le_iff₀' hε).1 (Nat.le_ceil _)) (C15_cms_rows δ hδ) h x

/-- the same guarantee stated on the estimate itself (no natural-number subtraction). -/
theorem C15_cms_eps_delta_ideal_count (ε δ : ℝ) (hε : 0 < ε) (hδ : 0 < δ)
    (h : List (E × Nat)) (x : E) :
    let d := cmsRows δ; let w := cmsCols ε
    ((Finset.univ.filter (fun g : Fin d → E → Fin w =>
        (trueCount h x : ℝ) + ε * (total h : ℝ)
          < ((run (posOf g) (CMS.new d w) h).count (posOf g x) : ℝ))).card : ℝ)
      ≤ δ * (Fintype.card (Fin d → E → Fin w) : ℝ) := by
  intro d w
  refine le_trans ?_ (C15_cms_eps_delta_ideal ε δ hε hδ h x)
  apply Nat.cast_le.mpr
  apply Finset.card_le_card
  intro g hg
  have hlt := (mem_filter.mp hg).2
  refine mem_filter.mpr ⟨mem_univ _, ?_⟩
  have hnat : (run (posOf g) (CMS.new d w) h).count (posOf g x)
      ≤ trueCount h x + overshoot g h x := by unfold overshoot; omega
  have hreal : ((run (posOf g) (CMS.new d w) h).count (posOf g x) : ℝ)
      ≤ (trueCount h x : ℝ) + (overshoot g h x : ℝ) := by exact_mod_cast hnat
  linarith

/-- the constructor's sketch has at least one column and, for `δ < 1`, at least one row (so that
    `overshoot` is not truncated, `overshoot_spec`). -/
theorem C15_cms_dims_pos (ε δ : ℝ) (hε : 0 < ε) (hδ : 0 < δ) (hδ1 : δ < 1) :
    0 < cmsCols ε ∧ 0 < cmsRows δ := by
  constructor
  · exact Nat.ceil_pos.mpr (div_pos (exp_pos 1) hε)
  · apply Nat.ceil_pos.mpr
    apply log_pos
    rw [one_div]
    exact (one_lt_inv₀ hδ).mpr hδ1

end ideal

/-- `E = Fin 3`, two updates, ε = 1/2 (6 columns), δ = 1/10 (3 rows): at most a tenth of the
    `(6^3)^3` hash families over-estimate element 0 by more than half of the total 7. -/
example :
    let h : List (Fin 3 × Nat) := [(0, 2), (1, 5)]
    let d := cmsRows (1 / 10); let w := cmsCols (1 / 2)
    ((Finset.univ.filter (fun g : Fin d → Fin 3 → Fin w =>
        (1 / 2 : ℝ) * (total h : ℝ) < (overshoot g h 0 : ℝ))).card : ℝ)
      ≤ (1 / 10 : ℝ) * (Fintype.card (Fin d → Fin 3 → Fin w) : ℝ) :=
  C15_cms_eps_delta_ideal (1 / 2) (1 / 10) (by norm_num) (by norm_num) [(0, 2), (1, 5)] 0

example : 0 < cmsCols (1 / 2) ∧ 0 < cmsRows (1 / 10) :=
  C15_cms_dims_pos (1 / 2) (1 / 10) (by norm_num) (by norm_num) (by norm_num)

end Gostatix.Sizing
