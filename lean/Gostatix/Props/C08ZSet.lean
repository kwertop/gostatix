/-
  C08 (Top-K part) — the Redis sorted set behind `TopKRedis` computes `TopK.offerRedis`.

  `TopK.offerRedis k z x f` (Model/TopK.lean) models the heap part of `TopKRedis.Insert` as a
  function on a list sorted by (score, member); the Top-K theorems about the Redis variant are
  stated over it.  Model/RedisTopK.lean goes one level down: the heap is the sorted-set value at
  `heapKey` of a `Store`, with the commands ZCARD, ZRANGE 0 0, ZSCORE, ZREM, ZADD, ZPOPMIN,
  ZRANGE 0 -1, and `topkInsertCmds` is the exact sequence of separate commands issued by
  top_k_redis.go (including `if index > 0 { ZREM }` where `index` is the ZSCORE reply).
  `absZSet st key` reads the list back, provided it is canonical (`ZWf`: sorted by
  (score, member), members pairwise different) — the form in which `ZRANGE 0 -1` lists any
  sorted set.

  `C08_topk_insert_cmds`: the command sequence run ALONE (no other client between the commands;
  the check-then-act window is known finding D21) succeeds, leaves a store that represents
  `offerRedis k z x f`, and touches no other key.  No precondition on the scores: a member whose
  score is 0 is not ZREM'd by the Go code (`index > 0` is false), but ZADD replaces its entry
  anyway (`C08_zset_zadd_zrem`); an example below runs that case.  `C08_zset_*`: the commands keep
  the canonical form and on it mean what Redis means.
-/
import Gostatix.Proofs.RedisZSet
import Gostatix.Proofs.RedisFrameOps
namespace Gostatix.Redis
open Gostatix.TopK

/-- on the raw content (no canonical-form hypothesis is needed for the equation) -/
theorem C08_topk_insert_cmds_raw (st : Store) (heapKey : String) (k : Nat) (x : String) (f : Nat)
    (z : List HElem) (hz : zsetAt st heapKey = some z) :
    ∃ st', topkInsertCmds heapKey k x f st = (st', some ()) ∧
      zsetAt st' heapKey = some (TopK.offerRedis k z x f) ∧
      ∀ key, key ≠ heapKey → st' key = st key := by
  unfold topkInsertCmds
  rw [offerRedis_unfold, Script.bind_ok (cmdZCARD_eq hz), Script.bind_ok (cmdZRANGE0_eq hz)]
  by_cases hg : offerGuard z.length k (z.take 1) f = true
  · -- accepted
    rw [if_pos hg, if_pos hg]
    rw [Script.bind_ok (Script.try_ok (cmdZSCORE_eq hz x))]
    have hrem : ∃ s₁ z₁, zsetAt s₁ heapKey = some z₁ ∧ zadd z₁ x f = zadd z x f ∧
        (∀ k', k' ≠ heapKey → s₁ k' = st k') ∧
        (if ((some (zscore z x)).getD none).getD 0 > 0 then
            cmdZREM heapKey x >>=ₛ fun _ => Script.pure () else Script.pure ()) st =
          (s₁, some ()) := by
      split
      · refine ⟨zsetPut st heapKey (zrem z x), zrem z x, zsetAt_zsetPut _ _ _, zadd_zrem z x f,
          fun k' h => zsetPut_ne _ _ h, ?_⟩
        rw [Script.bind_ok (cmdZREM_eq hz x)]; rfl
      · exact ⟨st, z, hz, rfl, fun _ _ => rfl, rfl⟩
    obtain ⟨s₁, z₁, hz₁, hadd, hs₁, hrun⟩ := hrem
    rw [Script.bind_ok hrun, Script.bind_ok (cmdZADD_eq hz₁ x f), hadd]
    have hz₂ : zsetAt (zsetPut s₁ heapKey (zadd z x f)) heapKey = some (zadd z x f) :=
      zsetAt_zsetPut _ _ _
    rw [Script.bind_ok (cmdZCARD_eq hz₂)]
    split
    · refine ⟨_, by rw [Script.bind_ok (cmdZPOPMIN_eq hz₂)]; rfl, zsetAt_zsetPut _ _ _, ?_⟩
      intro k' h
      rw [zsetPut_ne _ _ h, zsetPut_ne _ _ h]; exact hs₁ k' h
    · refine ⟨_, rfl, hz₂, ?_⟩
      intro k' h
      rw [zsetPut_ne _ _ h]; exact hs₁ k' h
  · rw [if_neg hg, if_neg hg]
    exact ⟨st, rfl, hz, fun _ _ => rfl⟩

theorem C08_topk_insert_cmds (st : Store) (heapKey : String) (k : Nat) (x : String) (f : Nat)
    (z : List HElem) (habs : absZSet st heapKey = some z) :
    ∃ st', topkInsertCmds heapKey k x f st = (st', some ()) ∧
      absZSet st' heapKey = some (TopK.offerRedis k z x f) ∧
      ∀ key, key ≠ heapKey → st' key = st key := by
  obtain ⟨hz, hw⟩ := (absZSet_eq_some_iff _ _ _).mp habs
  obtain ⟨st', hrun, hz', hfr⟩ := C08_topk_insert_cmds_raw st heapKey k x f z hz
  have := redis_refines_spec k z x f hw.1 hw.2
  exact ⟨st', hrun, (absZSet_eq_some_iff _ _ _).mpr ⟨hz', this.2.1, this.2.2⟩, hfr⟩

/-- a whole history of inserts (estimates given): every command sequence succeeds and the store
    represents the model's heap after the same offers. -/
theorem C08_topk_insert_history (heapKey : String) (k : Nat) (xs : List (String × Nat)) :
    ∀ (st : Store) (z : List HElem), absZSet st heapKey = some z →
    ∃ st', runOps (xs.map fun xf => topkInsertCmds heapKey k xf.1 xf.2) st
        = (st', xs.map fun _ => some ()) ∧
      absZSet st' heapKey = some (xs.foldl (fun z xf => TopK.offerRedis k z xf.1 xf.2) z) := by
  induction xs with
  | nil => intro st z h; exact ⟨st, rfl, h⟩
  | cons xf xs ih =>
    intro st z h
    obtain ⟨st₁, hrun, habs₁, _⟩ := C08_topk_insert_cmds st heapKey k xf.1 xf.2 z h
    obtain ⟨st', hrun', habs'⟩ := ih st₁ _ habs₁
    refine ⟨st', ?_, habs'⟩
    simp only [List.map_cons, runOps, hrun, hrun']

theorem C08_topk_values (st : Store) (heapKey : String) (z : List HElem)
    (habs : absZSet st heapKey = some z) :
    topkValues heapKey st = (st, some (TopK.values z)) := by
  obtain ⟨hz, _⟩ := (absZSet_eq_some_iff _ _ _).mp habs
  unfold topkValues
  rw [Script.bind_ok (cmdZRANGEALL_eq hz), values_eq_of_perm (List.reverse_perm z)]
  rfl

theorem C08_zset_abs_iff (st : Store) (key : String) (z : List HElem) :
    absZSet st key = some z ↔
      (st key = none ∧ z = [] ∨ st key = some (.zset z)) ∧
      z.Pairwise (fun a b => zLt a b = true) ∧ (z.map (·.1)).Nodup := by
  rw [absZSet_eq_some_iff]
  refine and_congr ?_ Iff.rfl
  unfold zsetAt
  constructor
  · intro h
    split at h
    · rename_i h0; cases h; exact Or.inl ⟨h0, rfl⟩
    · rename_i z' h0; cases h; exact Or.inr h0
    · cases h
  · rintro (⟨h0, rfl⟩ | h0) <;> rw [h0]

/-- ZRANGE 0 0 / ZPOPMIN: the head of the canonical list is strictly below every other element
    in the sorted-set order, in particular its score is minimal. -/
theorem C08_zset_head_min (m : HElem) (t : List HElem) (h : ZWf (m :: t)) :
    ∀ p ∈ t, zLt m p = true ∧ m.2 ≤ p.2 :=
  fun p hp =>
    have hlt := (List.pairwise_cons.1 h.1).1 p hp
    ⟨hlt, zLt_freq_le m p hlt⟩

theorem C08_zset_zscore (z : List HElem) (x : String) (n : Nat) (h : ZWf z) :
    zscore z x = some n ↔ (x, n) ∈ z := zscore_eq_some_iff z x n h

theorem C08_zset_zadd (z : List HElem) (x : String) (f : Nat) (h : ZWf z) :
    ZWf (zadd z x f) ∧ (zadd z x f).Perm (z.filter (fun e => e.1 ≠ x) ++ [(x, f)]) :=
  ⟨zadd_wf z x f h, zadd_perm z x f⟩

theorem C08_zset_zrem (z : List HElem) (x : String) (h : ZWf z) :
    ZWf (zrem z x) ∧ ∀ e, e ∈ zrem z x ↔ e ∈ z ∧ e.1 ≠ x := by
  refine ⟨zrem_wf z x h, fun e => ?_⟩
  unfold zrem; simp [List.mem_filter]

theorem C08_zset_zpopmin (z : List HElem) (h : ZWf z) : ZWf z.tail := tail_wf z h

/-- why the Go code's `if index > 0 { ZREM }` is harmless either way. -/
theorem C08_zset_zadd_zrem (z : List HElem) (x : String) (f : Nat) :
    zadd (zrem z x) x f = zadd z x f := zadd_zrem z x f

theorem C08_zset_cmds_wf (st : Store) (key : String) (z : List HElem) (x : String) (f : Nat)
    (habs : absZSet st key = some z) :
    absZSet (cmdZADD key x f st).1 key = some (zadd z x f) ∧
    absZSet (cmdZREM key x st).1 key = some (zrem z x) ∧
    absZSet (cmdZPOPMIN key st).1 key = some z.tail ∧
    cmdZCARD key st = (st, some z.length) ∧
    cmdZRANGE0 key st = (st, some (z.take 1)) ∧
    cmdZSCORE key x st = (st, some (zscore z x)) ∧
    cmdZRANGEALL key st = (st, some z) := by
  obtain ⟨hz, hw⟩ := (absZSet_eq_some_iff _ _ _).mp habs
  refine ⟨?_, ?_, ?_, cmdZCARD_eq hz, cmdZRANGE0_eq hz, cmdZSCORE_eq hz x, cmdZRANGEALL_eq hz⟩
  · rw [cmdZADD_eq hz]; exact absZSet_zsetPut _ _ (zadd_wf z x f hw)
  · rw [cmdZREM_eq hz]; exact absZSet_zsetPut _ _ (zrem_wf z x hw)
  · rw [cmdZPOPMIN_eq hz]; exact absZSet_zsetPut _ _ (tail_wf z hw)

theorem C19_frame_topk_insert_cmds (heapKey : String) (k : Nat) (x : String) (f : Nat) :
    SupportedOn [heapKey] (topkInsertCmds heapKey k x f) := supported_topkInsertCmds heapKey k x f

theorem C19_frame_topk_values (heapKey : String) : SupportedOn [heapKey] (topkValues heapKey) :=
  supported_topkValues heapKey

theorem C19_frame_topk_in_handle {ρ : Type} (h : TopKHandle) (op : Op ρ)
    (hop : SupportedOn [h.heapKey] op) : SupportedOn h.keysOf op := by
  refine hop.mono ?_
  intro key hk
  simp only [List.mem_cons, List.not_mem_nil, or_false] at hk
  subst hk
  unfold TopKHandle.keysOf TopKHandle.descr
  exact List.mem_map.mpr ⟨KeyD.base h.heapKey, by simp, rfl⟩

section examples

def exHeap : String := "Zaaaaaaaaaaaaaaa"
/-- k = 2: offers (a,3) (b,1) (c,2) (b,5) -/
def exZ₁ : Store := (topkInsertCmds exHeap 2 "a" 3 Store.empty).1
def exZ₂ : Store := (topkInsertCmds exHeap 2 "b" 1 exZ₁).1
def exZ₃ : Store := (topkInsertCmds exHeap 2 "c" 2 exZ₂).1
def exZ₄ : Store := (topkInsertCmds exHeap 2 "b" 5 exZ₃).1

example : absZSet Store.empty exHeap = some [] := by decide +kernel
example : exZ₁ exHeap = some (.zset [("a", 3)]) := by decide +kernel
example : absZSet exZ₂ exHeap = some [("b", 1), ("a", 3)] := by decide +kernel
/-- (c,2) ≥ min 1: added, then ZPOPMIN evicts (b,1) -/
example : absZSet exZ₃ exHeap = some [("c", 2), ("a", 3)] := by decide +kernel
example : absZSet exZ₄ exHeap = some [("a", 3), ("b", 5)] := by decide +kernel
example : (topkInsertCmds exHeap 2 "b" 5 exZ₃).2 = some () := by decide +kernel
example : TopK.offerRedis 2 (TopK.offerRedis 2 (TopK.offerRedis 2 (TopK.offerRedis 2 [] "a" 3) "b" 1) "c" 2) "b" 5
    = [("a", 3), ("b", 5)] := by decide +kernel
/-- an offer below the minimum of a full set changes nothing -/
example : absZSet (topkInsertCmds exHeap 2 "d" 1 exZ₄).1 exHeap = some [("a", 3), ("b", 5)] := by decide +kernel
/-- an existing member is re-scored, not duplicated (ZSCORE 3 > 0: ZREM, ZADD) -/
example : absZSet (topkInsertCmds exHeap 2 "a" 9 exZ₄).1 exHeap = some [("b", 5), ("a", 9)] := by decide +kernel
example : (topkValues exHeap exZ₄).2 = some [("b", 5), ("a", 3)] := by decide +kernel
/-- ties in the score are ordered by member -/
example : absZSet (topkInsertCmds exHeap 3 "aa" 5 exZ₄).1 exHeap = some [("a", 3), ("aa", 5), ("b", 5)] := by
  decide +kernel

/-- a member with score 0 (unreachable through `Insert`, whose counts are ≥ 1, but possible
    through `Import`): `index > 0` is false, no ZREM, and ZADD still replaces the entry. -/
def exZ0 : Store := Store.empty.set exHeap (.zset [("a", 0), ("b", 4)])
example : absZSet exZ0 exHeap = some [("a", 0), ("b", 4)] := by decide +kernel
example : (cmdZSCORE exHeap "a" exZ0).2 = some (some 0) := by decide +kernel
example : absZSet (topkInsertCmds exHeap 2 "a" 7 exZ0).1 exHeap = some [("b", 4), ("a", 7)] := by decide +kernel
example : TopK.offerRedis 2 [("a", 0), ("b", 4)] "a" 7 = [("b", 4), ("a", 7)] := by decide +kernel

/-- k = 0: an accepted offer is added and the minimum popped at once. -/
example : (topkInsertCmds exHeap 0 "a" 1 exZ0).1 exHeap = some (.zset [("b", 4)]) := by decide +kernel
/-- popping the last element deletes the key, as Redis does. -/
example : (cmdZPOPMIN exHeap exZ₁).1 exHeap = none := by decide +kernel
/-- a non-canonical list is not the content of a sorted set; another type is an error. -/
example : absZSet (Store.empty.set exHeap (.zset [("b", 4), ("a", 0)])) exHeap = none := by decide +kernel
example : absZSet (Store.empty.set exHeap (.zset [("a", 1), ("a", 2)])) exHeap = none := by decide +kernel
example : (topkInsertCmds exHeap 2 "a" 1 (Store.empty.set exHeap (.list ["x"]))).2 = none := by decide +kernel

end examples

end Gostatix.Redis
