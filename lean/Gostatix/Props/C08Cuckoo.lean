/-
  C08Cuckoo — cuckoo filter: the Redis-backed and the in-memory variant answer identically as
  long as no randomly chosen relocation (eviction) has occurred.

  `Sim emp m r` relates an in-memory filter `m : Cuckoo (BucketMem F)` and a Redis-backed filter
  `r : Cuckoo (BucketRedis F)`: same parameters, same `length`, both well-formed, and every bucket
  holds the same MULTISET of non-empty fingerprints (hence the same occupancy, the same cached
  bucket length, the same answer to `isFree`).  The slot ORDER inside a bucket is deliberately not
  related: bucket_mem.go writes the first empty slot of a fixed array, bucket_redis.go `LPUSH`es
  at the head of a list (or re-uses the first hole), so after inserting 1 then 2 into one bucket
  the slots are `[1, 2]` in memory and `[2, 1]` in Redis.

  Proved: `Sim` holds for the two new filters; `Lookup` agrees; `Remove` returns the same Boolean
  and preserves `Sim`; an `Insert` that finds room in one of its two candidate buckets returns
  true on both sides and preserves `Sim`, for any `destructive` / `side` / `slots`;
  `C08_cuckoo_until_kick`: over every history of such operations the two variants return the same
  answer and the same `length` at every step.

  NOT covered: an `Insert` that takes the eviction path (both candidate buckets full).  It evicts
  the fingerprint at a random slot INDEX, and the same index holds different fingerprints in the
  two variants, so the relocation chains differ; `C08_cuckoo_kick_differs` is a concrete run where
  the in-memory `Insert` then succeeds and the Redis one fails.

  Everything holds for any number of buckets `n` and ANY in-range alternate-bucket map `alt` (no
  involution hypothesis), elements being given by their positions `(fp, i1, alt i1 fp)` with
  `fp ≠ emp` and `i1 < n`.  Helper lemmas: Gostatix/Proofs/CuckooSim.lean.
-/
import Gostatix.Proofs.CuckooSim
namespace Gostatix.Cuckoo

section
variable {F : Type} [DecidableEq F] [Inhabited (BucketMem F)] [Inhabited (BucketRedis F)]

theorem C08_cuckoo_sim_def (emp : F) (m : Cuckoo (BucketMem F)) (r : Cuckoo (BucketRedis F)) :
    Sim emp m r ↔
      (m.n = r.n ∧ m.bsize = r.bsize ∧ m.fpl = r.fpl ∧ m.retries = r.retries) ∧
      m.length = r.length ∧ Mem.WF emp m ∧ Redis.WF emp r ∧
      ∀ j, j < m.n → ∀ f, f ≠ emp → Mem.cnt m j f = Redis.cnt r j f :=
  ⟨fun h => ⟨⟨h.n, h.bsize, h.fpl, h.retries⟩, h.length, h.wfm, h.wfr, h.cnt⟩,
   fun ⟨⟨a, b, c, d⟩, e, f, g, k⟩ => ⟨a, b, c, d, e, f, g, k⟩⟩

theorem C08_cuckoo_sim_empty (emp : F) (n bsize fpl retries : Nat) :
    Sim emp (Mem.empty emp n bsize fpl retries) (Redis.empty n bsize fpl retries) :=
  ⟨rfl, rfl, rfl, rfl, rfl, Mem.empty_wf emp n bsize fpl retries, Redis.empty_wf emp n bsize fpl retries,
    fun j hj f hf => (Mem.empty_cnt emp n bsize fpl retries j f hj hf).trans
      (Redis.empty_cnt n bsize fpl retries j f hj).symm⟩

/-- **Same occupancy**: related filters have, bucket by bucket, the same number of occupied
    slots, the same cached bucket length and the same answer to "is there room?". -/
theorem C08_cuckoo_sim_occupancy (emp : F) (m : Cuckoo (BucketMem F)) (r : Cuckoo (BucketRedis F))
    (h : Sim emp m r) (j : Nat) (hj : j < m.n) :
    occ emp (bucketAt m.buckets j).elements = occ emp (bucketAt r.buckets j).list ∧
    (bucketAt m.buckets j).length = (bucketAt r.buckets j).len ∧
    BucketMem.isFree (bucketAt m.buckets j) = BucketRedis.isFree (bucketAt r.buckets j) :=
  ⟨h.occ_eq j hj, h.bucketLen j hj, h.isFree j hj⟩

theorem C08_cuckoo_sim_stored (emp : F) (m : Cuckoo (BucketMem F)) (r : Cuckoo (BucketRedis F))
    (h : Sim emp m r) : Mem.stored emp m = Redis.stored emp r := by
  rw [← h.wfm.length, ← h.wfr.length]; exact h.length

theorem C08_cuckoo_lookup (emp : F) (m : Cuckoo (BucketMem F)) (r : Cuckoo (BucketRedis F))
    (h : Sim emp m r) (fp : F) (i1 i2 : Nat) (hfp : fp ≠ emp) (hi1 : i1 < m.n) (hi2 : i2 < m.n) :
    lookup (BucketMem.ops emp) m fp i1 i2 = lookup (BucketRedis.ops emp) r fp i1 i2 := by
  unfold lookup
  rw [h.lookupB i1 hi1 fp hfp, h.lookupB i2 hi2 fp hfp]

theorem C08_cuckoo_remove (emp : F) (m : Cuckoo (BucketMem F)) (r : Cuckoo (BucketRedis F))
    (h : Sim emp m r) (fp : F) (i1 i2 : Nat) (hfp : fp ≠ emp) (hi1 : i1 < m.n) (hi2 : i2 < m.n) :
    (remove (BucketMem.ops emp) m fp i1 i2).2 = (remove (BucketRedis.ops emp) r fp i1 i2).2 ∧
    Sim emp (remove (BucketMem.ops emp) m fp i1 i2).1 (remove (BucketRedis.ops emp) r fp i1 i2).1 := by
  -- both sides take the same branch: the bucket-level lookups agree
  have e1 := h.lookupB i1 hi1 fp hfp
  have e2 := h.lookupB i2 hi2 fp hfp
  rcases remove_cases (o := BucketMem.ops emp) m fp i1 i2 with ⟨l1, hm⟩ | ⟨l1, l2, hm⟩ | ⟨l1, l2, hm⟩
  · rw [hm, remove_of_lookup1 r fp i1 i2 (e1 ▸ l1)]
    exact ⟨rfl, sim_rem h fp i1 hfp hi1 l1⟩
  · rw [hm, remove_of_lookup2 r fp i1 i2 (e1 ▸ l1) (e2 ▸ l2)]
    exact ⟨rfl, sim_rem h fp i2 hfp hi2 l2⟩
  · rw [hm, remove_absent r fp i1 i2 (by rw [lookup, ← e1, ← e2, l1, l2]; rfl)]
    exact ⟨rfl, h⟩

/-- **An `Insert` that does not take the eviction path** (bucket `i1` or bucket `i2` has room)
    **returns true on both sides and preserves the relation** — for any `destructive`, `side`,
    `slots` and `alt`, which may even differ between the two sides: they are not read on this
    path. -/
theorem C08_cuckoo_insert_nokick (emp : F) (m : Cuckoo (BucketMem F)) (r : Cuckoo (BucketRedis F))
    (h : Sim emp m r) (alt alt' : Nat → F → Nat) (fp : F) (i1 i2 : Nat)
    (d side d' side' : Bool) (slots slots' : List Nat) (hfp : fp ≠ emp)
    (hi1 : i1 < m.n) (hi2 : i2 < m.n)
    (hfree : BucketMem.isFree (bucketAt m.buckets i1) = true ∨
      BucketMem.isFree (bucketAt m.buckets i2) = true) :
    ∃ m' r', insert (BucketMem.ops emp) alt m fp i1 i2 d side slots = .ok m' ∧
      insert (BucketRedis.ops emp) alt' r fp i1 i2 d' side' slots' = .ok r' ∧ Sim emp m' r' := by
  have f1 := h.isFree i1 hi1
  have f2 := h.isFree i2 hi2
  by_cases l1 : (BucketMem.ops emp).isFree (bucketAt m.buckets i1) = true
  · exact ⟨_, _, insert_of_free1 alt m fp i1 i2 d side slots l1,
      insert_of_free1 alt' r fp i1 i2 d' side' slots' (f1 ▸ l1), sim_add h fp i1 hfp hi1 l1⟩
  · have l2 : (BucketMem.ops emp).isFree (bucketAt m.buckets i2) = true := hfree.resolve_left l1
    have l1 := Bool.eq_false_iff.mpr l1
    exact ⟨_, _, insert_of_free2 alt m fp i1 i2 d side slots l1 l2,
      insert_of_free2 alt' r fp i1 i2 d' side' slots' (f1 ▸ l1) (f2 ▸ l2), sim_add h fp i2 hfp hi2 l2⟩

theorem C08_cuckoo_nokick_iff (emp : F) (m : Cuckoo (BucketMem F)) (r : Cuckoo (BucketRedis F))
    (h : Sim emp m r) (alt : Nat → F → Nat) (op : COp F)
    (hAlt : ∀ j f, j < m.n → alt j f < m.n) (hv : ValidPos emp m.n op) :
    NoKickOp (BucketMem.ops emp) alt m op ↔ NoKickOp (BucketRedis.ops emp) alt r op := by
  cases op with
  | insert fp i1 d side slots =>
    show (_ = true ∨ _ = true) ↔ (_ = true ∨ _ = true)
    rw [h.isFree i1 hv.2, h.isFree _ (hAlt i1 fp hv.2)]
  | remove fp i1 => exact Iff.rfl
  | lookup fp i1 => exact Iff.rfl

theorem sim_step (emp : F) (alt : Nat → F → Nat) (m : Cuckoo (BucketMem F))
    (r : Cuckoo (BucketRedis F)) (h : Sim emp m r) (op : COp F)
    (hAlt : ∀ j f, j < m.n → alt j f < m.n) (hv : ValidPos emp m.n op)
    (hnk : NoKickOp (BucketMem.ops emp) alt m op) :
    (step (BucketMem.ops emp) alt m op).2 = (step (BucketRedis.ops emp) alt r op).2 ∧
    Sim emp (step (BucketMem.ops emp) alt m op).1 (step (BucketRedis.ops emp) alt r op).1 := by
  cases op with
  | insert fp i1 d side slots =>
    obtain ⟨m', r', hm, hr, hs⟩ := C08_cuckoo_insert_nokick emp m r h alt alt fp i1 (alt i1 fp)
      d side d side slots slots hv.1 hv.2 (hAlt i1 fp hv.2) hnk
    show CRes.isOk _ = CRes.isOk _ ∧ Sim emp (CRes.val _) (CRes.val _)
    rw [hm, hr]
    exact ⟨rfl, hs⟩
  | remove fp i1 => exact C08_cuckoo_remove emp m r h fp i1 (alt i1 fp) hv.1 hv.2 (hAlt i1 fp hv.2)
  | lookup fp i1 =>
    exact ⟨C08_cuckoo_lookup emp m r h fp i1 (alt i1 fp) hv.1 hv.2 (hAlt i1 fp hv.2), h⟩

omit [DecidableEq F] [Inhabited (BucketMem F)] [Inhabited (BucketRedis F)] in
theorem C08_cuckoo_trace_def {B : Type} [Inhabited B] (o : BucketOps B F) (alt : Nat → F → Nat)
    (c : Cuckoo B) (op : COp F) (h : List (COp F)) :
    trace o alt c [] = [] ∧
    trace o alt c (op :: h) =
      ((step o alt c op).2, (step o alt c op).1.length) :: trace o alt (step o alt c op).1 h :=
  ⟨rfl, rfl⟩

/-- **Until the first eviction the two variants are indistinguishable.**  From related states,
    over every history of (insert that finds room / remove / lookup) operations on elements with
    valid positions, both variants return the same answer at every step and show the same
    `length` after every step, and they end in related states (so this continues to hold). -/
theorem C08_cuckoo_until_kick (emp : F) (alt : Nat → F → Nat) (m : Cuckoo (BucketMem F))
    (r : Cuckoo (BucketRedis F)) (ops : List (COp F)) (hsim : Sim emp m r)
    (hAlt : ∀ j f, j < m.n → alt j f < m.n) (hv : ∀ op ∈ ops, ValidPos emp m.n op)
    (hnk : NoKick (BucketMem.ops emp) alt m ops) :
    trace (BucketMem.ops emp) alt m ops = trace (BucketRedis.ops emp) alt r ops ∧
    (run (BucketMem.ops emp) alt m ops).length = (run (BucketRedis.ops emp) alt r ops).length ∧
    Sim emp (run (BucketMem.ops emp) alt m ops) (run (BucketRedis.ops emp) alt r ops) := by
  induction ops generalizing m r with
  | nil => exact ⟨rfl, hsim.length, hsim⟩
  | cons op ops ih =>
    obtain ⟨ha, hs⟩ := sim_step emp alt m r hsim op hAlt (hv op List.mem_cons_self) hnk.1
    have hn : (step (BucketMem.ops emp) alt m op).1.n = m.n := (step_params alt m op).1
    obtain ⟨ht, hl, hf⟩ := ih _ _ hs (hn ▸ hAlt)
      (hn ▸ fun op' hop => hv op' (List.mem_cons_of_mem _ hop)) hnk.2
    exact ⟨by simp only [trace, ha, hs.length, ht], hl, hf⟩

theorem C08_cuckoo_until_kick_new (emp : F) (alt : Nat → F → Nat) (n bsize fpl retries : Nat)
    (ops : List (COp F)) (hAlt : ∀ j f, j < n → alt j f < n)
    (hv : ∀ op ∈ ops, ValidPos emp n op)
    (hnk : NoKick (BucketMem.ops emp) alt (Mem.empty emp n bsize fpl retries) ops) :
    trace (BucketMem.ops emp) alt (Mem.empty emp n bsize fpl retries) ops
      = trace (BucketRedis.ops emp) alt (Redis.empty n bsize fpl retries) ops ∧
    Sim emp (run (BucketMem.ops emp) alt (Mem.empty emp n bsize fpl retries) ops)
      (run (BucketRedis.ops emp) alt (Redis.empty n bsize fpl retries) ops) := by
  obtain ⟨h1, _, h3⟩ := C08_cuckoo_until_kick emp alt _ _ ops
    (C08_cuckoo_sim_empty emp n bsize fpl retries) hAlt hv hnk
  exact ⟨h1, h3⟩

theorem C08_cuckoo_until_kick_lookup (emp : F) (alt : Nat → F → Nat) (n bsize fpl retries : Nat)
    (ops : List (COp F)) (hAlt : ∀ j f, j < n → alt j f < n)
    (hv : ∀ op ∈ ops, ValidPos emp n op)
    (hnk : NoKick (BucketMem.ops emp) alt (Mem.empty emp n bsize fpl retries) ops)
    (fp : F) (i1 : Nat) (hfp : fp ≠ emp) (hi1 : i1 < n) :
    lookup (BucketMem.ops emp) (run (BucketMem.ops emp) alt (Mem.empty emp n bsize fpl retries) ops)
        fp i1 (alt i1 fp)
      = lookup (BucketRedis.ops emp)
        (run (BucketRedis.ops emp) alt (Redis.empty n bsize fpl retries) ops) fp i1 (alt i1 fp) := by
  obtain ⟨_, hs⟩ := C08_cuckoo_until_kick_new emp alt n bsize fpl retries ops hAlt hv hnk
  have hn : (run (BucketMem.ops emp) alt (Mem.empty emp n bsize fpl retries) ops).n = n :=
    (run_params alt _ ops).1
  exact C08_cuckoo_lookup emp _ _ hs fp i1 (alt i1 fp) hfp (by rw [hn]; exact hi1)
    (by rw [hn]; exact hAlt i1 fp hi1)

end

/-! ### non-vacuity (F = Nat, emp = 0) -/

/-- 4 buckets of 2 slots, `alt j f = (j xor f) mod 4` (an involution, as in the code) -/
def exAlt (j f : Nat) : Nat := (j ^^^ f) % 4

theorem exAlt_lt (j f : Nat) (_ : j < 4) : exAlt j f < 4 := Nat.mod_lt _ (by decide)

/-- fill bucket 0 with 1, 2; look both up; remove 1; put 9 into bucket 2; a lookup that misses;
    re-insert 1 -/
def exOpsC : List (COp Nat) :=
  [.insert 1 0 false true [0], .insert 2 0 false true [0], .lookup 1 0, .lookup 2 2,
   .remove 1 1, .insert 9 2 true false [1], .lookup 1 0, .remove 7 3, .insert 1 1 false true []]

example : ∀ op ∈ exOpsC, ValidPos 0 4 op := by decide +kernel
example : NoKick (BucketMem.ops 0) exAlt (Mem.empty 0 4 2 1 3) exOpsC := by decide +kernel

/-- the common trace: answers and `length` after each step -/
example : trace (BucketMem.ops 0) exAlt (Mem.empty 0 4 2 1 3) exOpsC =
    [(true, 1), (true, 2), (true, 2), (true, 2), (true, 1), (true, 2), (false, 2), (false, 2),
     (true, 3)] := by decide +kernel

example : trace (BucketRedis.ops 0) exAlt (Redis.empty 4 2 1 3 : Cuckoo (BucketRedis Nat)) exOpsC =
    [(true, 1), (true, 2), (true, 2), (true, 2), (true, 1), (true, 2), (false, 2), (false, 2),
     (true, 3)] := by decide +kernel

/-- the final states are related but NOT equal: e.g. bucket 0 is the slot array `[0, 2]` in memory
    and the list `[2, 0]` in Redis -/
example : (run (BucketMem.ops 0) exAlt (Mem.empty 0 4 2 1 3) exOpsC).buckets =
    [⟨2, [0, 2], 1⟩, ⟨2, [1, 0], 1⟩, ⟨2, [9, 0], 1⟩, ⟨2, [0, 0], 0⟩] := by decide +kernel

example : (run (BucketRedis.ops 0) exAlt (Redis.empty 4 2 1 3 : Cuckoo (BucketRedis Nat))
    exOpsC).buckets = [⟨2, [2, 0], 1⟩, ⟨2, [1], 1⟩, ⟨2, [9], 1⟩, ⟨2, [], 0⟩] := by decide +kernel

example :=
  C08_cuckoo_until_kick_new 0 exAlt 4 2 1 3 exOpsC exAlt_lt (by decide) (by decide)

/-! ### the eviction path is not covered: a concrete divergence -/

/-- buckets 0, 2, 3 are filled (no eviction needed), bucket 1 stays empty; then `3` is inserted
    with candidate buckets 0 and 3, both full, `retries = 1`, evicting slot 0 of bucket 0 -/
def exFill : List (COp Nat) :=
  [.insert 1 0 false true [0], .insert 2 0 false true [0],
   .insert 5 3 false true [0], .insert 6 3 false true [0],
   .insert 9 2 false true [0], .insert 10 2 false true [0]]

def exKick : COp Nat := .insert 3 0 false true [0]

/-- **With an eviction the variants diverge.**  After `exFill` (which has no eviction, so the
    states are related) slot 0 of bucket 0 holds 1 in memory and 2 in Redis.  The in-memory
    insert evicts 1, whose alternate bucket 1 has room: `Insert` returns true, `length` 7.
    The Redis insert evicts 2, whose alternate bucket 2 is full: with `retries = 1` it gives up,
    rolls back and reports "filter is full": false, `length` 6. -/
theorem C08_cuckoo_kick_differs :
    NoKick (BucketMem.ops 0) exAlt (Mem.empty 0 4 2 1 1) exFill ∧
    ¬ NoKick (BucketMem.ops 0) exAlt (Mem.empty 0 4 2 1 1) (exFill ++ [exKick]) ∧
    (bucketAt (run (BucketMem.ops 0) exAlt (Mem.empty 0 4 2 1 1) exFill).buckets 0).elements
      = [1, 2] ∧
    (bucketAt (run (BucketRedis.ops 0) exAlt (Redis.empty 4 2 1 1 : Cuckoo (BucketRedis Nat))
      exFill).buckets 0).list = [2, 1] ∧
    (trace (BucketMem.ops 0) exAlt (Mem.empty 0 4 2 1 1) (exFill ++ [exKick])).getLast?
      = some (true, 7) ∧
    (trace (BucketRedis.ops 0) exAlt (Redis.empty 4 2 1 1 : Cuckoo (BucketRedis Nat))
      (exFill ++ [exKick])).getLast? = some (false, 6) := by
  decide +kernel

/-- so `C08_cuckoo_until_kick` is false without the `NoKick` hypothesis -/
theorem C08_cuckoo_nokick_needed :
    ¬ ∀ (ops : List (COp Nat)), (∀ op ∈ ops, ValidPos 0 4 op) →
      trace (BucketMem.ops 0) exAlt (Mem.empty 0 4 2 1 1) ops
        = trace (BucketRedis.ops 0) exAlt (Redis.empty 4 2 1 1 : Cuckoo (BucketRedis Nat)) ops := by
  intro H
  have h := H (exFill ++ [exKick]) (by decide)
  have h5 := C08_cuckoo_kick_differs.2.2.2.2.1
  have h6 := C08_cuckoo_kick_differs.2.2.2.2.2
  rw [h, h6] at h5
  revert h5; decide

end Gostatix.Cuckoo
