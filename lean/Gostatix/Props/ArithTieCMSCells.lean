/-
  ArithTieCMSCells — arithmetic tie, count-min sketch counters: the three read-modify-write
  statements of count_min_sketch.go

      Update:  cms.matrix[r][c] += count        ->  Generated.Arith.cmsCellUpdate   cell   count
               cms.allSum += count              ->  Generated.Arith.cmsAllSumUpdate allSum count
      Merge:   cms.matrix[i][j] += other[i][j]  ->  Generated.Arith.cmsCellMerge    a      b

  as extract/arith.go translates them from the CURRENT Go source on every run (`UInt64`, wrapping),
  agree with the arithmetic of the machine model `CMSM` (Model/CMSM.lean) for ALL inputs.

  The translator emits a definition only while the statement keeps its shape (see the header of
  extract/arith.go, "Store kernels"): one unconditional store per function, alone in its loop body,
  no guard on its operands before it, no helper call (`satAdd(...)`), operands of type `uint64`.
  Otherwise the kernel is listed in `Generated.Arith.unsupported`, has NO definition, and the
  theorems below (and `all_cms_store_kernels_translated`) no longer elaborate.  A different
  operator (`-=`, `|=`, ...) or different operands are translated and break the `rfl`s.

  NOT here: that the Go loops around the statements are the list recursions `updRowsM`,
  `addRowsM`, `minInitM` of the model (Props/LoopTieCMS.lean); `getPositions`
  (Props/ArithTieCMS.lean).
-/
import Gostatix.Generated.Arith
import Gostatix.Model.CMSM

namespace Gostatix.ArithTie
open Gostatix.Generated.Arith

/-- `cms.matrix[r][c] += count` is the model's `cellUpdate` (wrapping `uint64` addition). -/
theorem tie_cmsCellUpdate (cell count : UInt64) :
    cmsCellUpdate cell count = CMSM.cellUpdate cell count := rfl

theorem tie_cmsAllSumUpdate (allSum count : UInt64) :
    cmsAllSumUpdate allSum count = CMSM.allSumUpdate allSum count := rfl

theorem tie_cmsCellMerge (a b : UInt64) : cmsCellMerge a b = CMSM.cellMerge a b := rfl

/-- read as numbers: the sum modulo 2^64 (so the statement is exact iff `cell + count < 2^64`). -/
theorem tie_cmsCellUpdate_toNat (cell count : UInt64) :
    (cmsCellUpdate cell count).toNat = (cell.toNat + count.toNat) % 2 ^ 64 :=
  UInt64.toNat_add cell count

theorem tie_cmsAllSumUpdate_toNat (allSum count : UInt64) :
    (cmsAllSumUpdate allSum count).toNat = (allSum.toNat + count.toNat) % 2 ^ 64 :=
  UInt64.toNat_add allSum count

theorem tie_cmsCellMerge_toNat (a b : UInt64) :
    (cmsCellMerge a b).toNat = (a.toNat + b.toNat) % 2 ^ 64 :=
  UInt64.toNat_add a b

/-- the row loop of `Update` with the generated cell statement -/
def updRowsG : List (List UInt64) → List Nat → UInt64 → List (List UInt64)
  | row :: m, p :: pos, c => modAt row p (fun cell => cmsCellUpdate cell c) :: updRowsG m pos c
  | m, _, _ => m

/-- the cell loops of `Merge` with the generated cell statement -/
def addRowsG : List (List UInt64) → List (List UInt64) → List (List UInt64)
  | r1 :: m1, r2 :: m2 => List.zipWith cmsCellMerge r1 r2 :: addRowsG m1 m2
  | m1, _ => m1

theorem tie_updRows (m : List (List UInt64)) (pos : List Nat) (c : UInt64) :
    updRowsG m pos c = CMSM.updRowsM m pos c := by
  induction m generalizing pos with
  | nil => cases pos <;> rfl
  | cons row m ih =>
    cases pos with
    | nil => rfl
    | cons p pos => exact congrArg (_ :: ·) (ih pos)

theorem tie_addRows (a b : List (List UInt64)) : addRowsG a b = CMSM.addRowsM a b := by
  induction a generalizing b with
  | nil => cases b <;> rfl
  | cons r1 a ih =>
    cases b with
    | nil => rfl
    | cons r2 b => exact congrArg (_ :: ·) (ih b)

/-- **`Update` of the machine model = the Go statements**: the matrix is updated by
    `cmsCellUpdate` at the probed cell of every row, `allSum` by `cmsAllSumUpdate`. -/
theorem tie_cmsUpdateStep (s : CMSM) (pos : List Nat) (count : UInt64) :
    s.updateM pos count
      = { s with m := updRowsG s.m pos count, allSum := cmsAllSumUpdate s.allSum count } := by
  rw [tie_updRows]; rfl

/-- **`Merge` of the machine model = the Go statements**: after the two dimension checks every
    cell is `cmsCellMerge` of the two cells; nothing else changes. -/
theorem tie_cmsMergeStep (a b : CMSM) :
    CMSM.mergeM a b
      = if a.rows ≠ b.rows then .err
        else if a.cols ≠ b.cols then .err
        else .ok { a with m := addRowsG a.m b.m } := by
  rw [tie_addRows]; rfl

theorem all_cms_store_kernels_translated :
    ∀ k ∈ ["cmsCellUpdate", "cmsAllSumUpdate", "cmsCellMerge"],
      k ∉ Generated.Arith.unsupported.map (·.1) := by decide

example : cmsCellUpdate 18446744073709551615 2 = 1 := by decide
example : cmsCellMerge 9223372036854775808 9223372036854775808 = 0 := by decide
example : cmsAllSumUpdate 7 5 = 12 := by decide

end Gostatix.ArithTie
