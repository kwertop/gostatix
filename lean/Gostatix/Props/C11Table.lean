/-
  C11 (binary WriteTo / ReadFrom) — the field sequences of the Go methods, decided over the table
  REGENERATED from /repo's current sources on every run (`Gostatix/Generated/LayoutTable.lean`,
  extract/layout.go), and compared with the sequences `Model/Codec.lean`'s `enc…` / `dec…` use.

  The codecs of Model/Codec.lean are hand transcriptions.  Proved here by `decide` about the Go source
  as the syntactic extractor reads it: every stream operation had a shape the extractor reads
  (`C11_layout_understood`: no conditional write, no use of the stream outside `binary.Write/Read`,
  `stream.Write`, `io.ReadFull`, nested calls); one byte order (`C11_one_byte_order`); for each of
  the seven in-memory types the write and the read sequence are both the list written next to the
  theorem (`C11_layout_*`), hence alike (`C11_write_read_agree`).  The link from those lists to the
  Lean `enc…` / `dec…` terms is by reading (the comment on each list) plus checks on concrete data
  (`C11_unit_trace_*`): on one image per format in which every loop runs exactly once, the reads the
  Lean decoder performs (`Dec.trace`) and the length of the Lean encoding are the chunk sizes the
  table prescribes (`unitWidths`).  Not covered: loop BOUNDS (the table records only that an
  operation is inside a loop); the differential tests and the `WF` hypotheses of C11 cover those.
-/
import Gostatix.Generated.LayoutTable
import Gostatix.Model.Codec
namespace Gostatix.Generated
open Gostatix Gostatix.Codec

def entryOf (typ dir : String) : Option LayoutEntry :=
  layoutTable.find? (fun e => e.typ == typ && e.dir == dir)
def opsOf (typ dir : String) : List StreamOp := ((entryOf typ dir).map (·.ops)).getD []

/-- the structure a nested call's receiver type names: `T` and `*T` name `T`.
    The one pairing that is not by name: `BloomFilter.WriteTo` calls `writeTo` on its field of the
    interface type `IBitSet`, after returning an error unless `isBitSetMem(bloomFilter.filter)`
    (bloom_filter.go:289-291, 302); `ReadFrom` builds a `&BitSetMem{}` (bloom_filter.go:322). -/
def nestedTarget (ty : String) : String :=
  if ty == "IBitSet" then "BitSetMem"
  else match ty.toList with
    | '*' :: r => String.ofList r
    | _ => ty

/-- what a write operation and the read operation that consumes it have in common -/
structure Shape where
  cls : String     -- "bin": binary.Write / binary.Read;  "raw": stream.Write / io.ReadFull;
                   -- "nested": writeTo / readFrom;  "Nested": WriteTo / ReadFrom
  ty : String      -- static type of the value; for nested calls the structure
  depth : Nat      -- number of enclosing loops
  deriving Repr, DecidableEq

def StreamOp.shape (o : StreamOp) : Shape :=
  if o.kind == "binary.Write" || o.kind == "binary.Read" then ⟨"bin", o.ty, o.depth⟩
  else if o.kind == "stream.Write" || o.kind == "io.ReadFull" then ⟨"raw", o.ty, o.depth⟩
  else if o.kind == "nested" && (o.callee == "writeTo" || o.callee == "readFrom") then
    ⟨"nested", nestedTarget o.ty, o.depth⟩
  else if o.kind == "nested" && (o.callee == "WriteTo" || o.callee == "ReadFrom") then
    ⟨"Nested", nestedTarget o.ty, o.depth⟩
  else ⟨"?", o.ty, o.depth⟩

def writeShape (typ : String) : List Shape := (opsOf typ "write").map StreamOp.shape
def readShape (typ : String) : List Shape := (opsOf typ "read").map StreamOp.shape

def u64 (d : Nat) : Shape := ⟨"bin", "uint64", d⟩
def f64 (d : Nat) : Shape := ⟨"bin", "float64", d⟩
def bytes (d : Nat) : Shape := ⟨"raw", "[]byte", d⟩

def memTypes : List String :=
  ["BloomFilter", "BitSetMem", "CuckooFilter", "BucketMem", "CountMinSketch", "HyperLogLog", "TopK"]

/-! ## the table was understood, one byte order -/

theorem C11_layout_understood :
    layoutTable.all (fun e => !e.unknown && e.ops.all (fun o => !o.unknown)) = true ∧
    layoutTable.map (fun e => (e.typ, e.method, e.dir)) =
      [("BitSetMem", "readFrom", "read"), ("BitSetMem", "writeTo", "write"),
       ("BitSetRedis", "readFrom", "read"), ("BitSetRedis", "writeTo", "write"),
       ("BloomFilter", "ReadFrom", "read"), ("BloomFilter", "WriteTo", "write"),
       ("BucketMem", "readFrom", "read"), ("BucketMem", "writeTo", "write"),
       ("CountMinSketch", "ReadFrom", "read"), ("CountMinSketch", "WriteTo", "write"),
       ("CuckooFilter", "ReadFrom", "read"), ("CuckooFilter", "WriteTo", "write"),
       ("HyperLogLog", "ReadFrom", "read"), ("HyperLogLog", "WriteTo", "write"),
       ("TopK", "ReadFrom", "read"), ("TopK", "WriteTo", "write")] ∧
    -- bitset_redis.go:238-244: the Redis bit set has no image
    opsOf "BitSetRedis" "write" = [] ∧ opsOf "BitSetRedis" "read" = [] := by decide +kernel

/-- every `binary.Write` / `binary.Read` uses `binary.BigEndian` (the other operations move raw bytes
    and have no byte order) -/
theorem C11_one_byte_order :
    layoutTable.all (fun e => e.ops.all (fun o =>
      if o.kind == "binary.Write" || o.kind == "binary.Read" then o.order == "binary.BigEndian"
      else o.order == "")) = true := by decide +kernel

theorem C11_lean_is_big_endian :
    encU64 0x0102030405060708 = [1, 2, 3, 4, 5, 6, 7, 8] ∧ beVal [1, 2, 3, 4, 5, 6, 7, 8] = 0x0102030405060708 := by
  decide +kernel

/-! ## write and read sequences are the sequences of the Lean codec -/

/-- `encBloom` / `decBloom`: size, k, then the BitSetMem part.
    Go: two uint64, then `filter.writeTo` / `bitSet.readFrom`. -/
def bloomSeq : List Shape := [u64 0, u64 0, ⟨"nested", "BitSetMem", 0⟩]

/-- the BitSetMem part of `encBloom` / `decBloom`: `encU64 s.bsSize` / `decU64` (bsSize), then the image
    of bits-and-blooms/bitset's `WriteTo` / `ReadFrom` (external library, transcribed in the codec as
    `encU64 s.bsLen ++ encList encU64 s.words` / `decU64`, `replicateM (wordsNeeded bsLen) decU64`). -/
def bitsetSeq : List Shape := [u64 0, ⟨"Nested", "bitset.BitSet", 0⟩]

/-- `encCMS` / `decCMS`: rows, cols, allSum, then the rows (`replicateM rows (replicateM cols decU64)`).
    Go: three uint64, then inside the row loop ONE `binary.Write` / `binary.Read` of a `[]uint64` (the row:
    `encList encU64` / `replicateM cols decU64` — `encoding/binary` moves a slice of uint64 as its
    elements in order, 8 bytes each, in the given byte order). -/
def cmsSeq : List Shape := [u64 0, u64 0, u64 0, ⟨"bin", "[]uint64", 1⟩]

/-- `encHLL` / `decHLL`: m, nbp, bias (the float64 travels as its 64-bit pattern), then `.read m`
    (the registers, one byte each).
    Go: uint64, uint64, float64, then ONE `binary.Write` / `binary.Read` of the `[]uint8`. -/
def hllSeq : List Shape := [u64 0, u64 0, f64 0, ⟨"bin", "[]uint8", 0⟩]

/-- `encBucket` / `decBucket`: size, length, then `size` strings, each `encStr s = encU64 s.length ++ s`.
    Go: two uint64, then per slot a uint64 (the string length) and the raw bytes. -/
def bucketSeq : List Shape := [u64 0, u64 0, u64 1, bytes 1]

/-- `encCuckoo` / `decCuckoo`: five uint64, then `n` buckets.
    Go: size, bucketSize, fingerPrintLength, length, retries, then per bucket its `writeTo` / `readFrom`. -/
def cuckooSeq : List Shape := [u64 0, u64 0, u64 0, u64 0, u64 0, ⟨"nested", "BucketMem", 1⟩]

/-- `encTopK` / `decTopK`: k, errorRate bits, accuracy bits, the sketch (`encCMS` / `decCMS`), the heap
    length, then the heap entries, each `encStr name ++ encU64 frequency`.
    Go: uint64, float64, float64, the sketch's `WriteTo` / `ReadFrom`, uint64, then per heap entry
    a uint64 (name length), the raw name bytes, a uint64 (frequency). -/
def topkSeq : List Shape :=
  [u64 0, f64 0, f64 0, ⟨"Nested", "CountMinSketch", 0⟩, u64 0, u64 1, bytes 1, u64 1]

theorem C11_layout_bloom : writeShape "BloomFilter" = bloomSeq ∧ readShape "BloomFilter" = bloomSeq := by decide +kernel
theorem C11_layout_bitset : writeShape "BitSetMem" = bitsetSeq ∧ readShape "BitSetMem" = bitsetSeq := by decide +kernel
theorem C11_layout_cms : writeShape "CountMinSketch" = cmsSeq ∧ readShape "CountMinSketch" = cmsSeq := by decide +kernel
theorem C11_layout_hll : writeShape "HyperLogLog" = hllSeq ∧ readShape "HyperLogLog" = hllSeq := by decide +kernel
theorem C11_layout_bucket : writeShape "BucketMem" = bucketSeq ∧ readShape "BucketMem" = bucketSeq := by decide +kernel
theorem C11_layout_cuckoo : writeShape "CuckooFilter" = cuckooSeq ∧ readShape "CuckooFilter" = cuckooSeq := by decide +kernel
theorem C11_layout_topk : writeShape "TopK" = topkSeq ∧ readShape "TopK" = topkSeq := by decide +kernel

/-! ## … hence they agree -/

theorem C11_write_read_agree : memTypes.all (fun t => writeShape t == readShape t && !(writeShape t).isEmpty) = true := by
  simp only [memTypes, List.all_cons, List.all_nil, C11_layout_bloom, C11_layout_bitset, C11_layout_cms,
    C11_layout_hll, C11_layout_bucket, C11_layout_cuckoo, C11_layout_topk, beq_self_eq_true]
  rfl

/-! ## checks on concrete data: the Lean codec moves the chunks the table prescribes

  `Dec.trace d bs`: the sizes of the reads decoder `d` performs on input `bs`, in order.
  `unitWidths typ dir`: the chunk sizes the Go table prescribes when EVERY LOOP RUNS EXACTLY ONCE,
  nested calls expanded: `uint64` / `float64` = 8; a `[]uint64` row = 8 (one column); a `[]uint8` /
  `[]byte` = 2 (the sample images have 2 registers / 2-byte strings); the external bit set image =
  8 (length) + 8 (one word). -/

def _root_.Gostatix.Dec.trace {α : Type} : Dec α → Bytes → List Nat
  | .ret _, _ => []
  | .err, _ => []
  | .read n k, bs => if bs.length < n then [n] else n :: Dec.trace (k (bs.take n)) (bs.drop n)

def unitWidths : Nat → String → String → List Nat
  | 0, _, _ => []
  | fuel + 1, typ, dir =>
    (opsOf typ dir).flatMap (fun o =>
      if o.kind == "nested" then
        (if nestedTarget o.ty == "bitset.BitSet" then [8, 8] else unitWidths fuel (nestedTarget o.ty) dir)
      else if o.ty == "uint64" || o.ty == "float64" || o.ty == "[]uint64" then [8]
      else if o.ty == "[]uint8" || o.ty == "[]byte" then [2]
      else [0])

/-- the sum of the chunk sizes (the same number as `sumL` of Model/Basic.lean, written as a fold) -/
def sumN (l : List Nat) : Nat := l.foldl (· + ·) 0

def unitBloom : BloomImg := ⟨5, 3, 1, 1, [1]⟩
def unitCMS : CMSImg := ⟨1, 1, 7, [[9]]⟩
def unitHLL : HLLImg := ⟨2, 4, 99, [1, 2]⟩
/-- one slot holding "17" -/
def unitBucket : BucketImg := ⟨1, 1, [[0x31, 0x37]]⟩
def unitCuckoo : CuckooImg := ⟨1, 1, 2, 1, 500, [unitBucket]⟩
/-- one heap entry ("ab", 3) -/
def unitTopK : TopKImg := ⟨1, 11, 12, unitCMS, [([0x61, 0x62], 3)]⟩

theorem C11_unit_trace_bloom :
    Dec.trace decBloom (encBloom unitBloom) = unitWidths 3 "BloomFilter" "read" ∧
    (encBloom unitBloom).length = sumN (unitWidths 3 "BloomFilter" "write") ∧
    unitWidths 3 "BloomFilter" "read" = [8, 8, 8, 8, 8] := by decide +kernel

theorem C11_unit_trace_cms :
    Dec.trace decCMS (encCMS unitCMS) = unitWidths 3 "CountMinSketch" "read" ∧
    (encCMS unitCMS).length = sumN (unitWidths 3 "CountMinSketch" "write") ∧
    unitWidths 3 "CountMinSketch" "read" = [8, 8, 8, 8] := by decide +kernel

theorem C11_unit_trace_hll :
    Dec.trace decHLL (encHLL unitHLL) = unitWidths 3 "HyperLogLog" "read" ∧
    (encHLL unitHLL).length = sumN (unitWidths 3 "HyperLogLog" "write") ∧
    unitWidths 3 "HyperLogLog" "read" = [8, 8, 8, 2] := by decide +kernel

theorem C11_unit_trace_bucket :
    Dec.trace decBucket (encBucket unitBucket) = unitWidths 3 "BucketMem" "read" ∧
    (encBucket unitBucket).length = sumN (unitWidths 3 "BucketMem" "write") ∧
    unitWidths 3 "BucketMem" "read" = [8, 8, 8, 2] := by decide +kernel

theorem C11_unit_trace_cuckoo :
    Dec.trace decCuckoo (encCuckoo unitCuckoo) = unitWidths 3 "CuckooFilter" "read" ∧
    (encCuckoo unitCuckoo).length = sumN (unitWidths 3 "CuckooFilter" "write") ∧
    unitWidths 3 "CuckooFilter" "read" = [8, 8, 8, 8, 8, 8, 8, 8, 2] := by decide +kernel

theorem C11_unit_trace_topk :
    Dec.trace decTopK (encTopK unitTopK) = unitWidths 3 "TopK" "read" ∧
    (encTopK unitTopK).length = sumN (unitWidths 3 "TopK" "write") ∧
    unitWidths 3 "TopK" "read" = [8, 8, 8, 8, 8, 8, 8, 8, 8, 2, 8] := by decide +kernel

/-- the decoders accept these images and return them (so the traces above are traces of successful runs) -/
theorem C11_unit_images_decode :
    Dec.run decBloom (encBloom unitBloom) = some (unitBloom, []) ∧
    Dec.run decCMS (encCMS unitCMS) = some (unitCMS, []) ∧
    Dec.run decHLL (encHLL unitHLL) = some (unitHLL, []) ∧
    Dec.run decCuckoo (encCuckoo unitCuckoo) = some (unitCuckoo, []) ∧
    Dec.run decTopK (encTopK unitTopK) = some (unitTopK, []) := by decide +kernel

end Gostatix.Generated
