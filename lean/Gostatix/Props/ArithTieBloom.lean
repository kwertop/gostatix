/-
  ArithTieBloom — arithmetic tie, the integer part of Bloom `getIndex`: the definitions of Generated/Arith.lean
  agree with the hand-written `Nat` model for ALL inputs.  See Props/ArithTie.lean.
-/
import Gostatix.Generated.Arith
import Gostatix.Model.Bloom

namespace Gostatix.ArithTie
open Gostatix.Generated.Arith Gostatix.GoArith

/-- `(hashes[0] + j*hashes[1] + cubic) % uint64(size)` with `j = uint64(i)` is `Bloom.getIndex`,
    PROVIDED the float sub-term `uint64(math.Floor((j^3 - j)/6))` (an opaque input `cubic` of the
    generated definition; floats are not modelled) has the value the model assumes. -/
theorem tie_bloomIndexInt (h0 h1 i cubic size : UInt64) (_hs : size ≠ 0)
    (hcubic : cubic.toNat = (i.toNat ^ 3 - i.toNat) / 6) :
    (bloomIndexInt h0 h1 i cubic size).toNat
      = Bloom.getIndex h0.toNat h1.toNat i.toNat size.toNat := by
  unfold Bloom.getIndex
  rw [← hcubic]
  simp only [bloomIndexInt, UInt64.toNat_mod, UInt64.toNat_add, UInt64.toNat_mul,
    Nat.add_mod_mod, Nat.mod_add_mod, Nat.mul_comm]

example : (bloomIndexInt 18446744073709551610 7 5 20 11).toNat = 5
    ∧ Bloom.getIndex 18446744073709551610 7 5 11 = 5 ∧ (5 ^ 3 - 5) / 6 = 20 := by decide +kernel


end Gostatix.ArithTie
