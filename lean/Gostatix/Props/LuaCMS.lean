/-
  LuaCMS — the Count-Min scripts EXTRACTED from count_min_sketch_redis.go compute the hand-written
  models of Model/Redis.lean (and of Model/Equals.lean for `Equals`, of Model/Json.lean for Import/Export).

  `Generated/LuaScripts.lean` is regenerated from the Go sources on every run; `Lua.run` (Model/Lua.lean)
  gives the extracted ASTs their meaning.  The property theorems of C08/C09/C16/C19 are about hand-written
  models (`cmsInit`, `cmsUpdate`, `cmsCount`, `cmsMerge`, `CMSRedis.equals`).  Here the two are tied:
  for every store and all arguments that satisfy the stated preconditions, interpreting the extracted
  script on the KEYS/ARGV the Go code builds gives the store of the hand model and the reply that
  corresponds to its result.  A change of a script in the Go sources changes `LuaScripts.lean` and breaks
  these proofs unless the new script still computes the model.

  Covered (all 7 scripts of count_min_sketch_redis.go):
    * `count_min_sketch_redis_updateLists`         = `cmsUpdate`     (`lua_count_min_sketch_redis_updateLists_eq`)
    * `count_min_sketch_redis_countLists`          = `cmsCount`      (`lua_count_min_sketch_redis_countLists_eq`)
    * `count_min_sketch_redis_initMatrixRedis`     = `cmsInit`       (`lua_count_min_sketch_redis_initMatrixRedis_eq`)
    * `count_min_sketch_redis_mergeMatrixScript`   = `cmsMerge`      (`lua_count_min_sketch_redis_mergeMatrixScript_eq`)
    * `count_min_sketch_redis_compareMatrixScript` = `CMSRedis.equals` of Model/Equals.lean
                                                                     (`lua_count_min_sketch_redis_compareMatrixScript_eq`)
    * `count_min_sketch_redis_setMatrixScript`     = `Json.CMSRedis.setMatrix` of Model/Json.lean
                                                                     (`lua_count_min_sketch_redis_setMatrixScript_eq`)
    * `count_min_sketch_redis_fetchMatrixAsTable`  = `Json.CMSRedis.matrix` of Model/Json.lean
                                                                     (`lua_count_min_sketch_redis_fetchMatrixAsTable_eq`)
  Each with the corollary that transports the C08 theorem about the hand model to the extracted script
  (`lua_updateLists_abs`, `lua_countLists_abs`, `lua_initMatrixRedis_abs`, `lua_mergeMatrixScript_abs`).

  Shape of the statements.  The hand models return `Option α`: `none` = the script raised an error (the
  writes made so far stay).  The interpreter then returns `Outcome.error msg`; the message depends on which
  command or operator failed and is not part of the hand models, so the statements are
  `∃ msg, Lua.run … = (store of the model, match result of the model with | some a => .reply … | none => .error msg)`:
  same store in every case, a reply exactly when the model succeeds, the error message left open.

  Preconditions (each is needed; `…_differs` examples at the end show a run where the two sides differ
  without it):
    * numbers: the count, the columns and every list entry the script reads with `tonumber` stay `≤ 2^53`
      (`Lua.numLimit`), also after the addition the script performs: beyond that the interpreter answers
      `unsupported` (float64 is no longer exact) while the hand models count in `Nat`;
    * entries: every list entry that is READ is read the same way by `tonumber` (gopher-lua: blanks
      trimmed, `0x…`, signs) and by the hand models' `parseDecimal` (plain digits): `EntryAgrees`, i.e. it
      is a string of digits, or it is a string both reject.  Established by the library itself: every
      writer (`initMatrix`, `Update`, `Merge`, `setMatrix`) writes `decimal n`; on a store with
      `absCMS st h = some c` it holds (`updReadsAgree_of_abs`, `cntReadsAgree_of_abs`,
      `mergeReadsAgree_of_rows`).  No hypothesis on the TYPE of the keys is needed for Update, Count,
      init and Merge: an absent key, a key of another type and a short list make both sides fail
      (`redis.call` raises, the hand model returns `none`) with the same store.
      For Merge the condition is stated along the run (`MergeReadsAgree`); for distinct base keys it follows from
      the initial store (`mergeReadsAgree_of_rows`).
    * `unpack`: `columns ≤ 4800` (`Lua.unpackSafe`) for init and Merge — gopher-lua's fixed data stack;
      the hand models have no such limit (Model/Redis.lean header).
    * tables: `2 * rows < 2^26` resp. `columns + 1 < 2^26` (gopher-lua's array part, `Lua.maxArrayIndex`).
    * Equals (`redis.pcall`): the rows are canonical decimal lists or absent (`CanonRows`).  The hand
      model of Model/Equals.lean lives on matrices of naturals and ASSUMES canonical formatting; `pcall`
      of a failed `LRANGE` gives `nil` in miniredis (then `vals1[j]` raises) and an error table in Redis.
    * setMatrix (Import): the hand model `Json.CMSRedis.setMatrix` lives on the typed store of
      Model/Json.lean, so the statement relates the two stores (`CmsRel`); `1 ≤ columns ≤ 4800` and the cells
      fill whole rows (`cells = iters * columns`) — the script's `rows = (#ARGV - 1) / columns` is a float
      in Lua and `unsupported` for the interpreter unless the division is exact.
    * getMatrix (Export): hand model `Json.CMSRedis.matrix`, again through `CmsRel`; the reply is the
      array of the rows, each an array of bulk strings (the decimal spellings; the Go side reads them back
      with `strconv.Atoi`, `atoi_decimal`).  `CmsRel` makes every row key a list or absent; on a key of
      another type `redis.call('LRANGE')` raises while `Json.Store.getNums` reads `[]` (example at the end).

  Fuel: explicit linear bounds (`rows + columns + 60` at most: a loop costs one unit per round on top of its body).

  NOT covered: nothing of this group.

  The concrete examples at the end are checked with `decide +kernel` (the elaborator's `whnf` is too slow on the
  interpreter; no axiom beyond propext / Classical.choice / Quot.sound is involved); the runs on one chain of
  stores are decided together (`ex_runs`, `exI_runs`), the examples are their components.  `Outcome`/`Reply` have no
  decidable equality, hence the Boolean observers `Outcome.cmsIsInt` etc.

  Proofs: Proofs/LuaCore.lean (the interpreter), Proofs/LuaCMS.lean (loop bodies and loops).
-/
import Gostatix.Proofs.LuaCMS
import Gostatix.Props.C08
namespace Gostatix.LuaCMS
open Gostatix.Lua Gostatix.Redis Gostatix.Generated.LuaScripts

/-! ## Update -/

/-- `CountMinSketchRedis.Update(data, count)` with `pos = getPositions(data)`:
    KEYS = `r₀, c₀, r₁, c₁, …` (`cmsPosKeys`), ARGV = `len(KEYS), cms.key, count`. -/
theorem lua_count_min_sketch_redis_updateLists_eq (st : Store) (h : CMSHandle) (pos : List Nat) (count : Nat)
    (fuel : Nat) (hfuel : pos.length + 30 ≤ fuel)
    (hlen : 2 * pos.length < maxArrayIndex) (hcount : count ≤ numLimit) (hpos : ∀ c ∈ pos, c ≤ numLimit)
    (hreads : UpdReadsAgree h.key count pos st) :
    ∃ msg, Lua.run fuel count_min_sketch_redis_updateLists (cmsPosKeys pos)
        [decimal (2 * pos.length), h.key, decimal count] st =
      ((cmsUpdate h pos count st).1,
        match (cmsUpdate h pos count st).2 with
        | some _ => .reply (.int 1)
        | none => .error msg) := by
  unfold cmsUpdate
  obtain ⟨F, rfl⟩ : ∃ F, fuel = F + 12 := ⟨fuel - 12, by omega⟩
  have h2 : 2 * pos.length ≤ numLimit := by unfold maxArrayIndex at hlen; unfold numLimit; omega
  have h3 : ((2 * pos.length : Nat) - 1 : Int).natAbs ≤ numLimit := by unfold numLimit at *; omega
  refine (run_of_post (cmsUpdateLoop h.key count 0 pos st) (fun _ => .int 1) ?_).imp fun msg e =>
    e.trans (by cases (cmsUpdateLoop h.key count 0 pos st).2 <;> rfl)
  lua_run [count_min_sketch_redis_updateLists, initState, luaToNumber_decimal, hcount, h2, checkNum_ok h3]
  refine Post.next ((upd_loop h.key _ count pos _ [] [] st hlen hpos hreads (F + 7) (by omega)).imp fun s' h => ?_)
  lua_run []
  exact ⟨(), h, rfl⟩

/-- `C08_cms_update` through the extracted script: on a store that represents the sketch `c` the script
    replies `true` and leaves a store that represents `c.update pos count`. -/
theorem lua_updateLists_abs (st : Store) (h : CMSHandle) (c : CMS) (pos : List Nat) (count : Nat) (fuel : Nat)
    (hfuel : pos.length + 30 ≤ fuel) (habs : absCMS st h = some c)
    (hlen : pos.length ≤ h.rows) (hpos : ∀ p ∈ pos, p < h.cols)
    (hrows : 2 * h.rows < maxArrayIndex) (hcols : h.cols ≤ numLimit) (hcount : count ≤ numLimit)
    (hb : ∀ row ∈ c.m, ∀ x ∈ row, x + count ≤ numLimit) :
    ∃ st', Lua.run fuel count_min_sketch_redis_updateLists (cmsPosKeys pos)
        [decimal (2 * pos.length), h.key, decimal count] st = (st', .reply (.int 1)) ∧
      absCMS st' h = some (c.update pos count) := by
  obtain ⟨msg, hrun⟩ := lua_count_min_sketch_redis_updateLists_eq st h pos count fuel hfuel (by omega) hcount
    (fun p hp => Nat.le_trans (Nat.le_of_lt (hpos p hp)) hcols) (updReadsAgree_of_abs habs pos count hlen hb)
  obtain ⟨st', hm, habs'⟩ := C08_cms_update h st c pos count habs hlen hpos
  rw [hm] at hrun
  exact ⟨st', hrun, habs'⟩

/-! ## Count -/

/-- `CountMinSketchRedis.Count(data)`: KEYS as for `Update`, ARGV = `len(KEYS), cms.key`. -/
theorem lua_count_min_sketch_redis_countLists_eq (st : Store) (h : CMSHandle) (pos : List Nat)
    (fuel : Nat) (hfuel : pos.length + 30 ≤ fuel)
    (hlen : 2 * pos.length < maxArrayIndex) (hpos : ∀ c ∈ pos, c ≤ numLimit)
    (hreads : CntReadsAgree h.key pos st) :
    ∃ msg, Lua.run fuel count_min_sketch_redis_countLists (cmsPosKeys pos)
        [decimal (2 * pos.length), h.key] st =
      ((cmsCount h pos st).1,
        match (cmsCount h pos st).2 with
        | some mn => .reply (.int mn)
        | none => .error msg) := by
  unfold cmsCount
  obtain ⟨F, rfl⟩ : ∃ F, fuel = F + 12 := ⟨fuel - 12, by omega⟩
  have h2 : 2 * pos.length ≤ numLimit := by unfold maxArrayIndex at hlen; unfold numLimit; omega
  have h3 : ((2 * pos.length : Nat) - 1 : Int).natAbs ≤ numLimit := by unfold numLimit at *; omega
  refine (run_of_post (cmsCountLoop h.key 0 pos 0 st) (fun mn : Nat => .int mn) ?_).imp fun msg e =>
    e.trans (by cases (cmsCountLoop h.key 0 pos 0 st).2 <;> rfl)
  lua_run [count_min_sketch_redis_countLists, initState, luaToNumber_decimal h2, checkNum_ok h3]
  refine Post.next ((cnt_loop h.key _ pos _ [] [] st hlen hpos hreads (F + 7) (by omega)).mono
    (fun s' ⟨mn, lg', hs, hM⟩ => ?_) (fun _ _ h => h) (fun _ h => h.1 ▸ h.2))
  subst hs
  lua_run [cntEnv]
  exact ⟨mn, hM, rfl⟩

/-- `C08_cms_count` through the extracted script: the reply is the in-memory estimate. -/
theorem lua_countLists_abs (st : Store) (h : CMSHandle) (c : CMS) (pos : List Nat) (fuel : Nat)
    (hfuel : pos.length + 30 ≤ fuel) (habs : absCMS st h = some c)
    (hlen : pos.length ≤ h.rows) (hpos : ∀ p ∈ pos, p < h.cols)
    (hrows : 2 * h.rows < maxArrayIndex) (hcols : h.cols ≤ numLimit)
    (hb : ∀ row ∈ c.m, ∀ x ∈ row, x ≤ numLimit) :
    Lua.run fuel count_min_sketch_redis_countLists (cmsPosKeys pos) [decimal (2 * pos.length), h.key] st =
      (st, .reply (.int (c.count pos))) := by
  obtain ⟨msg, hrun⟩ := lua_count_min_sketch_redis_countLists_eq st h pos fuel hfuel (by omega)
    (fun p hp => Nat.le_trans (Nat.le_of_lt (hpos p hp)) hcols) (cntReadsAgree_of_abs habs pos hlen hb)
  rw [C08_cms_count h st c pos habs hlen hpos] at hrun
  exact hrun

/-! ## initMatrix -/

/-- `initMatrix()` of the constructor: KEYS = `cms.key`, ARGV = `rows, columns`. -/
theorem lua_count_min_sketch_redis_initMatrixRedis_eq (st : Store) (h : CMSHandle)
    (fuel : Nat) (hfuel : h.rows + h.cols + 45 ≤ fuel)
    (hcols : h.cols ≤ unpackSafe) (hrows : h.rows ≤ numLimit) :
    ∃ msg, Lua.run fuel count_min_sketch_redis_initMatrixRedis [h.key] [decimal h.rows, decimal h.cols] st =
      ((cmsInit h st).1,
        match (cmsInit h st).2 with
        | some _ => .reply (.int 1)
        | none => .error msg) := by
  unfold cmsInit
  obtain ⟨F, rfl⟩ : ∃ F, fuel = F + 12 := ⟨fuel - 12, by omega⟩
  refine (run_of_post (cmsInitLoop h.key h.cols 0 h.rows st) (fun _ => .int 1) ?_).imp fun msg e =>
    e.trans (by cases (cmsInitLoop h.key h.cols 0 h.rows st).2 <;> rfl)
  lua_run [count_min_sketch_redis_initMatrixRedis, initState, luaToNumber_decimal hrows]
  refine Post.next ((init_loop h.key h.rows h.cols _ [] st hcols hrows (F + 7) (by omega)).imp fun s' h => ?_)
  lua_run []
  exact ⟨(), h, rfl⟩

/-- `C08_cms_init` through the extracted script: it leaves the all-zero sketch. -/
theorem lua_initMatrixRedis_abs (st : Store) (h : CMSHandle) (fuel : Nat) (hfuel : h.rows + h.cols + 45 ≤ fuel)
    (hpos : 0 < h.cols) (hcols : h.cols ≤ unpackSafe) (hrows : h.rows ≤ numLimit) :
    ∃ st', Lua.run fuel count_min_sketch_redis_initMatrixRedis [h.key] [decimal h.rows, decimal h.cols] st =
        (st', .reply (.int 1)) ∧
      absCMS st' h = some (CMS.new h.rows h.cols) := by
  obtain ⟨msg, hrun⟩ := lua_count_min_sketch_redis_initMatrixRedis_eq st h fuel hfuel hcols hrows
  obtain ⟨st', hm, habs'⟩ := C08_cms_init h st hpos
  rw [hm] at hrun
  exact ⟨st', hrun, habs'⟩

/-! ## Merge -/

/-- `mergeMatrix(key)`, reached from `Merge` after the Go-side dimension checks (`hr`, `hc`):
    KEYS = `cms.key, cms1.key`, ARGV = `rows, columns`. -/
theorem lua_count_min_sketch_redis_mergeMatrixScript_eq (st : Store) (h₁ h₂ : CMSHandle)
    (hr : h₁.rows = h₂.rows) (hc : h₁.cols = h₂.cols)
    (fuel : Nat) (hfuel : h₁.rows + h₁.cols + 60 ≤ fuel)
    (hcols : h₁.cols ≤ unpackSafe) (hrows : h₁.rows ≤ numLimit)
    (hreads : MergeReadsAgree h₁.key h₂.key h₁.cols 0 h₁.rows st) :
    ∃ msg, Lua.run fuel count_min_sketch_redis_mergeMatrixScript [h₁.key, h₂.key]
        [decimal h₁.rows, decimal h₁.cols] st =
      ((cmsMerge h₁ h₂ st).1,
        match (cmsMerge h₁ h₂ st).2 with
        | some _ => .reply (.int 1)
        | none => .error msg) := by
  have e : cmsMerge h₁ h₂ = cmsMergeLoop h₁.key h₂.key h₁.cols 0 h₁.rows := by
    unfold cmsMerge
    rw [if_neg (fun hne => hne hr), if_neg (fun hne => hne hc)]
  rw [e]
  obtain ⟨F, rfl⟩ : ∃ F, fuel = F + 14 := ⟨fuel - 14, by omega⟩
  have hcl : h₁.cols ≤ numLimit := by unfold unpackSafe at hcols; unfold numLimit; omega
  refine (run_of_post (cmsMergeLoop h₁.key h₂.key h₁.cols 0 h₁.rows st) (fun _ => .int 1) ?_).imp fun msg e =>
    e.trans (by cases (cmsMergeLoop h₁.key h₂.key h₁.cols 0 h₁.rows st).2 <;> rfl)
  lua_run [count_min_sketch_redis_mergeMatrixScript, initState, luaToNumber_decimal, hrows, hcl]
  refine Post.next ((merge_loop h₁.key h₂.key h₁.rows h₁.cols _ [] st hcols hrows hreads (F + 8) (by omega)).imp fun s' h => ?_)
  lua_run []
  exact ⟨(), h, rfl⟩

/-- `C08_cms_merge` through the extracted script: two sketches of equal dimensions under different row
    keys, all sums `≤ 2^53`: the script replies `true`, the first handle then represents the sum, the
    second is unchanged. -/
theorem lua_mergeMatrixScript_abs (st : Store) (h₁ h₂ : CMSHandle) (a b : CMS)
    (ha : absCMS st h₁ = some a) (hb : absCMS st h₂ = some b)
    (hr : h₁.rows = h₂.rows) (hc : h₁.cols = h₂.cols)
    (fuel : Nat) (hfuel : h₁.rows + h₁.cols + 60 ≤ fuel)
    (hpos : 0 < h₁.cols) (hcols : h₁.cols ≤ unpackSafe) (hrows : h₁.rows ≤ numLimit)
    (hd : ∀ i j, i < h₁.rows → j < h₂.rows → cmsRowKey h₁.key i ≠ cmsRowKey h₂.key j)
    (hsum : ∀ p ∈ List.zip a.m b.m, ∀ q ∈ List.zip p.1 p.2, q.1 + q.2 ≤ numLimit) :
    ∃ st', Lua.run fuel count_min_sketch_redis_mergeMatrixScript [h₁.key, h₂.key]
        [decimal h₁.rows, decimal h₁.cols] st = (st', .reply (.int 1)) ∧
      absCMS st' h₁ = some { a with m := CMS.addRows a.m b.m } ∧ absCMS st' h₂ = some b := by
  obtain ⟨a1, a2, a3, a4⟩ := (absCMS_eq_some_iff _ _ _).mp ha
  obtain ⟨b1, b2, b3, b4⟩ := (absCMS_eq_some_iff _ _ _).mp hb
  have hreads : MergeReadsAgree h₁.key h₂.key h₁.cols 0 h₁.rows st :=
    mergeReadsAgree_of_rows h₁.key h₂.key h₁.cols h₁.rows (fun i j hi hj => hd i j hi (by omega))
      h₁.rows 0 st a.m b.m (by omega) a3 (by omega) a4 (hc ▸ b4) hsum
  obtain ⟨msg, hrun⟩ := lua_count_min_sketch_redis_mergeMatrixScript_eq st h₁ h₂ hr hc fuel hfuel hcols hrows hreads
  have hm := C08_cms_merge h₁ h₂ st a b ha hb hpos hd
  have hmerge : CMS.merge a b = .ok { a with m := CMS.addRows a.m b.m } := by
    unfold CMS.merge
    rw [if_neg (by omega), if_neg (by omega)]
  rw [hmerge] at hm
  obtain ⟨st', hm', h1', h2'⟩ := hm
  rw [hm'] at hrun
  exact ⟨st', hrun, h1', h2'⟩

/-! ## Equals -/

/-- rows `0 … rows-1` under `key` hold the canonical decimal spelling of the matrix `m`
    (a missing row of `m` = an absent key or an empty list). -/
def CanonRows (st : Store) (key : String) (rows : Nat) (m : List (List Nat)) : Prop :=
  ∀ i, i < rows → lrangeO st (cmsRowKey key i) = some ((m[i]?.getD []).map decimal)

/-- `compareMatrix(key)`, reached from `Equals` after the Go-side dimension guard (`hr`, `hc`):
    KEYS = `cms.key, cms1.key`, ARGV = `rows, columns`.  The store is not written; the reply is `1` for
    `true` and nil for `false` (a Lua `false` reaches go-redis as a nil reply). -/
theorem lua_count_min_sketch_redis_compareMatrixScript_eq (st : Store) (key₁ key₂ : String) (a b : CMS)
    (hr : a.rows = b.rows) (hc : a.cols = b.cols)
    (fuel : Nat) (hfuel : a.rows + a.cols + 60 ≤ fuel)
    (hcols : a.cols + 1 < maxArrayIndex) (hrows : a.rows ≤ numLimit)
    (h₁ : CanonRows st key₁ a.rows a.m) (h₂ : CanonRows st key₂ a.rows b.m) :
    Lua.run fuel count_min_sketch_redis_compareMatrixScript [key₁, key₂] [decimal a.rows, decimal a.cols] st =
      (st, match Equals.CMSRedis.equals a b with
        | some true => .reply (.int 1)
        | _ => .reply .nil) := by
  have e : Equals.CMSRedis.equals a b =
      Equals.forN a.rows (fun i => Equals.forN a.cols (Equals.luaIdxEq ((a.m[i]?).getD []) ((b.m[i]?).getD []))) := by
    unfold Equals.CMSRedis.equals
    rw [if_neg (by omega)]
  rw [e]
  obtain ⟨F, rfl⟩ : ∃ F, fuel = F + 14 := ⟨fuel - 14, by omega⟩
  have hcl : a.cols ≤ numLimit := by unfold maxArrayIndex at hcols; unfold numLimit; omega
  refine (run_of_post_ok st
    (match Equals.forN a.rows (fun i => Equals.forN a.cols (Equals.luaIdxEq (a.m[i]?.getD []) (b.m[i]?.getD []))) with
      | some true => .int 1
      | _ => .nil) ?_).trans (by split <;> rfl)
  lua_run [count_min_sketch_redis_compareMatrixScript, initState, luaToNumber_decimal, hrows, hcl]
  refine Post.next ((cmp_loop key₁ key₂ a.rows a.cols _ [] st a.m b.m hcols hrows h₁ h₂ (F + 8) (by omega)).mono
    ?_ ?_ (fun _ h => h))
  · intro s' ⟨hs, hf⟩
    lua_run [hf]
    exact ⟨hs, rfl⟩
  · intro vs s' ⟨hv, hs, hf⟩
    rw [hv, hf]
    exact ⟨hs, rfl⟩

/-! ## setMatrix (Import) -/

/-- the store the script leaves, explicitly (`setRowsLoop`: row `r` := cells `r*columns … (r+1)*columns - 1`),
    for arbitrary cell strings. -/
theorem lua_setMatrixScript_store (st : Store) (key : String) (cols iters : Nat) (cells : List String) (fuel : Nat)
    (hfuel : iters + cols + 60 ≤ fuel) (hcols : 1 ≤ cols) (hcols' : cols ≤ unpackSafe)
    (hcells : cells.length = iters * cols) (hn : 2 + cells.length < maxArrayIndex) :
    Lua.run fuel count_min_sketch_redis_setMatrixScript [key] (decimal cols :: cells) st =
      (setRowsLoop key cols (decimal cols :: cells) 0 iters st, .reply (.int 1)) := by
  obtain ⟨F, rfl⟩ : ∃ F, fuel = F + 14 := ⟨fuel - 14, by omega⟩
  have hcl : cols ≤ numLimit := by unfold unpackSafe at hcols'; unfold numLimit; omega
  have hlen : (strTable (decimal cols :: cells)).len = cells.length + 1 := len_strTable _
  have hle : iters ≤ cells.length := by rw [hcells]; exact Nat.le_mul_of_pos_right _ hcols
  have hsub : ((iters * cols : Nat) : Int).natAbs ≤ numLimit := by
    unfold maxArrayIndex at hn; unfold numLimit; omega
  have hsub' : ((cells.length + 1 : Nat) : Int) - 1 = ((iters * cols : Nat) : Int) := by rw [hcells]; omega
  have hc0 : (cols : Int) ≠ 0 := by omega
  have hmod : ((iters * cols : Nat) : Int) % (cols : Int) = 0 := by
    rw [Int.natCast_mul]; exact Int.mul_emod_left _ _
  have hdiv : ((iters * cols : Nat) : Int) / (cols : Int) = (iters : Int) := by
    rw [Int.natCast_mul]; exact Int.mul_ediv_cancel _ hc0
  have hit : (iters : Int).natAbs ≤ numLimit := by unfold maxArrayIndex at hn; unfold numLimit; omega
  refine run_of_post_ok _ _ ?_
  simp only [strTable, List.map_cons] at hlen
  lua_run [count_min_sketch_redis_setMatrixScript, initState, luaToNumber_decimal hcl, unop_len_table, hlen, checkNum_ok hsub, hsub',
    binop_div_exact hc0 hmod, hdiv, checkNum_ok hit]
  refine Post.next ((set_loop key cols iters { arr := [.str key] } (decimal cols :: cells) [] [] st hcols hcols'
    (by unfold maxArrayIndex at hn; unfold numLimit; omega)
    (by simp only [List.length_cons]; omega) (by omega) (F + 8) (by omega)).mono
    (fun s' h => ?_) (fun _ _ h => h.elim) (fun _ h => h))
  lua_run []
  exact ⟨h, rfl⟩

/-- `setMatrix(matrix)`: KEYS = `cms.key`, ARGV = `len(matrix[0]), cell, cell, …` (the flattened matrix).
    Its hand model `Json.CMSRedis.setMatrix` (Model/Json.lean, used by C16) lives on the typed store
    `Json.Store`; `CmsRel key id js st` says that the rows of sketch `id` there are the rows under `key` in the
    Redis store (`absent` = no key, `nums l` = the list of the decimal spellings).  On related stores, for a
    matrix whose first row has `1 ≤ columns ≤ 4800` entries and whose cells fill `iters` whole rows (every
    rectangular matrix: `iters = len(matrix)`), both succeed and leave related stores.  The cells are
    never parsed by the script, so no bound on them is needed. -/
theorem lua_count_min_sketch_redis_setMatrixScript_eq (js : Json.Store) (st : Store) (key : String) (id : Nat)
    (row0 : List Nat) (rest : List (List Nat)) (iters : Nat) (fuel : Nat)
    (hrel : CmsRel key id js st)
    (hfuel : iters + row0.length + 60 ≤ fuel) (hcols : 1 ≤ row0.length) (hcols' : row0.length ≤ unpackSafe)
    (hcells : (row0 :: rest).flatten.length = iters * row0.length)
    (hn : 2 + (row0 :: rest).flatten.length < maxArrayIndex) :
    ∃ js' st', Json.CMSRedis.setMatrix js id (row0 :: rest) = some (js', true) ∧
      Lua.run fuel count_min_sketch_redis_setMatrixScript [key]
        (decimal row0.length :: (row0 :: rest).flatten.map decimal) st = (st', .reply (.int 1)) ∧
      CmsRel key id js' st' := by
  have hrun := lua_setMatrixScript_store st key row0.length iters ((row0 :: rest).flatten.map decimal) fuel hfuel hcols hcols'
    (by rw [List.length_map]; exact hcells) (by rw [List.length_map]; exact hn)
  have hit : Json.CMSRedis.setMatrixIters row0.length (row0 :: rest).flatten.length = iters := by
    unfold Json.CMSRedis.setMatrixIters
    rw [if_neg (by omega), hcells, Nat.mul_div_cancel _ (by omega)]
  obtain ⟨js', hfold, hrel'⟩ := set_rel_loop key id row0.length (row0 :: rest).flatten hcols iters 0 js st hrel
    (by rw [Nat.zero_add, hcells]; exact Nat.le_refl _)
  refine ⟨js', _, ?_, hrun, hrel'⟩
  show some (Json.forN (Json.CMSRedis.setMatrixIters row0.length (row0 :: rest).flatten.length)
    (Json.CMSRedis.setMatrixStep id row0.length (row0 :: rest).flatten) (js, true)) = _
  rw [hit, Json.forN, List.range_eq_range', hfold]

/-! ## getMatrix (Export) -/

/-- `getMatrix()` on the Redis store alone: KEYS = `cms.key`, ARGV = `rows`; the store is not written, row `r` of the
    reply is whatever list `LRANGE` returns (`[]` for an absent key). -/
theorem lua_fetchMatrixAsTable_reply (st : Store) (key : String) (n L : Nat) (rows : Nat → List String) (fuel : Nat)
    (hfuel : n + L + 60 ≤ fuel) (hn : n + 1 < maxArrayIndex) (hL : L + 1 < maxArrayIndex)
    (hrows : ∀ r, r < n → lrangeO st (cmsRowKey key r) = some (rows r)) (hlen : ∀ r, r < n → (rows r).length ≤ L) :
    Lua.run fuel count_min_sketch_redis_fetchMatrixAsTable [key] [decimal n] st =
      (st, .reply (.array ((List.range n).map fun r => .array ((rows r).map .bulk)))) := by
  obtain ⟨F, rfl⟩ : ∃ F, fuel = F + 14 := ⟨fuel - 14, by omega⟩
  have hnl : n ≤ numLimit := by unfold maxArrayIndex at hn; unfold numLimit; omega
  refine run_of_post_ok _ _ ?_
  lua_run [count_min_sketch_redis_fetchMatrixAsTable, initState, luaToNumber_decimal hnl, List.cons_append, List.nil_append]
  refine Post.next ((fetch_loop key (decimal n) { arr := [.str key] } { arr := [.str (decimal n)] } [] st n L rows
    hn hL hrows hlen (F + 9) (by omega)).mono (fun s' ⟨lg', hs⟩ => ?_) (fun _ _ h => h.elim) (fun _ h => h))
  subst hs
  lua_run [fetchEnv]
  exact ⟨trivial, toReply_fetch _ _ rows n⟩

/-- `getMatrix()`: KEYS = `cms.key`, ARGV = `rows`.  On related stores (`CmsRel`) the script does not write
    and replies the matrix `Json.CMSRedis.matrix` reads, every cell as the bulk string of its decimal
    spelling.  `L` bounds the row lengths (for the fuel only). -/
theorem lua_count_min_sketch_redis_fetchMatrixAsTable_eq (js : Json.Store) (st : Store) (key : String)
    (h : Json.CMSRedis) (L fuel : Nat) (hrel : CmsRel key h.key js st) (hfuel : h.rows + L + 60 ≤ fuel)
    (hn : h.rows + 1 < maxArrayIndex) (hL : L + 1 < maxArrayIndex)
    (hlen : ∀ row ∈ h.matrix js, row.length ≤ L) :
    Lua.run fuel count_min_sketch_redis_fetchMatrixAsTable [key] [decimal h.rows] st =
      (st, .reply (.array ((h.matrix js).map fun row => .array (row.map fun x => .bulk (decimal x))))) := by
  have := lua_fetchMatrixAsTable_reply st key h.rows L (fun r => (js.getNums (.cmsRow h.key r)).map decimal) fuel hfuel hn hL
    (fun r _ => lrangeO_of_rel hrel r)
    (fun r hr => by
      rw [List.length_map]
      exact hlen _ (List.mem_map.mpr ⟨r, List.mem_range.mpr hr, rfl⟩))
  rw [this]
  simp only [Json.CMSRedis.matrix, List.map_map]
  rfl

/-! ## non-vacuity: concrete runs, and runs where the two sides differ without a precondition -/

section examples

def _root_.Gostatix.Lua.Outcome.cmsIsInt : Outcome → Int → Bool
  | .reply (.int m), n => m == n
  | _, _ => false
def _root_.Gostatix.Lua.Outcome.cmsIsNil : Outcome → Bool
  | .reply .nil => true
  | _ => false
def _root_.Gostatix.Lua.Outcome.cmsIsError : Outcome → Bool
  | .error _ => true
  | _ => false
def _root_.Gostatix.Lua.Outcome.cmsIsUnsupported : Outcome → Bool
  | .unsupported _ => true
  | _ => false

def _root_.Gostatix.Lua.Outcome.cmsRowsOf : Outcome → Option (List (List String))
  | .reply (.array l) => l.mapM fun r => match r with
      | .array cells => cells.mapM fun c => match c with | .bulk s => some s | _ => none
      | _ => none
  | _ => none

def exH : CMSHandle := { rows := 2, cols := 3, key := "aaaaaaaaaaaaaaaa", metadataKey := "aaaaaaaaaaaaaaab" }
def exG : CMSHandle := { rows := 2, cols := 3, key := "cccccccccccccccc", metadataKey := "cccccccccccccccd" }

/-- the constructor's script on the empty database … -/
def exL₀ : Store :=
  (Lua.run 100 count_min_sketch_redis_initMatrixRedis [exH.key] [decimal 2, decimal 3] Store.empty).1
/-- … then `Update(·, 5)` at positions `[1, 2]` and `Update(·, 2)` at `[1, 0]`, all through the interpreter. -/
def exL₁ : Store :=
  (Lua.run 100 count_min_sketch_redis_updateLists (cmsPosKeys [1, 2]) [decimal 4, exH.key, decimal 5] exL₀).1
def exL₂ : Store :=
  (Lua.run 100 count_min_sketch_redis_updateLists (cmsPosKeys [1, 0]) [decimal 4, exH.key, decimal 2] exL₁).1

/-- Merge and Equals: a second sketch, merged into the first. -/
def exM₀ : Store :=
  (Lua.run 100 count_min_sketch_redis_initMatrixRedis [exG.key] [decimal 2, decimal 3] exL₂).1
def exM₁ : Store :=
  (Lua.run 100 count_min_sketch_redis_updateLists (cmsPosKeys [1, 1]) [decimal 4, exG.key, decimal 4] exM₀).1
def exM₂ : Store :=
  (Lua.run 100 count_min_sketch_redis_mergeMatrixScript [exH.key, exG.key] [decimal 2, decimal 3] exM₁).1

example : cmsPosKeys [1, 2] = ["0", "1", "1", "2"] := by decide +kernel

/-- the runs on these stores, evaluated together: the kernel then evaluates each store of the chain once, not once
    per run. -/
theorem ex_runs :
    exL₀ "aaaaaaaaaaaaaaaa0" = some (.list ["0", "0", "0"]) ∧
    absCMS exL₀ exH = some (CMS.new 2 3) ∧
    exL₂ "aaaaaaaaaaaaaaaa0" = some (.list ["0", "7", "0"]) ∧
    exL₂ "aaaaaaaaaaaaaaaa1" = some (.list ["2", "0", "5"]) ∧
    (exL₂ "aaaaaaaaaaaaaaaa0" = exS₂ "aaaaaaaaaaaaaaaa0" ∧ exL₂ "aaaaaaaaaaaaaaaa1" = exS₂ "aaaaaaaaaaaaaaaa1") ∧
    ((Lua.run 100 count_min_sketch_redis_updateLists (cmsPosKeys [1, 2])
      [decimal 4, exH.key, decimal 5] exL₀).2).cmsIsInt 1 = true ∧
    ((Lua.run 100 count_min_sketch_redis_countLists (cmsPosKeys [1, 2])
      [decimal 4, exH.key] exL₂).2).cmsIsInt 5 = true ∧
    ((Lua.run 100 count_min_sketch_redis_countLists (cmsPosKeys [1, 0])
      [decimal 4, exH.key] exL₂).2).cmsIsInt 2 = true ∧
    (cmsCount exH [1, 0] exL₂).2 = some 2 ∧
    (((Lua.run 100 count_min_sketch_redis_updateLists (cmsPosKeys [1, 7])
        [decimal 4, exH.key, decimal 5] exL₀).2).cmsIsError = true ∧
      (cmsUpdate exH [1, 7] 5 exL₀).2 = none) ∧
    (((Lua.run 100 count_min_sketch_redis_countLists (cmsPosKeys [1, 2])
        [decimal 4, exH.key] (exL₀.set "aaaaaaaaaaaaaaaa0" (.str []))).2).cmsIsError = true ∧
      (cmsCount exH [1, 2] (exL₀.set "aaaaaaaaaaaaaaaa0" (.str []))).2 = none) ∧
    ((Lua.run 100 count_min_sketch_redis_fetchMatrixAsTable [exH.key] [decimal 2] exL₂).2).cmsRowsOf =
      some [["0", "7", "0"], ["2", "0", "5"]] ∧
    absCMS exM₁ exG = some { rows := 2, cols := 3, m := [[0, 4, 0], [0, 4, 0]] } ∧
    absCMS exM₂ exH = some { rows := 2, cols := 3, m := [[0, 11, 0], [2, 4, 5]] } ∧
    exM₂ "aaaaaaaaaaaaaaaa0" = (cmsMerge exH exG exM₁).1 "aaaaaaaaaaaaaaaa0" ∧
    ((Lua.run 100 count_min_sketch_redis_compareMatrixScript [exH.key, exG.key]
      [decimal 2, decimal 3] exM₂).2).cmsIsNil = true ∧
    ((Lua.run 100 count_min_sketch_redis_compareMatrixScript [exH.key, exH.key]
      [decimal 2, decimal 3] exM₂).2).cmsIsInt 1 = true := by decide +kernel

example : exL₀ "aaaaaaaaaaaaaaaa0" = some (.list ["0", "0", "0"]) := ex_runs.1
example : absCMS exL₀ exH = some (CMS.new 2 3) := ex_runs.2.1
example : exL₂ "aaaaaaaaaaaaaaaa0" = some (.list ["0", "7", "0"]) := ex_runs.2.2.1
example : exL₂ "aaaaaaaaaaaaaaaa1" = some (.list ["2", "0", "5"]) := ex_runs.2.2.2.1
/-- the same stores as the hand models give (C08's `exS₀`, `exS₂`), key by key -/
example : exL₂ "aaaaaaaaaaaaaaaa0" = exS₂ "aaaaaaaaaaaaaaaa0" ∧ exL₂ "aaaaaaaaaaaaaaaa1" = exS₂ "aaaaaaaaaaaaaaaa1" :=
  ex_runs.2.2.2.2.1
example : ((Lua.run 100 count_min_sketch_redis_updateLists (cmsPosKeys [1, 2])
    [decimal 4, exH.key, decimal 5] exL₀).2).cmsIsInt 1 = true := ex_runs.2.2.2.2.2.1
example : ((Lua.run 100 count_min_sketch_redis_countLists (cmsPosKeys [1, 2])
    [decimal 4, exH.key] exL₂).2).cmsIsInt 5 = true := ex_runs.2.2.2.2.2.2.1
example : ((Lua.run 100 count_min_sketch_redis_countLists (cmsPosKeys [1, 0])
    [decimal 4, exH.key] exL₂).2).cmsIsInt 2 = true := ex_runs.2.2.2.2.2.2.2.1
example : (cmsCount exH [1, 0] exL₂).2 = some 2 := ex_runs.2.2.2.2.2.2.2.2.1

/-- the theorems instantiated: `Update` and `Count` on the store the constructor leaves. -/
example : ∃ st', Lua.run 100 count_min_sketch_redis_updateLists (cmsPosKeys [1, 2])
      [decimal 4, exH.key, decimal 5] exS₀ = (st', .reply (.int 1)) ∧
    absCMS st' exH = some ((CMS.new 2 3).update [1, 2] 5) :=
  lua_updateLists_abs exS₀ exH (CMS.new 2 3) [1, 2] 5 100 (by decide) (by decide +kernel) (by decide)
    (by decide) (by decide) (by decide) (by decide) (by decide)

example : Lua.run 100 count_min_sketch_redis_countLists (cmsPosKeys [1, 2]) [decimal 4, exH.key] exS₂ =
    (exS₂, .reply (.int 5)) :=
  lua_countLists_abs exS₂ exH { rows := 2, cols := 3, m := [[0, 7, 0], [2, 0, 5]] } [1, 2] 100 (by decide)
    (by decide +kernel) (by decide) (by decide) (by decide) (by decide) (by decide)

/-- both sides fail alike on a store without the rows, on a column beyond the row, on a key of another type -/
example : ((Lua.run 100 count_min_sketch_redis_updateLists (cmsPosKeys [1, 2])
    [decimal 4, exH.key, decimal 5] Store.empty).2).cmsIsError = true ∧
    (cmsUpdate exH [1, 2] 5 Store.empty).2 = none := by decide +kernel
example : ((Lua.run 100 count_min_sketch_redis_updateLists (cmsPosKeys [1, 7])
    [decimal 4, exH.key, decimal 5] exL₀).2).cmsIsError = true ∧
    (cmsUpdate exH [1, 7] 5 exL₀).2 = none := ex_runs.2.2.2.2.2.2.2.2.2.1
example : ((Lua.run 100 count_min_sketch_redis_countLists (cmsPosKeys [1, 2])
    [decimal 4, exH.key] (exL₀.set "aaaaaaaaaaaaaaaa0" (.str []))).2).cmsIsError = true ∧
    (cmsCount exH [1, 2] (exL₀.set "aaaaaaaaaaaaaaaa0" (.str []))).2 = none := ex_runs.2.2.2.2.2.2.2.2.2.2.1

/-! ### Merge and Equals on the two sketches `exH`, `exG` (`exM₁`, `exM₂`). -/

example : absCMS exM₁ exG = some { rows := 2, cols := 3, m := [[0, 4, 0], [0, 4, 0]] } := ex_runs.2.2.2.2.2.2.2.2.2.2.2.2.1
example : absCMS exM₂ exH = some { rows := 2, cols := 3, m := [[0, 11, 0], [2, 4, 5]] } := ex_runs.2.2.2.2.2.2.2.2.2.2.2.2.2.1
example : exM₂ "aaaaaaaaaaaaaaaa0" = (cmsMerge exH exG exM₁).1 "aaaaaaaaaaaaaaaa0" := ex_runs.2.2.2.2.2.2.2.2.2.2.2.2.2.2.1
example : ((Lua.run 100 count_min_sketch_redis_compareMatrixScript [exH.key, exG.key]
    [decimal 2, decimal 3] exM₂).2).cmsIsNil = true := ex_runs.2.2.2.2.2.2.2.2.2.2.2.2.2.2.2.1
example : ((Lua.run 100 count_min_sketch_redis_compareMatrixScript [exH.key, exH.key]
    [decimal 2, decimal 3] exM₂).2).cmsIsInt 1 = true := ex_runs.2.2.2.2.2.2.2.2.2.2.2.2.2.2.2.2
example : Equals.CMSRedis.equals { rows := 2, cols := 3, m := [[0, 11, 0], [2, 4, 5]] }
    { rows := 2, cols := 3, m := [[0, 4, 0], [0, 4, 0]] } = some false := by decide +kernel

/-! ### the preconditions are needed -/

/-- entries: `tonumber` trims blanks, `parseDecimal` does not: on a row holding `" 5"` the script updates the
    entry and replies `true`, the hand model aborts. -/
def exBlank : Store := Store.empty.set "k0" (.list [" 5"])
def exK : CMSHandle := { rows := 1, cols := 1, key := "k", metadataKey := "m" }

theorem lua_updateLists_differs :
    ((Lua.run 100 count_min_sketch_redis_updateLists (cmsPosKeys [0]) [decimal 2, "k", decimal 1] exBlank).2).cmsIsInt 1
        = true ∧
      (Lua.run 100 count_min_sketch_redis_updateLists (cmsPosKeys [0]) [decimal 2, "k", decimal 1] exBlank).1 "k0"
        = some (.list ["6"]) ∧
      (cmsUpdate exK [0] 1 exBlank).2 = none ∧ ¬ UpdReadsAgree "k" 1 [0] exBlank := by
  rw [← and_assoc, ← and_assoc]
  refine ⟨by decide +kernel, fun h => ?_⟩
  rcases h 0 0 [" 5"] " 5" rfl (by decide +kernel) rfl with ⟨n, hp, _⟩ | ⟨_, hl⟩
  · have : parseDecimal " 5" = none := by decide +kernel
    rw [this] at hp
    exact nomatch hp
  · have : luaToNumber " 5" = .num 5 := by rfl
    rw [this] at hl
    exact nomatch hl

/-- numbers: a count beyond 2^53 is `unsupported` for the interpreter (float64), the hand model adds it. -/
theorem lua_updateLists_differs_big :
    ((Lua.run 100 count_min_sketch_redis_updateLists (cmsPosKeys [1, 2])
        [decimal 4, exH.key, decimal (2 ^ 53 + 1)] exS₀).2).cmsIsUnsupported = true ∧
      (cmsUpdate exH [1, 2] (2 ^ 53 + 1) exS₀).2 = some () := by
  decide +kernel

/-- `unpack`: with `columns ≥ 5120` (and below 2^26) the extracted `initMatrix` raises "registry overflow" in
    its first round, after the `DEL` of row 0 (gopher-lua's data stack; the constructor ignores the error),
    while the hand model `cmsInit` builds the matrix (`C08_cms_init`).  Hence `columns ≤ 4800` in
    `lua_count_min_sketch_redis_initMatrixRedis_eq` (between 4801 and 5119 the interpreter says `unsupported`). -/
theorem lua_initMatrixRedis_differs (st : Store) (h : CMSHandle) (fuel : Nat) (hfuel : h.cols + 50 ≤ fuel)
    (hcols : unpackOverflow ≤ h.cols) (hcols' : h.cols + 1 < maxArrayIndex)
    (hrows : 1 ≤ h.rows) (hrows' : h.rows ≤ numLimit) :
    Lua.run fuel count_min_sketch_redis_initMatrixRedis [h.key] [decimal h.rows, decimal h.cols] st =
        (st.del (cmsRowKey h.key 0), .error "registry overflow") ∧
      ∃ st', cmsInit h st = (st', some ()) ∧ absCMS st' h = some (CMS.new h.rows h.cols) := by
  refine ⟨?_, C08_cms_init h st (by unfold unpackOverflow at hcols; omega)⟩
  obtain ⟨F, rfl⟩ : ∃ F, fuel = F + h.cols + 42 := ⟨fuel - h.cols - 42, by omega⟩
  have hcond : (0 < (1 : Int) ∧ (1 : Int) ≤ (h.rows : Int)) ∨ ((1 : Int) ≤ 0 ∧ (h.rows : Int) ≤ 1) :=
    Or.inl ⟨by decide, by omega⟩
  obtain ⟨s', hb, hs⟩ := init_body_overflow h.key h.rows h.cols
    [{ arr := [.str h.key] }, { arr := [.str (decimal h.rows), .str (decimal h.cols)] }] [] st hcols hcols' (F + 6)
  simp only [initEnv] at hb
  have hex : execBlock (F + h.cols + 42) count_min_sketch_redis_initMatrixRedis
      (initState [h.key] [decimal h.rows, decimal h.cols] st) = .error "registry overflow" s' := by
    lua_run [count_min_sketch_redis_initMatrixRedis, initState, luaToNumber_decimal hrows']
    rw [numForLoop_succ (F + h.cols + 36)]
    simp only [hcond, if_true, bind_run]
    rw [show F + h.cols + 36 = F + 6 + h.cols + 30 by omega]
    erw [hb]
    rfl
  simp only [run, runLog, hex, hs]

/-- Count: a hexadecimal entry is a number for `tonumber` only. -/
theorem lua_countLists_differs :
    ((Lua.run 100 count_min_sketch_redis_countLists (cmsPosKeys [0]) [decimal 2, "k"]
        (Store.empty.set "k0" (.list ["0x10"]))).2).cmsIsInt 16 = true ∧
      (cmsCount exK [0] (Store.empty.set "k0" (.list ["0x10"]))).2 = none := by
  decide +kernel

/-- Merge: a signed entry. -/
theorem lua_mergeMatrixScript_differs :
    ((Lua.run 100 count_min_sketch_redis_mergeMatrixScript ["k", "l"] [decimal 1, decimal 1]
        ((Store.empty.set "k0" (.list ["+1"])).set "l0" (.list ["2"]))).2).cmsIsInt 1 = true ∧
      (cmsMerge exK { exK with key := "l" } ((Store.empty.set "k0" (.list ["+1"])).set "l0" (.list ["2"]))).2
        = none := by
  decide +kernel

/-- Equals compares strings: `"07"` and `"7"` are the same number for `absCMS` but different entries for
    the script (so `CanonRows`, not `absCMS`, is the precondition) … -/
def exLead : Store := (Store.empty.set "k0" (.list ["07"])).set "l0" (.list ["7"])

theorem lua_compareMatrixScript_differs :
    absCMS exLead exK = some { rows := 1, cols := 1, m := [[7]] } ∧
      absCMS exLead { exK with key := "l" } = some { rows := 1, cols := 1, m := [[7]] } ∧
      Equals.CMSRedis.equals { rows := 1, cols := 1, m := [[7]] } { rows := 1, cols := 1, m := [[7]] } = some true ∧
      ((Lua.run 100 count_min_sketch_redis_compareMatrixScript ["k", "l"] [decimal 1, decimal 1] exLead).2).cmsIsNil
        = true := by
  decide +kernel

/-- … and a row key of another type: the `pcall`ed `LRANGE` gives `nil` in the interpreter (miniredis), indexing
    it raises; the hand model reads a missing row as the empty table. -/
theorem lua_compareMatrixScript_differs_type :
    ((Lua.run 100 count_min_sketch_redis_compareMatrixScript ["k", "l"] [decimal 1, decimal 1]
        (Store.empty.set "k0" (.str []))).2).cmsIsError = true ∧
      Equals.CMSRedis.equals { rows := 1, cols := 1, m := [] } { rows := 1, cols := 1, m := [] } = some true := by
  decide +kernel

/-- setMatrix: a concrete Import … -/
def exI : Store :=
  (Lua.run 100 count_min_sketch_redis_setMatrixScript ["k"] (decimal 2 :: [1, 2, 3, 4].map decimal) exBlank).1

theorem exI_runs :
    (exI "k0" = some (.list ["1", "2"]) ∧ exI "k1" = some (.list ["3", "4"])) ∧
    ((Lua.run 100 count_min_sketch_redis_fetchMatrixAsTable ["k"] [decimal 2] exI).2).cmsRowsOf =
      some [["1", "2"], ["3", "4"]] ∧
    ((Lua.run 100 count_min_sketch_redis_fetchMatrixAsTable ["k"] [decimal 3] exI).2).cmsRowsOf =
      some [["1", "2"], ["3", "4"], []] ∧
    ((Lua.run 100 count_min_sketch_redis_fetchMatrixAsTable ["k"] [decimal 2]
      (exI.set "k1" (.str []))).2).cmsIsError = true := by decide +kernel

example : exI "k0" = some (.list ["1", "2"]) ∧ exI "k1" = some (.list ["3", "4"]) := exI_runs.1
example : ((Lua.run 100 count_min_sketch_redis_setMatrixScript ["k"]
    (decimal 2 :: [1, 2, 3, 4].map decimal) exBlank).2).cmsIsInt 1 = true := by decide +kernel
example : (Json.CMSRedis.setMatrix (fun _ => .absent) 7 [[1, 2], [3, 4]]).map
    (fun p => (p.1 (.cmsRow 7 0), p.1 (.cmsRow 7 1), p.2)) = some (.nums [1, 2], .nums [3, 4], true) := by decide +kernel

/-- … and a ragged matrix `[[1,2],[3]]`: `rows = 3 / 2` is the float 1.5 in Lua (one round, as the hand model
    says); the interpreter, exact on integers only, answers `unsupported`: hence `hcells`. -/
theorem lua_setMatrixScript_differs :
    ((Lua.run 100 count_min_sketch_redis_setMatrixScript ["k"] (decimal 2 :: [1, 2, 3].map decimal)
        Store.empty).2).cmsIsUnsupported = true ∧
      (Json.CMSRedis.setMatrix (fun _ => .absent) 7 [[1, 2], [3]]).map
        (fun p => (p.1 (.cmsRow 7 0), p.1 (.cmsRow 7 1), p.2)) = some (.nums [1, 2], .absent, true) := by
  decide +kernel

example : ((Lua.run 100 count_min_sketch_redis_fetchMatrixAsTable ["k"] [decimal 2] exI).2).cmsRowsOf =
    some [["1", "2"], ["3", "4"]] := exI_runs.2.1
example : ((Lua.run 100 count_min_sketch_redis_fetchMatrixAsTable [exH.key] [decimal 2] exL₂).2).cmsRowsOf =
    some [["0", "7", "0"], ["2", "0", "5"]] := ex_runs.2.2.2.2.2.2.2.2.2.2.2.1
/-- an absent row reads as the empty row on both sides; a key of another type raises in the script. -/
example : ((Lua.run 100 count_min_sketch_redis_fetchMatrixAsTable ["k"] [decimal 3] exI).2).cmsRowsOf =
    some [["1", "2"], ["3", "4"], []] := exI_runs.2.2.1
example : ((Lua.run 100 count_min_sketch_redis_fetchMatrixAsTable ["k"] [decimal 2]
    (exI.set "k1" (.str []))).2).cmsIsError = true := exI_runs.2.2.2

/-- the theorem instantiated: a typed store with two rows and the Redis store it stands for. -/
def exJ : Json.Store := fun k => if k = .cmsRow 7 0 then .nums [1, 2] else if k = .cmsRow 7 1 then .nums [3, 4] else .absent

theorem exJ_rel : CmsRel "k" 7 exJ ((Store.empty.set "k0" (.list ["1", "2"])).set "k1" (.list ["3", "4"])) := by
  intro r
  match r with
  | 0 => exact (by decide +kernel : ["1", "2"] = [1, 2].map decimal)
  | 1 => exact (by decide +kernel : ["3", "4"] = [3, 4].map decimal)
  | r + 2 =>
    have h0 : cmsRowKey "k" (r + 2) ≠ "k0" := fun e => by
      have := cmsRowKey_inj (key := "k") (a := r + 2) (b := 0) e; omega
    have h1 : cmsRowKey "k" (r + 2) ≠ "k1" := fun e => by
      have := cmsRowKey_inj (key := "k") (a := r + 2) (b := 1) e; omega
    have e1 : exJ (.cmsRow 7 (r + 2)) = .absent := by
      have a : ¬ (Json.Key.cmsRow 7 (r + 2) = Json.Key.cmsRow 7 0) := fun e => by injection e with _ e; omega
      have b : ¬ (Json.Key.cmsRow 7 (r + 2) = Json.Key.cmsRow 7 1) := fun e => by injection e with _ e; omega
      simp only [exJ, a, b, if_false]
    simp only [e1, Store.set, Store.empty, h0, h1, if_false, RelVal]

example : Lua.run 100 count_min_sketch_redis_fetchMatrixAsTable ["k"] [decimal 2]
      ((Store.empty.set "k0" (.list ["1", "2"])).set "k1" (.list ["3", "4"])) =
    ((Store.empty.set "k0" (.list ["1", "2"])).set "k1" (.list ["3", "4"]),
      .reply (.array [.array [.bulk "1", .bulk "2"], .array [.bulk "3", .bulk "4"]])) := by
  have := lua_count_min_sketch_redis_fetchMatrixAsTable_eq exJ _ "k" ⟨2, 2, 0, 7, 8⟩ 2 100 exJ_rel (by decide)
    (by decide) (by decide) (by decide)
  rw [this]
  rfl

end examples

end Gostatix.LuaCMS
