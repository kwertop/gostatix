/-
  LuaBucket — the Lua scripts of the cuckoo buckets, as EXTRACTED from the Go sources
  (Generated/LuaScripts.lean, regenerated on every run), interpreted by `Lua.run` (Model/Lua.lean),
  compute the HAND-WRITTEN store-level models (Model/RedisCuckoo.lean, Model/Equals.lean).

  For every script `S` of the group:

      theorem lua_S_eq :  Lua.run fuel Generated.LuaScripts.S <KEYS> <ARGV> st
                            = ((model st).1, <outcome of (model st).2>)

  with KEYS/ARGV exactly as the Go call site builds them (numbers as `decimal`), for EVERY store
  `st` satisfying the listed hypotheses, and for every `fuel` above an explicit bound.  A change of
  a script in the Go sources changes `Generated.LuaScripts.S` and breaks the proof unless the new
  script still computes the model.

  script (Go function)                       theorem                      hand model
  -----------------------------------------  ---------------------------  -------------------------------
  bucket_redis_isFreeScript   (isFree)       lua_isFreeScript_eq          Redis.bucketIsFreeScript
  bucket_redis_addElement     (add)          lua_addElement_eq            Redis.bucketAddScript
  bucket_redis_removeElement  (remove)       lua_removeElement_eq         Redis.bucketRemove
  bucket_redis_exists         (lookup)       lua_exists_eq                Redis.bucketLookupScript
  bucket_redis_equals         (equals)       lua_equals_eq / _RBucket     bucketEqualsScript (here), Equals.RBucket.equals
  cuckoo_filter_redis_initCuckooFilterRedis  lua_initCuckooFilterRedis_eq cuckooInitScript (here; no store-level
                              (initBuckets)                               model existed: Model/Json.lean's
                                                                          `initBuckets` is on another store type)
  The two loops (`equals`, `init…`) are covered for an arbitrary number of iterations.

  Outcomes.  A hand model `Script Bool` answers `some true`/`some false`/`none` (abort); the
  interpreter's outcome is `boolOutcome msg`: reply `1` / nil reply / Lua error `msg` (the message
  is part of the statement).  `exists`: `lookupOutcome` — the model's abort is a NIL REPLY there
  (`return tonumber(nil)`), as the model's comment says.

  Preconditions (each one is needed: see the `…_differs` theorems; "where from" = what in the
  library establishes it):
    * `size ≤ 2^53` (isFree, add, equals): `tonumber(ARGV[…])` of a larger numeral is `unsupported`
      in the interpreter (float64).  [bucket sizes are small constants of the caller]
    * counter key `bk_len` (isFree, add): `TonumberAgrees` — gopher-lua's `tonumber` and the model's
      `parseInt` read the same number in the stored string (they differ on " 3", "+3", "0x10",
      numerals beyond 2^53).  (add, remove): `IncrAgrees` — miniredis' INCRBY (`Atoi`: accepts
      "007", "+5") and the model's (canonical spellings only) do the same, and the sum stays within
      2^53.  Both hold for the canonical spelling `renderInt n`, |n| < 2^53
      (`tonumberAgrees_renderInt`, `incrAgrees_renderInt`) — which is all `newBucketRedis`
      (`INCRBY bk_len 0`) and the scripts' own INCRBYs ever write; a counter of the WRONG TYPE or an
      absent counter needs no hypothesis (both sides raise the same error).
    * list key `bk` (add): absent or a list (`listAt st bk ≠ none`).  On a wrong-type key the model
      follows real Redis (pcall's error table makes the LSET fail silently, the script goes on and
      answers true) while the interpreter follows miniredis (pcall returns nil, `tonumber(nil)` is
      nil, a nil argument raises): `lua_addElement_differs_wrongtype`.  [the key is only ever written
      by LPUSH/LSET/RPUSH of the library]   (remove, exists: no such hypothesis — both sides abort /
      answer nil.)  (equals): both keys absent or lists, for the same reason (indexing nil raises in
      miniredis, an error table reads as empty in Redis): `lua_equals_differs_wrongtype`.
    * list length `≤ 2^53` (add, remove): the position found by LPOS goes back to Redis as a decimal
      argument, which the interpreter refuses beyond 2^53.  [Redis lists hold < 2^32 entries]
    * (equals) `size < 67108864` or both lists shorter than 67108864, (init) fewer than 67108863
      bucket keys: gopher-lua's array part ends there (the interpreter's documented assumption).
      No small counterexample exists for these two and the previous one, so no `_differs` for them.
  `exists` needs NO precondition at all.

  Corollaries (`…_abs`): the C08 simulation theorems transported to the extracted scripts — on a
  store that represents bucket `b` (`absBucket`), the extracted script answers what
  `BucketRedis.ops ""` answers and leaves a store that represents the model's new bucket.

  Fuel: `20` for the four loop-free scripts, `size + 16` / `n + 15` for the two loops.

  The file ends with `…_differs` theorems (a precondition dropped, on a small damaged store) and
  non-vacuity examples; concrete runs are evaluated by the kernel (`decide +kernel`).
-/
import Gostatix.Proofs.LuaBucket
import Gostatix.Props.C08Bucket
namespace Gostatix.LuaBucket
open Gostatix.Lua
open Gostatix.Redis Gostatix.Generated.LuaScripts Gostatix.LuaCMS

/-- `BucketRedis.isFree`: KEYS = `[bucket.key]`, ARGV = `[bucket.size]`. -/
theorem lua_isFreeScript_eq (st : Store) (bk : String) (size fuel : Nat) (hfuel : 20 ≤ fuel)
    (hsize : size ≤ 2 ^ 53)
    (hnum : ∀ b, st (bucketLenKey bk) = some (.str b) → TonumberAgrees (latin1 b)) :
    Lua.run fuel bucket_redis_isFreeScript [bk] [decimal size] st =
      ((bucketIsFreeScript bk size st).1,
        boolOutcome "attempt to compare nil with number" (bucketIsFreeScript bk size st).2) := by
  obtain ⟨f, rfl⟩ : ∃ f, fuel = f + 20 := ⟨fuel - 20, by omega⟩
  unfold bucketLenKey at hnum
  have htn := tonumber_getValue st _ hnum
  unfold bucketIsFreeScript bucketLenKey
  rw [run_eq, try_GET_luaInt]
  cases hc : counterInt st (bk ++ "_len") with
  | none => rw [hc] at htn; rw [isFree_nil f st bk size hsize htn]; rfl
  | some n =>
    rw [hc] at htn
    by_cases hn : (size : Int) ≤ n
    · rw [isFree_full f st bk size n hsize htn hn]
      simp only [Script.pure, show ¬ n < (size : Int) by omega, decide_false]
      rfl
    · rw [isFree_free f st bk size n hsize htn hn]
      simp only [Script.pure, show n < (size : Int) by omega, decide_true]
      rfl

/-- `BucketRedis.add` (after the Go guard `element == ""`): KEYS = `[bucket.key]`,
    ARGV = `[element, bucket.size]`. -/
theorem lua_addElement_eq (st : Store) (bk e : String) (size fuel : Nat) (hfuel : 20 ≤ fuel)
    (hsize : size ≤ 2 ^ 53)
    (hlist : listAt st bk ≠ none)
    (hlen : ∀ l, st bk = some (.list l) → l.length ≤ 2 ^ 53)
    (hnum : ∀ b, st (bucketLenKey bk) = some (.str b) → TonumberAgrees (latin1 b))
    (hincr : ∀ b n, st (bucketLenKey bk) = some (.str b) → parseInt (latin1 b) = some n → n < size →
      IncrAgrees (latin1 b) 1) :
    Lua.run fuel bucket_redis_addElement [bk] [e, decimal size] st =
      ((bucketAddScript bk size e st).1,
        boolOutcome "attempt to compare nil with number" (bucketAddScript bk size e st).2) := by
  obtain ⟨f, rfl⟩ : ∃ f, fuel = f + 20 := ⟨fuel - 20, by omega⟩
  unfold bucketLenKey at hnum hincr
  have htn := tonumber_getValue st _ hnum
  rw [run_eq, bucketAddScript_eq]
  cases hc : counterInt st (bk ++ "_len") with
  | none => rw [hc] at htn; rw [addElement_nil f st bk e size hsize htn]; rfl
  | some n =>
    rw [hc] at htn
    by_cases hn : (size : Int) ≤ n
    · rw [addElement_full f st bk e size n hsize htn hn]
      simp only [hn, if_true]
      rfl
    · obtain ⟨l, hl⟩ := Option.ne_none_iff_exists'.mp hlist
      have hne : bk ++ "_len" ≠ bk := bucketLenKey_ne bk
      have hinc : ∀ b, storeElem st bk e (bk ++ "_len") = some (.str b) → IncrAgrees (latin1 b) 1 := by
        intro b hb
        rw [storeElem_other _ _ _ _ hne] at hb
        refine hincr b n hb ?_ (by omega)
        unfold counterInt at hc; rw [hb] at hc; exact hc
      simp only [hn, if_false]
      cases hp : lpos l "" with
      | none => rw [addElement_push f st bk e size n l hsize htn hn hl hp hinc]; rfl
      | some i =>
        have hi : i ≤ 2 ^ 53 := by have := hlen l (list_of_lpos hl hp); have := lpos_lt hp; omega
        rw [addElement_set f st bk e size n l i hsize htn hn hl hp hi hinc]
        rfl

/-- `BucketRedis.remove`: KEYS = `[bucket.key]`, ARGV = `[element]`.  The error message of an
    aborted script is `removeError`: WRONGTYPE (raised by `redis.call('LPOS', …)`) on a key that is
    not a list, else "Lua redis lib command arguments must be strings or integers" (the `false`
    that LPOS answers for an absent element is not an argument LSET accepts). -/
theorem lua_removeElement_eq (st : Store) (bk e : String) (fuel : Nat) (hfuel : 20 ≤ fuel)
    (hlen : ∀ l, st bk = some (.list l) → l.length ≤ 2 ^ 53)
    (hincr : ∀ b l, st (bucketLenKey bk) = some (.str b) → st bk = some (.list l) → l.contains e = true →
      IncrAgrees (latin1 b) (-1)) :
    Lua.run fuel bucket_redis_removeElement [bk] [e] st =
      ((bucketRemove bk e st).1, boolOutcome (removeError st bk) (bucketRemove bk e st).2) := by
  obtain ⟨f, rfl⟩ : ∃ f, fuel = f + 20 := ⟨fuel - 20, by omega⟩
  unfold bucketLenKey at hincr
  rw [run_eq, bucketRemove_eq]
  unfold removeError
  cases hl : listAt st bk with
  | none => rw [removeElement_wrongtype f st bk e hl]; rfl
  | some l =>
    simp only []
    cases hp : lpos l e with
    | none => rw [removeElement_absent f st bk e l hl hp]; rfl
    | some i =>
      have hb := list_of_lpos hl hp
      have hne : bk ++ "_len" ≠ bk := bucketLenKey_ne bk
      have hi : i ≤ 2 ^ 53 := by have := hlen l hb; have := lpos_lt hp; omega
      rw [removeElement_found f st bk e l i hl hp hi fun b h => by
        rw [Store.set_ne _ _ hne] at h
        exact hincr b l h hb (lpos_contains hp)]
      rfl

/-- `BucketRedis.lookup`: KEYS = `[bucket.key]`, ARGV = `[element]`.  No precondition. -/
theorem lua_exists_eq (st : Store) (bk e : String) (fuel : Nat) (hfuel : 20 ≤ fuel) :
    Lua.run fuel bucket_redis_exists [bk] [e] st =
      ((bucketLookupScript bk e st).1, lookupOutcome (bucketLookupScript bk e st).2) := by
  obtain ⟨f, rfl⟩ : ∃ f, fuel = f + 20 := ⟨fuel - 20, by omega⟩
  unfold bucketLookupScript lookupOutcome
  simp only [run_eq, Script.bind, Script.try_, cmdLPOS_eq]
  cases hl : listAt st bk with
  | none => rw [exists_wrongtype f st bk e hl]; rfl
  | some l =>
    simp only [Option.map_some]
    cases hp : lpos l e with
    | none => rw [exists_absent f st bk e l hl hp]; rfl
    | some i => rw [exists_found f st bk e l i hl hp]; rfl

/-- Store-level model of the `equals` script of `BucketRedis.equals`, in the style of
    `Redis.hllEquals` (written after real Redis: a failed `pcall`ed LRANGE gives an error table,
    which reads as an empty table): the loop is `Equals.forN size (Equals.luaIdxEq vals1 vals2)` of
    Model/Equals.lean, i.e. the script part of `Equals.RBucket.equals`. -/
def bucketEqualsScript (bk1 bk2 : String) (size : Nat) : Script Bool :=
  Script.try_ (cmdLRANGE bk1) >>=ₛ fun v1 =>
  Script.try_ (cmdLRANGE bk2) >>=ₛ fun v2 =>
  fun s => (s, Equals.forN size (Equals.luaIdxEq (v1.getD []) (v2.getD [])))

theorem bucketEqualsScript_lists (st : Store) (bk1 bk2 : String) (size : Nat) (l1 l2 : List String)
    (h1 : listAt st bk1 = some l1) (h2 : listAt st bk2 = some l2) :
    bucketEqualsScript bk1 bk2 size st = (st, Equals.forN size (Equals.luaIdxEq l1 l2)) := by
  unfold bucketEqualsScript
  simp only [Script.bind, Script.try_, cmdLRANGE_eq, h1, h2, Option.getD_some]

/-- `BucketRedis.equals` (after the Go guard on the sizes): KEYS = `[bucket.key, other.key]`,
    ARGV = `[bucket.size]`.  (`forN … luaIdxEq` never aborts — `forN_luaIdxEq_ne_none` — so the error
    message of `boolOutcome` is immaterial.) -/
theorem lua_equals_eq (st : Store) (bk1 bk2 : String) (size fuel : Nat) (l1 l2 : List String)
    (hfuel : size + 16 ≤ fuel) (hsize : size ≤ 2 ^ 53)
    (h1 : listAt st bk1 = some l1) (h2 : listAt st bk2 = some l2)
    (hidx : size < 67108864 ∨ (l1.length < 67108864 ∧ l2.length < 67108864)) :
    Lua.run fuel bucket_redis_equals [bk1, bk2] [decimal size] st =
      ((bucketEqualsScript bk1 bk2 size st).1, boolOutcome "" (bucketEqualsScript bk1 bk2 size st).2) := by
  rw [run_eq, equals_exec fuel st bk1 bk2 size l1 l2 hfuel hsize h1 h2 hidx,
    bucketEqualsScript_lists st bk1 bk2 size l1 l2 h1 h2]

theorem forN_luaIdxEq_ne_none (l1 l2 : List String) (size : Nat) :
    Equals.forN size (Equals.luaIdxEq l1 l2) ≠ none :=
  forFrom_luaIdxEq_ne_none l1 l2 0 size

/-- the same against `Equals.RBucket.equals` (Model/Equals.lean), the model the `Equals` theorems
    (C17) are about: two buckets of the same Go-side `size` holding the lists `l1`, `l2`. -/
theorem lua_equals_eq_RBucket (st : Store) (bk1 bk2 : String) (size fuel : Nat) (l1 l2 : List String)
    (hfuel : size + 16 ≤ fuel) (hsize : size ≤ 2 ^ 53)
    (h1 : listAt st bk1 = some l1) (h2 : listAt st bk2 = some l2)
    (hidx : size < 67108864 ∨ (l1.length < 67108864 ∧ l2.length < 67108864)) :
    Lua.run fuel bucket_redis_equals [bk1, bk2] [decimal size] st =
      (st, boolOutcome "" (Equals.RBucket.equals ⟨size, l1⟩ ⟨size, l2⟩)) := by
  rw [run_eq, equals_exec fuel st bk1 bk2 size l1 l2 hfuel hsize h1 h2 hidx]
  simp [Equals.RBucket.equals]

/-- Store-level model of the constructor's init script (`CuckooFilterRedis.initBuckets`):
    `DEL key`, then `LPUSH key bk` for every bucket key in order, `return true`.  (`redis.call`:
    a failing command aborts; after the `DEL` none fails.) -/
def cuckooInitLoop (key : String) : List String → Script Unit
  | [] => Script.pure ()
  | bk :: bks => cmdLPUSH key [bk] >>=ₛ fun _ => cuckooInitLoop key bks

def cuckooInitScript (key : String) (bks : List String) : Script Bool :=
  cmdDEL key >>=ₛ fun _ => cuckooInitLoop key bks >>=ₛ fun _ => Script.pure true

theorem cuckooInitLoop_eq (key : String) (bks : List String) (st : Store) (h : listAt st key ≠ none) :
    cuckooInitLoop key bks st = (pushAll key bks st, some ()) := by
  induction bks generalizing st with
  | nil => rfl
  | cons bk bks ih =>
    cases hl : listAt st key with
    | none => exact absurd hl h
    | some l =>
      unfold cuckooInitLoop pushAll
      simp only [Script.bind, cmdLPUSH1_ok st key bk l hl, List.foldl_cons, hl, Option.getD_some]
      exact ih _ (by rw [listAt_set_self]; exact Option.some_ne_none _)

theorem cuckooInitScript_eq (key : String) (bks : List String) (st : Store) :
    cuckooInitScript key bks st = (pushAll key bks (st.del key), some true) := by
  unfold cuckooInitScript
  have h : listAt (st.del key) key ≠ none := by
    unfold listAt; rw [Store.del_self]; exact Option.some_ne_none _
  simp only [Script.bind, cmdDEL, cuckooInitLoop_eq key bks _ h, Script.pure]

theorem pushAll_eq (key : String) (bks : List String) (st : Store) (l : List String)
    (h : listAt st key = some l) (hne : bks ≠ []) :
    pushAll key bks st = st.set key (.list (bks.reverse ++ l)) := by
  induction bks generalizing st l with
  | nil => exact absurd rfl hne
  | cons bk bks ih =>
    unfold pushAll
    simp only [List.foldl_cons, h, Option.getD_some]
    by_cases hb : bks = []
    · subst hb; simp
    · have := ih (st.set key (.list (bk :: l))) (bk :: l) (listAt_set_self _ _ _) hb
      unfold pushAll at this
      rw [this, Store.set_set]
      simp

theorem cuckooInitScript_store (key : String) (bks : List String) (st : Store) :
    (cuckooInitScript key bks st).1 = if bks = [] then st.del key else st.set key (.list bks.reverse) := by
  rw [cuckooInitScript_eq]
  by_cases hb : bks = []
  · subst hb; rfl
  · have h : listAt (st.del key) key = some [] := by unfold listAt; rw [Store.del_self]
    simp only [hb, if_false]
    rw [pushAll_eq key bks _ [] h hb, Store.del_set, List.append_nil]

/-- `CuckooFilterRedis.initBuckets`: KEYS = `filter.key :: bucketKeys` (one key per bucket),
    ARGV = `[filter.size, filter.bucketSize]` with `filter.size = len(bucketKeys)`. -/
theorem lua_initCuckooFilterRedis_eq (st : Store) (key : String) (bks : List String) (bsize fuel : Nat)
    (hfuel : bks.length + 15 ≤ fuel) (hlen : bks.length + 1 < 67108864) :
    Lua.run fuel cuckoo_filter_redis_initCuckooFilterRedis (key :: bks)
        [decimal bks.length, decimal bsize] st =
      ((cuckooInitScript key bks st).1, boolOutcome "" (cuckooInitScript key bks st).2) := by
  rw [run_eq, init_exec fuel st key bks _ hfuel hlen, cuckooInitScript_eq]
  rfl

/-- with the Go key names: the list at `filter.key` afterwards. -/
theorem lua_initCuckooFilterRedis_keys (st : Store) (h : CuckooHandle) (fuel : Nat)
    (hfuel : h.n + 15 ≤ fuel) (hn : h.n + 1 < 67108864) (hpos : 0 < h.n) :
    (Lua.run fuel cuckoo_filter_redis_initCuckooFilterRedis
        (h.key :: (List.range h.n).map (cuckooBucketKey h.key)) [decimal h.n, decimal h.bsize] st) =
      (st.set h.key (.list ((List.range h.n).map (cuckooBucketKey h.key)).reverse),
        .reply (.int 1)) := by
  have hl : ((List.range h.n).map (cuckooBucketKey h.key)).length = h.n := by simp
  have := lua_initCuckooFilterRedis_eq st h.key ((List.range h.n).map (cuckooBucketKey h.key)) h.bsize fuel
    (by rw [hl]; exact hfuel) (by rw [hl]; exact hn)
  rw [hl] at this
  rw [this, cuckooInitScript_store, cuckooInitScript_eq]
  have hne : (List.range h.n).map (cuckooBucketKey h.key) ≠ [] := by
    intro h0
    have := congrArg List.length h0
    rw [hl] at this
    simp at this; omega
  rw [if_neg hne]
  rfl

section abs
variable (st : Store) (bk : String) (size : Nat) (b : BucketRedis String)

theorem abs_hyps (habs : absBucket st bk size = some b) (hlen : b.len < 2 ^ 53) :
    listAt st bk ≠ none ∧
    (∀ l, st bk = some (.list l) → l = b.list) ∧
    (∀ c, st (bucketLenKey bk) = some (.str c) → TonumberAgrees (latin1 c)) ∧
    (∀ c d, d = 1 ∨ d = -1 → st (bucketLenKey bk) = some (.str c) → IncrAgrees (latin1 c) d) := by
  obtain ⟨_, hlist, hcnt⟩ := (C08_bucket_abs_iff st bk size b).mp habs
  have hc : ∀ c, st (bucketLenKey bk) = some (.str c) → latin1 c = renderInt (b.len : Int) := by
    intro c h
    have hcnt' : st (bucketLenKey bk) = some (.str (asciiBytes (decimal b.len))) := hcnt
    rw [hcnt'] at h
    simp only [Option.some.injEq, Val.str.injEq] at h
    subst h
    exact latin1_ascii_decimal _
  have hl : numLimit = 2 ^ 53 := rfl
  refine ⟨?_, ?_, fun c h => ?_, fun c d hd h => ?_⟩
  · unfold listAt
    rcases hlist with ⟨h0, _⟩ | h0 <;> rw [h0] <;> exact Option.some_ne_none _
  · intro l hl
    rcases hlist with ⟨h0, _⟩ | h0
    · rw [h0] at hl; exact absurd hl (by simp)
    · rw [h0] at hl; cases hl; rfl
  · rw [hc c h]
    exact tonumberAgrees_renderInt _ (by simp only [Int.natAbs_natCast]; omega)
  · rw [hc c h]
    apply incrAgrees_renderInt
    · simp only [Int.natAbs_natCast]; omega
    · rcases hd with rfl | rfl <;> omega

/-- `C08_bucket_isFree` through `lua_isFreeScript_eq`: the extracted script answers the model's
    `isFree` and leaves the store as it is. -/
theorem lua_isFreeScript_abs (fuel : Nat) (hfuel : 20 ≤ fuel) (hsize : size ≤ 2 ^ 53)
    (habs : absBucket st bk size = some b) (hlen : b.len < 2 ^ 53) :
    Lua.run fuel bucket_redis_isFreeScript [bk] [decimal size] st =
      (st, .reply (boolReply ((BucketRedis.ops "").isFree b))) := by
  obtain ⟨_, _, hcnt⟩ := (C08_bucket_abs_iff st bk size b).mp habs
  have hscript : bucketIsFreeScript bk size st = (st, some (decide ((b.len : Int) < (size : Int)))) :=
    bucket_readLen hcnt _
  have hfree := C08_bucket_isFree st bk size b habs
  unfold bucketIsFree goBool at hfree
  rw [lua_isFreeScript_eq st bk size fuel hfuel hsize (abs_hyps st bk size b habs hlen).2.2.1, hscript]
  rw [hscript] at hfree
  rw [← (Prod.mk.inj hfree).2]
  rfl

/-- `C08_bucket_add` through `lua_addElement_eq`: after the extracted script the store represents
    the model's `add`. -/
theorem lua_addElement_abs (e : String) (fuel : Nat) (hfuel : 20 ≤ fuel) (hsize : size ≤ 2 ^ 53)
    (he : e ≠ "") (habs : absBucket st bk size = some b) (hlen : b.len < 2 ^ 53)
    (hlist : b.list.length ≤ 2 ^ 53) :
    absBucket (Lua.run fuel bucket_redis_addElement [bk] [e, decimal size] st).1 bk size =
      some ((BucketRedis.ops "").add b e) := by
  obtain ⟨h1, h2, h3, h4⟩ := abs_hyps st bk size b habs hlen
  rw [lua_addElement_eq st bk e size fuel hfuel hsize h1 (fun l hl => by rw [h2 l hl]; exact hlist) h3
    (fun c n hc _ _ => h4 c 1 (Or.inl rfl) hc)]
  obtain ⟨st', hadd, habs', _⟩ := C08_bucket_add st bk size b e habs
  unfold bucketAdd goBool at hadd
  rw [if_neg he] at hadd
  rw [show (bucketAddScript bk size e st).1 = st' from congrArg Prod.fst hadd]
  exact habs'

theorem lua_removeElement_abs (e : String) (fuel : Nat) (hfuel : 20 ≤ fuel)
    (habs : absBucket st bk size = some b) (hlen : b.len < 2 ^ 53) (hlist : b.list.length ≤ 2 ^ 53)
    (hpresent : (BucketRedis.ops "").lookup b e = true) (hpos : 0 < b.len) :
    ∃ st', Lua.run fuel bucket_redis_removeElement [bk] [e] st = (st', .reply (.int 1)) ∧
      absBucket st' bk size = some ((BucketRedis.ops "").remove b e) := by
  obtain ⟨_, h2, _, h4⟩ := abs_hyps st bk size b habs hlen
  obtain ⟨st', hrem, habs', _⟩ := C08_bucket_remove st bk size b e habs hpresent hpos
  refine ⟨st', ?_, habs'⟩
  rw [lua_removeElement_eq st bk e fuel hfuel (fun l hl => by rw [h2 l hl]; exact hlist)
    (fun c l hc _ _ => h4 c (-1) (Or.inr rfl) hc), hrem]
  rfl

/-- `C08_bucket_lookup` through `lua_exists_eq`: the reply is a position `p` with
    `p > -1` iff the model's `lookup`. -/
theorem lua_exists_abs (e : String) (fuel : Nat) (hfuel : 20 ≤ fuel)
    (habs : absBucket st bk size = some b) :
    ∃ p : Int, Lua.run fuel bucket_redis_exists [bk] [e] st = (st, .reply (.int p)) ∧
      decide (p > -1) = (BucketRedis.ops "").lookup b e := by
  have hl := C08_bucket_lookup st bk size b e habs
  rw [lua_exists_eq st bk e fuel hfuel]
  unfold bucketLookup Script.bind at hl
  cases hs : bucketLookupScript bk e st with
  | mk st' r =>
    rw [hs] at hl
    cases r with
    | none => simp at hl
    | some p =>
      simp only [Script.pure, Prod.mk.injEq, Option.some.injEq] at hl
      exact ⟨p, by rw [hl.1]; rfl, hl.2⟩

end abs


/-! `Outcome` has no `DecidableEq` (`Reply` is a nested inductive); equality with an outcome that carries
    no array is decidable, which is what checking a concrete run in the kernel needs. -/

instance (o : Outcome) (n : Int) : Decidable (o = .reply (.int n)) :=
  match o with
  | .reply (.int n') => decidable_of_iff (n' = n) ⟨fun h => h ▸ rfl, fun h => Reply.int.inj (Outcome.reply.inj h)⟩
  | .reply (.bulk _) | .reply .nil | .reply (.status _) | .reply (.error _) | .reply (.array _)
  | .error _ | .unsupported _ | .outOfFuel => isFalse nofun

instance (o : Outcome) : Decidable (o = .reply .nil) :=
  match o with
  | .reply .nil => isTrue rfl
  | .reply (.bulk _) | .reply (.int _) | .reply (.status _) | .reply (.error _) | .reply (.array _)
  | .error _ | .unsupported _ | .outOfFuel => isFalse nofun

instance (o : Outcome) (m : String) : Decidable (o = .error m) :=
  match o with
  | .error m' => decidable_of_iff (m' = m) ⟨fun h => h ▸ rfl, Outcome.error.inj⟩
  | .reply _ | .unsupported _ | .outOfFuel => isFalse nofun

instance (o : Outcome) (w : String) : Decidable (o = .unsupported w) :=
  match o with
  | .unsupported w' => decidable_of_iff (w' = w) ⟨fun h => h ▸ rfl, Outcome.unsupported.inj⟩
  | .reply _ | .error _ | .outOfFuel => isFalse nofun

def storeOf (kvs : List (String × Val)) : Store :=
  fun k => (kvs.find? (fun kv => kv.1 == k)).map (·.2)

/-- counter `" 3"` (a leading blank): gopher-lua's `tonumber` trims it, the model's `parseInt`
    rejects it — `TonumberAgrees` fails. -/
def sBlank : Store := storeOf [("b_len", .str (asciiBytes " 3"))]

/-- without `hnum`: the extracted `isFree` answers true, the hand model aborts. -/
theorem lua_isFreeScript_differs_blank :
    (Lua.run 20 bucket_redis_isFreeScript ["b"] [decimal 4] sBlank).2 = .reply (.int 1) ∧
    (bucketIsFreeScript "b" 4 sBlank).2 = none ∧
    ¬ TonumberAgrees (latin1 (asciiBytes " 3")) :=
  ⟨by decide +kernel, by decide, fun h => by
    have h1 : luaToNumber (latin1 (asciiBytes " 3")) = .num 3 := rfl
    have h2 : parseInt (latin1 (asciiBytes " 3")) = none := by decide
    unfold TonumberAgrees at h; rw [h1, h2] at h; exact ToNumber.noConfusion h⟩

def sZero : Store := storeOf [("b_len", .str (asciiBytes "0"))]

/-- without `hsize`: a bucket size beyond 2^53 is `unsupported` in the interpreter (float64),
    while the hand model computes with unbounded integers. -/
theorem lua_isFreeScript_differs_size :
    (Lua.run 20 bucket_redis_isFreeScript ["b"] [decimal (2 ^ 53 + 1)] sZero).2 =
      .unsupported "tonumber of a numeral beyond 2^53" ∧
    (bucketIsFreeScript "b" (2 ^ 53 + 1) sZero).2 = some true := by
  decide +kernel

def sWrong : Store := storeOf [("b", .str []), ("b_len", .str (asciiBytes "0"))]

/-- every run on `sWrong` quoted below, in one evaluation. -/
theorem sWrong_runs :
    ((Lua.run 20 bucket_redis_addElement ["b"] ["x", decimal 4] sWrong).2 =
      .error "Lua redis lib command arguments must be strings or integers" ∧
    (Lua.run 20 bucket_redis_addElement ["b"] ["x", decimal 4] sWrong).1 "b_len" =
      some (.str (asciiBytes "0")) ∧
    (bucketAddScript "b" 4 "x" sWrong).2 = some true ∧
    (bucketAddScript "b" 4 "x" sWrong).1 "b_len" = some (.str (asciiBytes "1"))) ∧
    (Lua.run 20 bucket_redis_exists ["b"] ["z"] sWrong).2 = .reply .nil := by decide +kernel

/-- without `hlist`: on a wrong-type list key the extracted `addElement` raises (miniredis:
    `pcall` returns nil, `tonumber(nil)` is nil, a nil argument raises) and leaves the counter,
    the hand model (real Redis: error table, failed LSET swallowed) answers true and increments. -/
theorem lua_addElement_differs_wrongtype :
    (Lua.run 20 bucket_redis_addElement ["b"] ["x", decimal 4] sWrong).2 =
      .error "Lua redis lib command arguments must be strings or integers" ∧
    (Lua.run 20 bucket_redis_addElement ["b"] ["x", decimal 4] sWrong).1 "b_len" =
      some (.str (asciiBytes "0")) ∧
    (bucketAddScript "b" 4 "x" sWrong).2 = some true ∧
    (bucketAddScript "b" 4 "x" sWrong).1 "b_len" = some (.str (asciiBytes "1")) :=
  sWrong_runs.1

/-- the counter holds `"007"`: a number for `tonumber`, `parseInt` and miniredis' `Atoi`, not for
    the model's INCRBY (Redis' `string2ll`). -/
def sPadded : Store := storeOf [("b", .list ["x"]), ("b_len", .str (asciiBytes "007"))]

/-- every run on `sPadded` quoted below, in one evaluation. -/
theorem sPadded_runs :
    ((Lua.run 20 bucket_redis_addElement ["b"] ["y", decimal 9] sPadded).1 "b_len" =
      some (.str (asciiBytes "8")) ∧
    (bucketAddScript "b" 9 "y" sPadded).1 "b_len" = some (.str (asciiBytes "007"))) ∧
    (Lua.run 20 bucket_redis_removeElement ["b"] ["x"] sPadded).1 "b_len" =
      some (.str (asciiBytes "6")) ∧
    (bucketRemove "b" "x" sPadded).1 "b_len" = some (.str (asciiBytes "007")) := by decide +kernel

/-- without `hincr`: miniredis' INCRBY rewrites `"007"` to `"8"`, the model's fails silently. -/
theorem lua_addElement_differs_noncanonical :
    (Lua.run 20 bucket_redis_addElement ["b"] ["y", decimal 9] sPadded).1 "b_len" =
      some (.str (asciiBytes "8")) ∧
    (bucketAddScript "b" 9 "y" sPadded).1 "b_len" = some (.str (asciiBytes "007")) ∧
    ¬ IncrAgrees (latin1 (asciiBytes "007")) 1 :=
  ⟨sPadded_runs.1.1, sPadded_runs.1.2, fun h => by
    have h1 : parseIntStrict (latin1 (asciiBytes "007")) = none := by decide
    have h2 : goAtoi (latin1 (asciiBytes "007")) = .num 7 := by decide
    unfold IncrAgrees at h; rw [h1, h2] at h; exact NumParse.noConfusion h⟩

theorem lua_removeElement_differs_noncanonical :
    (Lua.run 20 bucket_redis_removeElement ["b"] ["x"] sPadded).1 "b_len" =
      some (.str (asciiBytes "6")) ∧
    (bucketRemove "b" "x" sPadded).1 "b_len" = some (.str (asciiBytes "007")) :=
  sPadded_runs.2

def sEqWrong : Store := storeOf [("a", .str [])]

/-- without the type hypothesis of `lua_equals_eq`: miniredis' `pcall` gives nil and `vals1[1]`
    raises; the Redis-style model reads an empty table on both sides and answers true. -/
theorem lua_equals_differs_wrongtype :
    (Lua.run 20 bucket_redis_equals ["a", "c"] [decimal 1] sEqWrong).2 =
      .error "attempt to index a non-table object(nil)" ∧
    (bucketEqualsScript "a" "c" 1 sEqWrong).2 = some true := by
  decide +kernel

/-- bucket `b`: one free slot (`""`), counter 1, size 2. -/
def sOne : Store := storeOf [("b", .list ["x", ""]), ("b_len", .str (asciiBytes "1"))]
def bOne : BucketRedis String := ⟨2, ["x", ""], 1⟩

/-- every run on `sOne` that the examples below quote, in one evaluation. -/
theorem sOne_runs :
    absBucket sOne "b" 2 = some bOne ∧
    (Lua.run 20 bucket_redis_isFreeScript ["b"] [decimal 2] sOne).2 = .reply (.int 1) ∧
    (bucketIsFreeScript "b" 2 sOne).2 = some true ∧
    (Lua.run 20 bucket_redis_addElement ["b"] ["y", decimal 2] sOne).2 = .reply (.int 1) ∧
    (Lua.run 20 bucket_redis_addElement ["b"] ["y", decimal 2] sOne).1 "b" = some (.list ["x", "y"]) ∧
    (Lua.run 20 bucket_redis_addElement ["b"] ["y", decimal 2] sOne).1 "b_len" =
      some (.str (asciiBytes "2")) ∧
    (Lua.run 20 bucket_redis_addElement ["b"] ["y", decimal 1] sOne).2 = .reply .nil ∧
    (Lua.run 20 bucket_redis_removeElement ["b"] ["x"] sOne).1 "b" = some (.list ["", ""]) ∧
    (Lua.run 20 bucket_redis_removeElement ["b"] ["z"] sOne).2 =
      .error "Lua redis lib command arguments must be strings or integers" ∧
    sOne "b" = some (.list ["x", ""]) ∧
    (Lua.run 20 bucket_redis_exists ["b"] [""] sOne).2 = .reply (.int 1) ∧
    (Lua.run 20 bucket_redis_exists ["b"] ["z"] sOne).2 = .reply (.int (-1)) := by decide +kernel

theorem sOne_abs : absBucket sOne "b" 2 = some bOne := sOne_runs.1

example : Lua.run 20 bucket_redis_isFreeScript ["b"] [decimal 2] sOne = (sOne, .reply (.int 1)) :=
  lua_isFreeScript_abs sOne "b" 2 bOne 20 (by decide) (by decide) sOne_abs (by decide)
example : (Lua.run 20 bucket_redis_isFreeScript ["b"] [decimal 2] sOne).2 = .reply (.int 1) := sOne_runs.2.1
example : (bucketIsFreeScript "b" 2 sOne).2 = some true := sOne_runs.2.2.1

example : absBucket (Lua.run 20 bucket_redis_addElement ["b"] ["y", decimal 2] sOne).1 "b" 2 =
    some ⟨2, ["x", "y"], 2⟩ :=
  lua_addElement_abs sOne "b" 2 bOne "y" 20 (by decide) (by decide) (by decide) sOne_abs (by decide)
    (by decide)
example : (Lua.run 20 bucket_redis_addElement ["b"] ["y", decimal 2] sOne).2 = .reply (.int 1) := sOne_runs.2.2.2.1
example : (Lua.run 20 bucket_redis_addElement ["b"] ["y", decimal 2] sOne).1 "b" =
    some (.list ["x", "y"]) := sOne_runs.2.2.2.2.1
example : (Lua.run 20 bucket_redis_addElement ["b"] ["y", decimal 2] sOne).1 "b_len" =
    some (.str (asciiBytes "2")) := sOne_runs.2.2.2.2.2.1
example : (Lua.run 20 bucket_redis_addElement ["b"] ["y", decimal 1] sOne).2 = .reply .nil :=
  sOne_runs.2.2.2.2.2.2.1

example : ∃ st', Lua.run 20 bucket_redis_removeElement ["b"] ["x"] sOne = (st', .reply (.int 1)) ∧
    absBucket st' "b" 2 = some ⟨2, ["", ""], 0⟩ :=
  lua_removeElement_abs sOne "b" 2 bOne "x" 20 (by decide) sOne_abs (by decide) (by decide)
    (by decide) (by decide)
example : (Lua.run 20 bucket_redis_removeElement ["b"] ["x"] sOne).1 "b" = some (.list ["", ""]) :=
  sOne_runs.2.2.2.2.2.2.2.1
/-- an absent element: the script aborts with the message of `removeError`, nothing is written. -/
example : (Lua.run 20 bucket_redis_removeElement ["b"] ["z"] sOne).2 =
    .error "Lua redis lib command arguments must be strings or integers" := sOne_runs.2.2.2.2.2.2.2.2.1
example : (Lua.run 20 bucket_redis_removeElement ["b"] ["z"] sOne).2 =
    boolOutcome (removeError sOne "b") (bucketRemove "b" "z" sOne).2 := by
  have hb := sOne_runs.2.2.2.2.2.2.2.2.2.1
  exact congrArg Prod.snd (lua_removeElement_eq sOne "b" "z" 20 (by decide)
    (fun l hl => by rw [hb] at hl; cases hl; decide)
    (fun c l _ hl hc => by rw [hb] at hl; cases hl; exact absurd hc (by decide)))

example : (Lua.run 20 bucket_redis_exists ["b"] [""] sOne).2 = .reply (.int 1) := sOne_runs.2.2.2.2.2.2.2.2.2.2.1
example : (Lua.run 20 bucket_redis_exists ["b"] ["z"] sOne).2 = .reply (.int (-1)) :=
  sOne_runs.2.2.2.2.2.2.2.2.2.2.2
example : (Lua.run 20 bucket_redis_exists ["b"] ["z"] sWrong).2 = .reply .nil := sWrong_runs.2
example : Lua.run 20 bucket_redis_exists ["b"] ["z"] sWrong =
    ((bucketLookupScript "b" "z" sWrong).1, lookupOutcome (bucketLookupScript "b" "z" sWrong).2) :=
  lua_exists_eq sWrong "b" "z" 20 (by decide)
example : ∃ p : Int, Lua.run 20 bucket_redis_exists ["b"] ["x"] sOne = (sOne, .reply (.int p)) ∧
    decide (p > -1) = true :=
  lua_exists_abs sOne "b" 2 bOne "x" 20 (by decide) sOne_abs

/-- two bucket lists that agree on the first two slots and differ in the third. -/
def sTwo : Store := storeOf [("a", .list ["x", "y", "z"]), ("c", .list ["x", "y"])]

/-- every run on `sTwo` quoted below, in one evaluation. -/
theorem sTwo_runs :
    listAt sTwo "a" = some ["x", "y", "z"] ∧ listAt sTwo "c" = some ["x", "y"] ∧
    (Lua.run 40 bucket_redis_equals ["a", "c"] [decimal 2] sTwo).2 = .reply (.int 1) ∧
    (Lua.run 40 bucket_redis_equals ["a", "c"] [decimal 3] sTwo).2 = .reply .nil ∧
    (Lua.run 40 bucket_redis_equals ["nokey", "nokey2"] [decimal 5] sTwo).2 = .reply (.int 1) ∧
    (Lua.run 40 cuckoo_filter_redis_initCuckooFilterRedis ["k", "k0", "k1", "k2"]
      [decimal 3, decimal 4] sTwo).2 = .reply (.int 1) ∧
    (Lua.run 40 cuckoo_filter_redis_initCuckooFilterRedis ["k", "k0", "k1", "k2"]
      [decimal 3, decimal 4] sTwo).1 "k" = some (.list ["k2", "k1", "k0"]) ∧
    (Lua.run 40 cuckoo_filter_redis_initCuckooFilterRedis ["a", "k0"]
      [decimal 1, decimal 4] sTwo).1 "a" = some (.list ["k0"]) := by decide +kernel

example : Lua.run 40 bucket_redis_equals ["a", "c"] [decimal 2] sTwo =
    (sTwo, boolOutcome "" (Equals.RBucket.equals ⟨2, ["x", "y", "z"]⟩ ⟨2, ["x", "y"]⟩)) :=
  lua_equals_eq_RBucket sTwo "a" "c" 2 40 _ _ (by decide) (by decide) sTwo_runs.1 sTwo_runs.2.1
    (Or.inl (by decide))
example : (Lua.run 40 bucket_redis_equals ["a", "c"] [decimal 2] sTwo).2 = .reply (.int 1) := sTwo_runs.2.2.1
example : (Lua.run 40 bucket_redis_equals ["a", "c"] [decimal 3] sTwo).2 = .reply .nil := sTwo_runs.2.2.2.1
example : Equals.RBucket.equals ⟨3, ["x", "y", "z"]⟩ ⟨3, ["x", "y"]⟩ = some false := by decide
/-- an absent key is an empty list; slots beyond both lists compare equal (`nil ~= nil` is false). -/
example : (Lua.run 40 bucket_redis_equals ["nokey", "nokey2"] [decimal 5] sTwo).2 = .reply (.int 1) :=
  sTwo_runs.2.2.2.2.1

example : Lua.run 40 cuckoo_filter_redis_initCuckooFilterRedis ["k", "k0", "k1", "k2"]
      [decimal 3, decimal 4] sTwo =
    ((cuckooInitScript "k" ["k0", "k1", "k2"] sTwo).1,
      boolOutcome "" (cuckooInitScript "k" ["k0", "k1", "k2"] sTwo).2) :=
  lua_initCuckooFilterRedis_eq sTwo "k" ["k0", "k1", "k2"] 4 40 (by decide) (by decide)
example : (Lua.run 40 cuckoo_filter_redis_initCuckooFilterRedis ["k", "k0", "k1", "k2"]
    [decimal 3, decimal 4] sTwo).2 = .reply (.int 1) := sTwo_runs.2.2.2.2.2.1
example : (Lua.run 40 cuckoo_filter_redis_initCuckooFilterRedis ["k", "k0", "k1", "k2"]
    [decimal 3, decimal 4] sTwo).1 "k" = some (.list ["k2", "k1", "k0"]) := sTwo_runs.2.2.2.2.2.2.1
example : (Lua.run 40 cuckoo_filter_redis_initCuckooFilterRedis ["a", "k0"]
    [decimal 1, decimal 4] sTwo).1 "a" = some (.list ["k0"]) := sTwo_runs.2.2.2.2.2.2.2
example : (Lua.run 40 cuckoo_filter_redis_initCuckooFilterRedis
      ("k" :: (List.range 2).map (cuckooBucketKey "k")) [decimal 2, decimal 4] Store.empty).1 "k" =
    some (.list ["cuckoo_k_bucket_1", "cuckoo_k_bucket_0"]) := by
  rw [lua_initCuckooFilterRedis_keys Store.empty ⟨2, 4, 0, 0, "k", "m"⟩ 40 (by decide) (by decide)
    (by decide)]
  decide +kernel

end Gostatix.LuaBucket
