/-
  C13 — cuckoo filter deletion and `length` accounting.
  In-memory filter (`BucketMem.ops emp`, namespace `Gostatix.Cuckoo.Mem`) and, at the end of the file,
  the Redis-backed filter (`BucketRedis.ops emp`, namespace `Gostatix.Cuckoo.Redis`); arbitrary
  fingerprint type `F` with empty value `emp`.
  Everything here holds for ANY number of buckets `n` and ANY alternate-bucket map `alt` that stays
  in range (no involution hypothesis), and for every choice of `side` / `slots` (slots `< bsize`).
  Helper lemmas: `Gostatix/Proofs/Cuckoo*.lean`.
-/
import Gostatix.Proofs.CuckooMem
import Gostatix.Proofs.CuckooRedis
namespace Gostatix.Cuckoo.Mem

section
variable {F : Type} [DecidableEq F] [Inhabited (BucketMem F)]

/-- `Insert` keeps the filter well-formed: both outcomes, both destructive modes, all choices. -/
theorem C13_wf_preserved_insert (emp : F) (alt : Nat → F → Nat) (c : Cuckoo (BucketMem F))
    (fp : F) (i1 i2 : Nat) (d side : Bool) (slots : List Nat)
    (hwf : WF emp c) (hAlt : ∀ j f, j < c.n → alt j f < c.n) (hb : 0 < c.bsize) (hfp : fp ≠ emp)
    (hi1 : i1 < c.n) (hi2 : i2 < c.n) (hsl : ∀ x ∈ slots, x < c.bsize) :
    WF emp (insert (BucketMem.ops emp) alt c fp i1 i2 d side slots).val :=
  (wf_iff emp _).mpr (insert_wf (BucketMem.lawful emp) alt c fp i1 i2 d side slots
    ((wf_iff emp c).mp hwf) hAlt hb hfp hi1 hi2 hsl).1

/-- `Remove` keeps the filter well-formed (both outcomes). -/
theorem C13_wf_preserved_remove (emp : F) (c : Cuckoo (BucketMem F)) (fp : F) (i1 i2 : Nat)
    (hwf : WF emp c) (hfp : fp ≠ emp) (hi1 : i1 < c.n) (hi2 : i2 < c.n) :
    WF emp (remove (BucketMem.ops emp) c fp i1 i2).1 :=
  (wf_iff emp _).mpr (remove_result (BucketMem.lawful emp) c fp i1 i2 ((wf_iff emp c).mp hwf) hfp hi1 hi2).2

/-- Well-formedness is an invariant of every history of inserts (any mode, any choices, any
    outcome), removes and lookups of elements with valid positions. -/
theorem C13_wf_preserved (emp : F) (alt : Nat → F → Nat) (c : Cuckoo (BucketMem F))
    (h : List (COp F)) (hwf : WF emp c) (hAlt : ∀ j f, j < c.n → alt j f < c.n) (hb : 0 < c.bsize)
    (hv : ∀ op ∈ h, ValidOp emp c.n c.bsize op) :
    WF emp (run (BucketMem.ops emp) alt c h) :=
  (wf_iff emp _).mpr (run_inv (BucketMem.lawful emp) alt c.n c.bsize hAlt hb c h
    ⟨(wf_iff emp c).mp hwf, rfl, rfl⟩ hv).1.1

/-- **`length` is exact.** After any history run from the new filter, `length` equals the number
    of occupied slots and equals (#successful inserts − #successful removes). -/
theorem C13_length_exact (emp : F) (alt : Nat → F → Nat) (n bsize fpl retries : Nat)
    (h : List (COp F)) (hAlt : ∀ j f, j < n → alt j f < n) (hb : 0 < bsize)
    (hv : ∀ op ∈ h, ValidOp emp n bsize op) :
    let c0 := empty emp n bsize fpl retries
    let c := run (BucketMem.ops emp) alt c0 h
    c.length = stored emp c ∧
    c.length + okRemoves (BucketMem.ops emp) alt allSel c0 h
      = okInserts (BucketMem.ops emp) alt allSel c0 h :=
  length_exact (BucketMem.lawful emp) alt n bsize hAlt hb _ h (empty_inv emp n bsize fpl retries) hv rfl

/-- `length` accounting from an arbitrary well-formed start state. -/
theorem C13_length_accounting (emp : F) (alt : Nat → F → Nat) (c0 : Cuckoo (BucketMem F))
    (h : List (COp F)) (hwf : WF emp c0) (hAlt : ∀ j f, j < c0.n → alt j f < c0.n) (hb : 0 < c0.bsize)
    (hv : ∀ op ∈ h, ValidOp emp c0.n c0.bsize op) :
    (run (BucketMem.ops emp) alt c0 h).length + okRemoves (BucketMem.ops emp) alt allSel c0 h
      = c0.length + okInserts (BucketMem.ops emp) alt allSel c0 h :=
  (run_inv (BucketMem.lawful emp) alt c0.n c0.bsize hAlt hb c0 h
    ⟨(wf_iff emp c0).mp hwf, rfl, rfl⟩ hv).2.1

/-- **Capacity.** After any history run from the new filter every bucket still has exactly `bsize`
    slots, its cached length is its number of occupied slots, and that is at most `bsize`. -/
theorem C13_capacity (emp : F) (alt : Nat → F → Nat) (n bsize fpl retries : Nat)
    (h : List (COp F)) (hAlt : ∀ j f, j < n → alt j f < n) (hb : 0 < bsize)
    (hv : ∀ op ∈ h, ValidOp emp n bsize op) :
    ∀ b ∈ (run (BucketMem.ops emp) alt (empty emp n bsize fpl retries) h).buckets,
      b.elements.length = bsize ∧ b.length = occ emp b.elements ∧ b.length ≤ bsize := fun b hb' =>
  let ⟨⟨_, h2, h3⟩, h4⟩ := run_capacity (BucketMem.lawful emp) alt n bsize hAlt hb _ h
    (empty_inv emp n bsize fpl retries) hv b hb'
  ⟨h2, h3, h3 ▸ h4⟩

/-- **Removing a present element.** If `Lookup` is true then `Remove` returns true, the filter
    stays well-formed, `length` and the number of occupied slots drop by exactly one, and exactly
    one stored copy of `fp` disappears (every other fingerprint keeps its multiplicity). -/
theorem C13_remove_present (emp : F) (c : Cuckoo (BucketMem F)) (fp : F) (i1 i2 : Nat)
    (hwf : WF emp c) (hfp : fp ≠ emp) (hi1 : i1 < c.n) (hi2 : i2 < c.n)
    (hl : lookup (BucketMem.ops emp) c fp i1 i2 = true) :
    (remove (BucketMem.ops emp) c fp i1 i2).2 = true ∧
    WF emp (remove (BucketMem.ops emp) c fp i1 i2).1 ∧
    (remove (BucketMem.ops emp) c fp i1 i2).1.length + 1 = c.length ∧
    stored emp (remove (BucketMem.ops emp) c fp i1 i2).1 + 1 = stored emp c ∧
    ∀ g, g ≠ emp →
      (allSlots (remove (BucketMem.ops emp) c fp i1 i2).1).count g + (if g = fp then 1 else 0)
        = (allSlots c).count g :=
  have ⟨h1, sp⟩ := remove_present (BucketMem.lawful emp) c fp i1 i2 ((wf_iff emp c).mp hwf) hfp hi1 hi2 hl
  ⟨h1, (wf_iff emp _).mpr sp.wf, sp.length, sp.stored, sp.count⟩

/-- **Removing an absent element.** If `Lookup` is false then `Remove` returns false and the state
    is unchanged (no hypotheses). -/
theorem C13_remove_absent (emp : F) (c : Cuckoo (BucketMem F)) (fp : F) (i1 i2 : Nat)
    (hl : lookup (BucketMem.ops emp) c fp i1 i2 = false) :
    remove (BucketMem.ops emp) c fp i1 i2 = (c, false) :=
  remove_absent c fp i1 i2 hl

/-- `Remove` returns exactly what `Lookup` reports. -/
theorem C13_remove_result (emp : F) (c : Cuckoo (BucketMem F)) (fp : F) (i1 i2 : Nat)
    (hwf : WF emp c) (hfp : fp ≠ emp) (hi1 : i1 < c.n) (hi2 : i2 < c.n) :
    (remove (BucketMem.ops emp) c fp i1 i2).2 = lookup (BucketMem.ops emp) c fp i1 i2 :=
  (remove_result (BucketMem.lawful emp) c fp i1 i2 ((wf_iff emp c).mp hwf) hfp hi1 hi2).1

/-- **Empty again.** A well-formed filter with `length = 0` has the buckets of a new filter, and
    every lookup of a valid element is false. -/
theorem C13_empty_after_all_removed (emp : F) (c : Cuckoo (BucketMem F)) (hwf : WF emp c)
    (h0 : c.length = 0) :
    c.buckets = List.replicate c.n (BucketMem.new emp c.bsize) ∧
    ∀ fp i1 i2, fp ≠ emp → i1 < c.n → i2 < c.n → lookup (BucketMem.ops emp) c fp i1 i2 = false :=
  ⟨buckets_eq_empty emp c hwf h0,
    lookup_false_of_length_zero (BucketMem.lawful emp) c ((wf_iff emp c).mp hwf) h0⟩

/-- **A balanced history leaves a new filter.** If, in a history run from the new filter, every
    successful insert has been matched by a successful remove, the resulting state IS the new
    filter (same buckets, same `length`, same configuration). -/
theorem C13_balanced_history_is_new (emp : F) (alt : Nat → F → Nat) (n bsize fpl retries : Nat)
    (h : List (COp F)) (hAlt : ∀ j f, j < n → alt j f < n) (hb : 0 < bsize)
    (hv : ∀ op ∈ h, ValidOp emp n bsize op)
    (hbal : okInserts (BucketMem.ops emp) alt allSel (empty emp n bsize fpl retries) h
          = okRemoves (BucketMem.ops emp) alt allSel (empty emp n bsize fpl retries) h) :
    run (BucketMem.ops emp) alt (empty emp n bsize fpl retries) h = empty emp n bsize fpl retries := by
  obtain ⟨hI, h0⟩ := balanced_history (BucketMem.lawful emp) alt n bsize hAlt hb _ h
    (empty_inv emp n bsize fpl retries) hv rfl hbal
  have hbs := buckets_eq_empty emp _ ((wf_iff emp _).mpr hI.1) h0
  obtain ⟨_, _, p3, p4⟩ :=
    run_params (o := BucketMem.ops emp) alt (empty emp n bsize fpl retries) h
  obtain ⟨_, p1, p2⟩ := hI
  generalize run (BucketMem.ops emp) alt (empty emp n bsize fpl retries) h = c at *
  cases c
  simp only [empty] at *
  subst p1; subst p2; subst p3; subst p4; subst h0; subst hbs
  rfl

end

/-! ### non-vacuity -/

/-- insert two elements with the same fingerprint orbit, remove both: the filter is new again -/
example : run (BucketMem.ops 0) (fun j f => (j ^^^ f) % 2) (empty 0 2 1 0 3)
    [.insert 5 0 false true [0], .insert 7 1 false true [0], .lookup 5 0, .remove 5 0, .remove 5 0,
     .remove 7 1] = empty 0 2 1 0 3 := by decide +kernel

/-- The hypothesis `fp ≠ emp` is needed: inserting the empty fingerprint (what `getPositions`
    yields when the fingerprint length exceeds the hash's decimal length, the error being ignored)
    reports success and bumps `length` although `bucket.add` refuses to store it. -/
theorem C13_emp_fingerprint_miscounts :
    insert (BucketMem.ops 0) (fun j f => (j ^^^ f) % 2) (empty 0 2 1 0 3) 0 0 0 false true [0]
      = .ok ⟨2, 1, 0, 3, [⟨1, [0], 0⟩, ⟨1, [0], 0⟩], 1⟩ := by decide +kernel

end Gostatix.Cuckoo.Mem

/-! ## the Redis-backed filter (`BucketRedis.ops emp`)

The same theorems, except the last two: a Redis list keeps the empty-string holes that removes
leave, so an emptied filter is not the new filter; `C13_empty_after_all_removed` and
`C13_balanced_history_is_new` say instead that every entry is empty, `length = 0` and every
lookup is false. -/
namespace Gostatix.Cuckoo.Redis

section
variable {F : Type} [DecidableEq F] [Inhabited (BucketRedis F)]

theorem C13_wf_preserved_insert (emp : F) (alt : Nat → F → Nat) (c : Cuckoo (BucketRedis F))
    (fp : F) (i1 i2 : Nat) (d side : Bool) (slots : List Nat)
    (hwf : WF emp c) (hAlt : ∀ j f, j < c.n → alt j f < c.n) (hb : 0 < c.bsize) (hfp : fp ≠ emp)
    (hi1 : i1 < c.n) (hi2 : i2 < c.n) (hsl : ∀ x ∈ slots, x < c.bsize) :
    WF emp (insert (BucketRedis.ops emp) alt c fp i1 i2 d side slots).val :=
  (wf_iff emp _).mpr (insert_wf (BucketRedis.lawful emp) alt c fp i1 i2 d side slots
    ((wf_iff emp c).mp hwf) hAlt hb hfp hi1 hi2 hsl).1

theorem C13_wf_preserved_remove (emp : F) (c : Cuckoo (BucketRedis F)) (fp : F) (i1 i2 : Nat)
    (hwf : WF emp c) (hfp : fp ≠ emp) (hi1 : i1 < c.n) (hi2 : i2 < c.n) :
    WF emp (remove (BucketRedis.ops emp) c fp i1 i2).1 :=
  (wf_iff emp _).mpr (remove_result (BucketRedis.lawful emp) c fp i1 i2 ((wf_iff emp c).mp hwf) hfp hi1 hi2).2

theorem C13_wf_preserved (emp : F) (alt : Nat → F → Nat) (c : Cuckoo (BucketRedis F))
    (h : List (COp F)) (hwf : WF emp c) (hAlt : ∀ j f, j < c.n → alt j f < c.n) (hb : 0 < c.bsize)
    (hv : ∀ op ∈ h, ValidOp emp c.n c.bsize op) :
    WF emp (run (BucketRedis.ops emp) alt c h) :=
  (wf_iff emp _).mpr (run_inv (BucketRedis.lawful emp) alt c.n c.bsize hAlt hb c h
    ⟨(wf_iff emp c).mp hwf, rfl, rfl⟩ hv).1.1

theorem C13_length_exact (emp : F) (alt : Nat → F → Nat) (n bsize fpl retries : Nat)
    (h : List (COp F)) (hAlt : ∀ j f, j < n → alt j f < n) (hb : 0 < bsize)
    (hv : ∀ op ∈ h, ValidOp emp n bsize op) :
    let c0 := (empty n bsize fpl retries : Cuckoo (BucketRedis F))
    let c := run (BucketRedis.ops emp) alt c0 h
    c.length = stored emp c ∧
    c.length + okRemoves (BucketRedis.ops emp) alt allSel c0 h
      = okInserts (BucketRedis.ops emp) alt allSel c0 h :=
  length_exact (BucketRedis.lawful emp) alt n bsize hAlt hb _ h (empty_inv emp n bsize fpl retries) hv rfl

theorem C13_length_accounting (emp : F) (alt : Nat → F → Nat) (c0 : Cuckoo (BucketRedis F))
    (h : List (COp F)) (hwf : WF emp c0) (hAlt : ∀ j f, j < c0.n → alt j f < c0.n) (hb : 0 < c0.bsize)
    (hv : ∀ op ∈ h, ValidOp emp c0.n c0.bsize op) :
    (run (BucketRedis.ops emp) alt c0 h).length + okRemoves (BucketRedis.ops emp) alt allSel c0 h
      = c0.length + okInserts (BucketRedis.ops emp) alt allSel c0 h :=
  (run_inv (BucketRedis.lawful emp) alt c0.n c0.bsize hAlt hb c0 h
    ⟨(wf_iff emp c0).mp hwf, rfl, rfl⟩ hv).2.1

theorem C13_remove_present (emp : F) (c : Cuckoo (BucketRedis F)) (fp : F) (i1 i2 : Nat)
    (hwf : WF emp c) (hfp : fp ≠ emp) (hi1 : i1 < c.n) (hi2 : i2 < c.n)
    (hl : lookup (BucketRedis.ops emp) c fp i1 i2 = true) :
    (remove (BucketRedis.ops emp) c fp i1 i2).2 = true ∧
    WF emp (remove (BucketRedis.ops emp) c fp i1 i2).1 ∧
    (remove (BucketRedis.ops emp) c fp i1 i2).1.length + 1 = c.length ∧
    stored emp (remove (BucketRedis.ops emp) c fp i1 i2).1 + 1 = stored emp c ∧
    ∀ g, g ≠ emp →
      (allSlots (remove (BucketRedis.ops emp) c fp i1 i2).1).count g + (if g = fp then 1 else 0)
        = (allSlots c).count g :=
  have ⟨h1, sp⟩ := remove_present (BucketRedis.lawful emp) c fp i1 i2 ((wf_iff emp c).mp hwf) hfp hi1 hi2 hl
  ⟨h1, (wf_iff emp _).mpr sp.wf, sp.length, sp.stored, sp.count⟩

theorem C13_remove_absent (emp : F) (c : Cuckoo (BucketRedis F)) (fp : F) (i1 i2 : Nat)
    (hl : lookup (BucketRedis.ops emp) c fp i1 i2 = false) :
    remove (BucketRedis.ops emp) c fp i1 i2 = (c, false) :=
  remove_absent c fp i1 i2 hl

theorem C13_remove_result (emp : F) (c : Cuckoo (BucketRedis F)) (fp : F) (i1 i2 : Nat)
    (hwf : WF emp c) (hfp : fp ≠ emp) (hi1 : i1 < c.n) (hi2 : i2 < c.n) :
    (remove (BucketRedis.ops emp) c fp i1 i2).2 = lookup (BucketRedis.ops emp) c fp i1 i2 :=
  (remove_result (BucketRedis.lawful emp) c fp i1 i2 ((wf_iff emp c).mp hwf) hfp hi1 hi2).1


/-- **Capacity.** After any history run from the new filter every bucket list has at most `bsize`
    entries, its counter is its number of non-empty entries, and that is at most `bsize`. -/
theorem C13_capacity (emp : F) (alt : Nat → F → Nat) (n bsize fpl retries : Nat)
    (h : List (COp F)) (hAlt : ∀ j f, j < n → alt j f < n) (hb : 0 < bsize)
    (hv : ∀ op ∈ h, ValidOp emp n bsize op) :
    ∀ b ∈ (run (BucketRedis.ops emp) alt (empty n bsize fpl retries : Cuckoo (BucketRedis F)) h).buckets,
      b.list.length ≤ bsize ∧ b.len = occ emp b.list ∧ b.len ≤ bsize := fun b hb' =>
  let ⟨⟨_, h2, h3⟩, h4⟩ := run_capacity (BucketRedis.lawful emp) alt n bsize hAlt hb _ h
    (empty_inv emp n bsize fpl retries) hv b hb'
  ⟨h2, h3, h3 ▸ h4⟩

/-- **Empty again.** In a well-formed filter with `length = 0` every list entry is the empty
    string and every lookup of a valid element is false. -/
theorem C13_empty_after_all_removed (emp : F) (c : Cuckoo (BucketRedis F)) (hwf : WF emp c)
    (h0 : c.length = 0) :
    (∀ b ∈ c.buckets, ∀ x ∈ b.list, x = emp) ∧
    ∀ fp i1 i2, fp ≠ emp → i1 < c.n → i2 < c.n → lookup (BucketRedis.ops emp) c fp i1 i2 = false :=
  ⟨slots_emp_of_length_zero (BucketRedis.lawful emp) c ((wf_iff emp c).mp hwf) h0,
    lookup_false_of_length_zero (BucketRedis.lawful emp) c ((wf_iff emp c).mp hwf) h0⟩

/-- **A balanced history leaves an empty filter.** If every successful insert has been matched by a
    successful remove, `length` is 0 and every lookup of a valid element is false, as in a new filter
    (the Redis lists may keep empty-string holes, which no operation can observe). -/
theorem C13_balanced_history_is_new (emp : F) (alt : Nat → F → Nat) (n bsize fpl retries : Nat)
    (h : List (COp F)) (hAlt : ∀ j f, j < n → alt j f < n) (hb : 0 < bsize)
    (hv : ∀ op ∈ h, ValidOp emp n bsize op)
    (hbal : okInserts (BucketRedis.ops emp) alt allSel (empty n bsize fpl retries : Cuckoo (BucketRedis F)) h
          = okRemoves (BucketRedis.ops emp) alt allSel (empty n bsize fpl retries : Cuckoo (BucketRedis F)) h) :
    (run (BucketRedis.ops emp) alt (empty n bsize fpl retries : Cuckoo (BucketRedis F)) h).length = 0 ∧
    ∀ fp i1 i2, fp ≠ emp → i1 < n → i2 < n →
      lookup (BucketRedis.ops emp)
        (run (BucketRedis.ops emp) alt (empty n bsize fpl retries : Cuckoo (BucketRedis F)) h) fp i1 i2 = false :=
  have ⟨hI, h0⟩ := balanced_history (BucketRedis.lawful emp) alt n bsize hAlt hb _ h
    (empty_inv emp n bsize fpl retries) hv rfl hbal
  ⟨h0, fun fp i1 i2 hfp hi1 hi2 => lookup_false_of_length_zero (BucketRedis.lawful emp) _ hI.1 h0
    fp i1 i2 hfp (hI.2.1.symm ▸ hi1) (hI.2.1.symm ▸ hi2)⟩

end

/-! ### non-vacuity (Redis): a removed entry leaves a hole `0` that the next insert re-uses -/

example :
    let alt : Nat → Nat → Nat := fun j f => (j ^^^ f) % 2
    let c := run (BucketRedis.ops 0) alt (empty 2 2 0 3 : Cuckoo (BucketRedis Nat))
      [.insert 5 0 false true [0], .insert 7 0 false true [0], .remove 5 0, .insert 9 0 false true [0]]
    c.buckets = [⟨2, [7, 9], 2⟩, ⟨2, [], 0⟩] ∧ c.length = 2 := by decide +kernel

end Gostatix.Cuckoo.Redis
