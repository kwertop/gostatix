/-
  C06 — HyperLogLog is duplicate- and order-insensitive; merge equals union.

  Elements are an abstract type `E`; `iv : E → Nat × Nat` is an ARBITRARY function giving the
  (register index, value) of an element (`getRegisterIndexAndCount`); the correspondence suite
  checks that the implementation is the instance `(HLL.indexOf hash p, HLL.valueOf hash p)`.
  The statements are about the register file, so they transfer to ANY function of the registers
  (`Count`, `Export`, `Equals`): see `C06_count_depends_only_on_set`.
-/
import Gostatix.Proofs.HLL
namespace Gostatix.HLL

section defs
variable {E : Type}

/-- registers after inserting the elements of `h` (total update: out-of-range is a no-op). -/
def runR (iv : E → Nat × Nat) (regs : List Nat) (h : List E) : List Nat :=
  h.foldl (fun r e => HLL.upd r (iv e)) regs

def run (iv : E → Nat × Nat) (m : Nat) (h : List E) : HLL :=
  ⟨m, runR iv (List.replicate m 0) h⟩

/-- inserting `h` with the partial `Update` of the code (a panic / error aborts). -/
def runU (iv : E → Nat × Nat) (s : HLL) (h : List E) : Res HLL :=
  h.foldl (fun acc e => match acc with
    | .ok s => s.update (iv e).1 (iv e).2
    | r => r) (.ok s)

end defs

section props
variable {E : Type}

theorem C06_upd_comm (r : List Nat) (a b : Nat × Nat) : upd (upd r a) b = upd (upd r b) a :=
  upd_comm r a b

theorem C06_upd_idem (r : List Nat) (a : Nat × Nat) : upd (upd r a) a = upd r a :=
  upd_idem r a

theorem C06_update_ok (s : HLL) (idx val : Nat) (h : idx < s.regs.length) :
    s.update idx val = .ok { s with regs := upd s.regs (idx, val) } := by
  simp [update, upd, h]

theorem C06_update_panic (s : HLL) (idx val : Nat) (h : ¬ idx < s.regs.length) :
    s.update idx val = .panic := by
  simp [update, h]

theorem C06_runU_ok (iv : E → Nat × Nat) (s : HLL) (h : List E)
    (hr : ∀ e ∈ h, (iv e).1 < s.regs.length) :
    runU iv s h = .ok { s with regs := runR iv s.regs h } := by
  induction h generalizing s with
  | nil => rfl
  | cons e h ih =>
    have h0 := hr e List.mem_cons_self
    have := ih { s with regs := upd s.regs (iv e) } (by
      intro e' he'
      show (iv e').1 < (upd s.regs (iv e)).length
      rw [upd_length]; exact hr e' (List.mem_cons_of_mem _ he'))
    simp only [runU, List.foldl_cons]
    rw [C06_update_ok s _ _ h0]
    exact this

theorem C06_runU_fresh (iv : E → Nat × Nat) (m : Nat) (h : List E)
    (hr : ∀ e ∈ h, (iv e).1 < m) : runU iv (HLL.new m) h = .ok (run iv m h) :=
  C06_runU_ok iv (HLL.new m) h (by simpa [new] using hr)

theorem C06_runR_length (iv : E → Nat × Nat) (r : List Nat) (h : List E) :
    (runR iv r h).length = r.length := foldl_upd_length iv r h

/-- **Order-insensitive**: permuting the stream does not change the registers. -/
theorem C06_perm (iv : E → Nat × Nat) (r : List Nat) (h₁ h₂ : List E) (p : h₁.Perm h₂) :
    runR iv r h₁ = runR iv r h₂ := foldl_upd_perm iv r h₁ h₂ p

/-- **Duplicate-insensitive**: inserting an element that was inserted before changes nothing. -/
theorem C06_dup (iv : E → Nat × Nat) (r : List Nat) (h : List E) (x : E) (hx : x ∈ h) :
    runR iv r (h ++ [x]) = runR iv r h := by
  simp only [runR, List.foldl_append, List.foldl_cons, List.foldl_nil]
  exact foldl_upd_absorb iv r h x hx

/-- The registers depend only on the SET of distinct elements of the stream. -/
theorem C06_depends_only_on_set (iv : E → Nat × Nat) (r : List Nat) (h₁ h₂ : List E)
    (hset : ∀ e, e ∈ h₁ ↔ e ∈ h₂) : runR iv r h₁ = runR iv r h₂ :=
  foldl_upd_set iv r h₁ h₂ hset

/-- Hence any function of the registers (`Count`, `Export`, …) depends only on that set. -/
theorem C06_count_depends_only_on_set {β : Type} (est : List Nat → β) (iv : E → Nat × Nat)
    (r : List Nat) (h₁ h₂ : List E) (hset : ∀ e, e ∈ h₁ ↔ e ∈ h₂) :
    est (runR iv r h₁) = est (runR iv r h₂) := by
  rw [C06_depends_only_on_set iv r h₁ h₂ hset]

theorem C06_run_depends_only_on_set (iv : E → Nat × Nat) (m : Nat) (h₁ h₂ : List E)
    (hset : ∀ e, e ∈ h₁ ↔ e ∈ h₂) : run iv m h₁ = run iv m h₂ := by
  unfold run; rw [C06_depends_only_on_set iv _ h₁ h₂ hset]

/-- **Merge = union** on register files: the right register file must be at least as long as the
    left one (equal lengths in the code: `Merge` checks `m`). -/
theorem C06_merge_union (iv : E → Nat × Nat) (r₁ r₂ : List Nat) (a b : List E)
    (hl : r₁.length ≤ r₂.length) :
    mergeRegs (runR iv r₁ a) (runR iv r₂ b) = runR iv (mergeRegs r₁ r₂) (a ++ b) :=
  mergeRegs_foldl iv r₁ r₂ a b hl

theorem C06_merge_union_needs_length :
    ¬ (∀ (iv : Nat → Nat × Nat) (r₁ r₂ : List Nat) (a b : List Nat),
        mergeRegs (runR iv r₁ a) (runR iv r₂ b) = runR iv (mergeRegs r₁ r₂) (a ++ b)) := by
  intro H
  have := H (fun e => (e, 5)) [0, 0] [0] [] [1]
  revert this; decide +kernel

/-- **Merge = union** for sketches. -/
theorem C06_merge_union_fresh (iv : E → Nat × Nat) (m : Nat) (a b : List E) :
    HLL.merge (run iv m a) (run iv m b) = .ok (run iv m (a ++ b)) := by
  have := C06_merge_union iv (List.replicate m 0) (List.replicate m 0) a b (Nat.le_refl _)
  rw [mergeRegs_zero] at this
  simp only [merge, run, ne_eq, not_true_eq_false, if_false]
  rw [this]

theorem C06_merge_comm (r₁ r₂ : List Nat) (hl : r₁.length = r₂.length) :
    mergeRegs r₁ r₂ = mergeRegs r₂ r₁ := mergeRegs_comm r₁ r₂ hl

theorem C06_merge_comm_hll (a b : HLL) (ha : a.regs.length = a.m) (hb : b.regs.length = b.m) :
    HLL.merge a b = HLL.merge b a := by
  by_cases h : a.m = b.m
  · have hl : a.regs.length = b.regs.length := by rw [ha, hb, h]
    cases a; cases b
    simp only at h hl
    subst h
    simp [merge, mergeRegs_comm _ _ hl]
  · have h' : ¬ b.m = a.m := fun e => h e.symm
    simp [merge, h, h']

theorem C06_merge_idem (r : List Nat) : mergeRegs r r = r := mergeRegs_idem r

theorem C06_merge_assoc (r₁ r₂ r₃ : List Nat) (hl : r₁.length ≤ r₂.length) :
    mergeRegs (mergeRegs r₁ r₂) r₃ = mergeRegs r₁ (mergeRegs r₂ r₃) := mergeRegs_assoc r₁ r₂ r₃ hl

/-- merging and then continuing to insert = sketching the whole stream. -/
theorem C06_merge_then_update (iv : E → Nat × Nat) (m : Nat) (a b c : List E) :
    runR iv (mergeRegs (runR iv (List.replicate m 0) a) (runR iv (List.replicate m 0) b)) c
      = runR iv (List.replicate m 0) (a ++ b ++ c) := by
  rw [C06_merge_union iv _ _ a b (Nat.le_refl _), mergeRegs_zero]
  simp only [runR, List.foldl_append]

theorem C06_merge_then_update_general (iv : E → Nat × Nat) (r₁ r₂ : List Nat) (a b c : List E)
    (hl : r₁.length ≤ r₂.length) :
    runR iv (mergeRegs (runR iv r₁ a) (runR iv r₂ b)) c
      = runR iv (mergeRegs r₁ r₂) (a ++ b ++ c) := by
  rw [C06_merge_union iv _ _ a b hl]
  simp only [runR, List.foldl_append]

/-- merging a sketch of a sub-stream into the sketch of the whole stream changes nothing
    (in particular `Merge` with itself is a no-op). -/
theorem C06_merge_absorbs_subset (iv : E → Nat × Nat) (m : Nat) (a b : List E)
    (hsub : ∀ e ∈ b, e ∈ a) :
    HLL.merge (run iv m a) (run iv m b) = .ok (run iv m a) := by
  rw [C06_merge_union_fresh]
  show Res.ok _ = Res.ok _
  congr 1
  unfold run
  congr 1
  exact foldl_upd_subset iv _ a b hsub

/-- sketches with different register counts do not merge (the model is functional: no new
    receiver state is produced). -/
theorem C06_merge_mismatch (a b : HLL) (h : a.m ≠ b.m) : HLL.merge a b = .err := by
  simp [merge, h]

end props

/-- index/value function used by the examples: 4 registers. -/
def exIV (e : Nat) : Nat × Nat := (e % 4, e / 4 % 7)

example :
    let a := [5, 22, 9, 5, 31]
    let b := [31, 12, 22, 18, 18]
    run exIV 4 a = ⟨4, [0, 2, 5, 0]⟩ ∧ run exIV 4 b = ⟨4, [3, 0, 5, 0]⟩
    ∧ run exIV 4 a = run exIV 4 [31, 9, 22, 5]
    ∧ HLL.merge (run exIV 4 a) (run exIV 4 b) = .ok (run exIV 4 (a ++ b))
    ∧ HLL.merge (run exIV 4 a) (run exIV 4 b) = HLL.merge (run exIV 4 b) (run exIV 4 a)
    ∧ runU exIV (HLL.new 4) a = .ok (run exIV 4 a)
    ∧ HLL.merge (run exIV 4 a) (run exIV 8 b) = .err
    ∧ (HLL.new 4).update 4 1 = .panic := by decide +kernel

end Gostatix.HLL
