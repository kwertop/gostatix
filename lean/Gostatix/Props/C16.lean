/-
  C16 — concurrent updates through Redis are not lost.

  Granularity: one Redis command or one Lua script is one atomic step on the shared store (Redis
  executes commands and scripts one at a time — an assumption, not a theorem).  A client
  operation is the list of steps it issues, an execution is an interleaving of the clients' lists.

   * Bloom `Insert`  = k `SETBIT p 1` steps (pipelined, NOT a transaction): `setBit`.
   * Count-Min `Update` = ONE script step: `cmsStep` (`CMS.update`).
   * HyperLogLog `Update` = ONE script step: `HLL.upd`.
  For these every interleaving ends in the store of the sequential application in any order.

   * Cuckoo `Insert` and Top-K `Insert` are check-then-act over SEVERAL commands; the programs are
     transcribed below and a concrete interleaving is exhibited that violates what both
     sequential orders guarantee (finding D21).
-/
import Gostatix.Proofs.Conc
import Gostatix.Props.C01
import Gostatix.Model.Cuckoo
import Gostatix.Model.TopK
namespace Gostatix
open Conc

theorem foldl_setBits_eq (bits : List Bool) (order : List (List Nat)) :
    order.foldl Bloom.setBits bits = exec setBit bits order.flatten := by
  simp only [exec, List.foldl_flatten]; rfl

theorem foldl_insert_bits (b : Bloom) (order : List (List Nat)) :
    order.foldl Bloom.insert b = { b with bits := order.foldl Bloom.setBits b.bits } := by
  induction order generalizing b with
  | nil => rfl
  | cons p order ih => simp only [List.foldl_cons]; rw [ih]; rfl

/-- `clients[c]` is the sequence of inserts client `c` issues, each insert given by its probe
    positions; the client's step list is the concatenation of the inserts' `SETBIT` steps. -/
theorem C16_bloom (bits : List Bool) (clients : List (List (List Nat))) (w : List Nat)
    (hi : Interleaving (clients.map List.flatten) w)
    (order : List (List Nat)) (ho : order.Perm clients.flatten) :
    exec setBit bits w = order.foldl Bloom.setBits bits := by
  rw [foldl_setBits_eq]
  apply exec_perm_of_commute setBit_commute
  refine hi.perm.trans ?_
  rw [← List.flatten_flatten]
  exact ho.symm.flatten

theorem C16_bloom_filter (b : Bloom) (clients : List (List (List Nat))) (w : List Nat)
    (hi : Interleaving (clients.map List.flatten) w)
    (order : List (List Nat)) (ho : order.Perm clients.flatten) :
    { b with bits := exec setBit b.bits w } = order.foldl Bloom.insert b := by
  rw [foldl_insert_bits, C16_bloom b.bits clients w hi order ho]

/-- idempotence of `SETBIT`: how often a position occurs is irrelevant -/
theorem exec_setBit_getElem? (bits : List Bool) (w : List Nat) (q : Nat) :
    (exec setBit bits w)[q]? = (bits[q]?).map (fun b => b || decide (q ∈ w)) := by
  induction w generalizing bits with
  | nil => simp [exec]
  | cons p w ih =>
    have : exec setBit bits (p :: w) = exec setBit (setBit bits p) w := rfl
    rw [this, ih, setBit, List.getElem?_set]
    by_cases e : p = q
    · subst e
      by_cases hl : p < bits.length
      · simp [hl]
      · simp [hl]
    · have e' : ¬ q = p := fun h => e h.symm
      simp [e, e']

/-- duplicated / retried steps are harmless -/
theorem C16_bloom_idempotent (bits : List Bool) (w w' : List Nat) (h : ∀ p, p ∈ w ↔ p ∈ w') :
    exec setBit bits w = exec setBit bits w' := by
  apply List.ext_getElem?
  intro q
  rw [exec_setBit_getElem?, exec_setBit_getElem?]
  simp [h q]

theorem C16_bloom_not_lost (b : Bloom) (clients : List (List (List Nat))) (w : List Nat)
    (hi : Interleaving (clients.map List.flatten) w)
    (ps : List Nat) (hps : ps ∈ clients.flatten) (hr : ∀ p ∈ ps, p < b.bits.length) :
    Bloom.lookup { b with bits := exec setBit b.bits w } ps = true := by
  simp only [Bloom.lookup, List.all_eq_true]
  intro p hp
  have hmem : p ∈ w := by
    rw [hi.perm.mem_iff, ← List.flatten_flatten]
    exact List.mem_flatten.2 ⟨ps, hps, hp⟩
  exact Bloom.setBits_sets b.bits w p hmem (hr p hp)

theorem C16_cms (s : CMS) (clients : List (List (List Nat × Nat))) (w : List (List Nat × Nat))
    (hi : Interleaving clients w) (order : List (List Nat × Nat)) (ho : order.Perm clients.flatten) :
    exec cmsStep s w = order.foldl (fun s u => s.update u.1 u.2) s :=
  exec_perm_of_commute cmsStep_commute (hi.perm.trans ho.symm) s

theorem C16_hll (regs : List Nat) (clients : List (List (Nat × Nat))) (w : List (Nat × Nat))
    (hi : Interleaving clients w) (order : List (Nat × Nat)) (ho : order.Perm clients.flatten) :
    exec HLL.upd regs w = order.foldl HLL.upd regs :=
  exec_perm_of_commute HLL.upd_commute (hi.perm.trans ho.symm) regs

/-! ### Cuckoo: `CuckooFilterRedis.Insert`

  Go (cuckoo_filter_redis.go:117):
      if buckets[f].isFree() { buckets[f].add(fp) }            // script isFree ; script add, RESULT IGNORED
      else if buckets[s].isFree() { buckets[s].add(fp) }       // script isFree ; script add, RESULT IGNORED
      else { …eviction loop… }
      incrLength(); return true                                 // HINCRBY length 1
  The `add` script re-checks fullness and returns false on a full bucket, but `Insert` drops that
  result and still increments the length and acknowledges.
-/
namespace C16Cuckoo

/-- fingerprints are numbers here, `0` plays the empty string -/
abbrev Fp := Nat

structure Local where
  free1 : Option Bool := none      -- result of `isFree` on the first bucket (none: not run yet)
  free2 : Option Bool := none      -- result of `isFree` on the second bucket
  acked : Bool := false            -- `Insert` returned true
  evicting : Bool := false         -- entered the eviction loop (not modelled further)
  deriving Repr, DecidableEq

/-- the Redis store (bucket lists, their `_len` counters, the metadata `length`) and the locals -/
structure St where
  buckets : List (BucketRedis Fp)
  length : Nat
  la : Local := {}
  lb : Local := {}
  deriving Repr, DecidableEq

def St.loc (s : St) (c : Bool) : Local := if c then s.lb else s.la
def St.setLoc (s : St) (c : Bool) (l : Local) : St := if c then { s with lb := l } else { s with la := l }
def St.bucket (s : St) (i : Nat) : BucketRedis Fp := s.buckets.getD i ⟨0, [], 0⟩

/-- one Redis round trip (or nothing, when the Go control flow skips it) of client `c` -/
inductive Cmd where
  | isFree1 (c : Bool) (i1 : Nat)
  | add1 (c : Bool) (i1 : Nat) (fp : Fp)
  | isFree2 (c : Bool) (i2 : Nat)
  | add2 (c : Bool) (i2 : Nat) (fp : Fp)
  | finish (c : Bool)
  deriving Repr, DecidableEq

def step (s : St) : Cmd → St
  | .isFree1 c i => s.setLoc c { s.loc c with free1 := some (s.bucket i).isFree }
  | .add1 c i fp =>
    if (s.loc c).free1 = some true then
      { s with buckets := modAt s.buckets i (fun b => BucketRedis.add 0 b fp) }   -- result ignored
    else s
  | .isFree2 c i =>
    if (s.loc c).free1 = some false then s.setLoc c { s.loc c with free2 := some (s.bucket i).isFree }
    else s
  | .add2 c i fp =>
    if (s.loc c).free1 = some false ∧ (s.loc c).free2 = some true then
      { s with buckets := modAt s.buckets i (fun b => BucketRedis.add 0 b fp) }   -- result ignored
    else s
  | .finish c =>
    if (s.loc c).free1 = some true ∨ (s.loc c).free2 = some true then
      ({ s with length := s.length + 1 }).setLoc c { s.loc c with acked := true }
    else s.setLoc c { s.loc c with evicting := true }

def insertProg (c : Bool) (fp : Fp) (i1 i2 : Nat) : List Cmd :=
  [.isFree1 c i1, .add1 c i1 fp, .isFree2 c i2, .add2 c i2 fp, .finish c]

def found (s : St) (fp : Fp) (i1 i2 : Nat) : Bool :=
  (s.bucket i1).lookup fp || (s.bucket i2).lookup fp

def stored (s : St) : Nat := sumL (s.buckets.map (fun b => (b.list.filter (· != 0)).length))

/-- what every sequential order guarantees: an acknowledged insert is findable, and the length
    counts the stored fingerprints.  `reqA`, `reqB` are the two clients' (fp, i1, i2). -/
def post (reqA reqB : Fp × Nat × Nat) (s : St) : Bool :=
  (!s.la.acked || found s reqA.1 reqA.2.1 reqA.2.2) &&
  (!s.lb.acked || found s reqB.1 reqB.2.1 reqB.2.2) &&
  s.length == stored s

def s0 : St := { buckets := [BucketRedis.new 1, BucketRedis.new 1], length := 0 }

def pA : List Cmd := insertProg false 7 0 1
def pB : List Cmd := insertProg true 9 0 1

/-- both clients run `isFree(0)` before either runs `add` -/
def bad : List Cmd :=
  [.isFree1 false 0, .isFree1 true 0, .add1 false 0 7, .add1 true 0 9,
   .isFree2 false 1, .add2 false 1 7, .finish false, .isFree2 true 1, .add2 true 1 9, .finish true]

theorem bad_interleaving : Interleaving [pA, pB] bad :=
  Interleaving.of_pick (is := [0, 1, 0, 1, 0, 0, 0, 1, 1, 1]) (by decide +kernel)

instance : Inhabited (BucketRedis Fp) := ⟨⟨0, [], 0⟩⟩

def modelSeq (first second : Fp) : CRes (Cuckoo (BucketRedis Fp)) :=
  let c0 : Cuckoo (BucketRedis Fp) := ⟨2, 1, 1, 0, s0.buckets, 0⟩
  match Cuckoo.insert (BucketRedis.ops 0) (fun i _ => i) c0 first 0 1 false true [] with
  | .ok c1 => Cuckoo.insert (BucketRedis.ops 0) (fun i _ => i) c1 second 0 1 false true []
  | r => r

end C16Cuckoo

open C16Cuckoo in
/-- **D21 (cuckoo).**  An interleaving whose final store violates the postcondition that BOTH
    sequential orders satisfy: both inserts are acknowledged and `length = 2`, but only one
    fingerprint is stored and the other acknowledged element is not findable (a false negative). -/
theorem C16_cuckoo_counterexample :
    ∃ (s0 : St) (pA pB w : List Cmd) (reqA reqB : Fp × Nat × Nat),
      pA = insertProg false reqA.1 reqA.2.1 reqA.2.2 ∧ pB = insertProg true reqB.1 reqB.2.1 reqB.2.2 ∧
      Interleaving [pA, pB] w ∧
      post reqA reqB (exec step s0 w) = false ∧
      post reqA reqB (exec step s0 (pA ++ pB)) = true ∧
      post reqA reqB (exec step s0 (pB ++ pA)) = true :=
  ⟨C16Cuckoo.s0, pA, pB, bad, (7, 0, 1), (9, 0, 1), rfl, rfl, bad_interleaving,
    by decide +kernel, by decide +kernel, by decide +kernel⟩

namespace C16Cuckoo

theorem bad_run_detail :
    let s := exec step s0 bad
    s.la.acked = true ∧ s.lb.acked = true ∧ s.la.evicting = false ∧ s.lb.evicting = false ∧
    s.length = 2 ∧ stored s = 1 ∧ found s 9 0 1 = false ∧ found s 7 0 1 = true := by decide +kernel

theorem seq_runs_detail :
    (let s := exec step s0 (pA ++ pB)
     s.la.acked = true ∧ s.lb.acked = true ∧ s.la.evicting = false ∧ s.lb.evicting = false ∧
     s.length = 2 ∧ stored s = 2 ∧ found s 7 0 1 = true ∧ found s 9 0 1 = true ∧
     modelSeq 7 9 = .ok ⟨2, 1, 1, 0, s.buckets, s.length⟩) ∧
    (let s := exec step s0 (pB ++ pA)
     s.la.acked = true ∧ s.lb.acked = true ∧ s.la.evicting = false ∧ s.lb.evicting = false ∧
     s.length = 2 ∧ stored s = 2 ∧ found s 7 0 1 = true ∧ found s 9 0 1 = true ∧
     modelSeq 9 7 = .ok ⟨2, 1, 1, 0, s.buckets, s.length⟩) := by decide +kernel

theorem insertProg_alone_free1 (s : St) (fp : Fp) (i1 i2 : Nat) (hl : s.la = {})
    (hf : (s.bucket i1).isFree = true) :
    exec step s (insertProg false fp i1 i2) =
      { s with buckets := modAt s.buckets i1 (fun b => BucketRedis.add 0 b fp), length := s.length + 1,
               la := { free1 := some true, acked := true } } := by
  cases s with
  | mk buckets length la lb =>
    simp only at hl; subst hl
    simp [exec, insertProg, step, St.loc, St.setLoc, hf]

end C16Cuckoo

/-! ### Top-K: `TopKRedis.Insert`

  Go (top_k_redis.go:82), after `sketch.Update` / `sketch.Count` gave the estimate `f`:
      heapLength = ZCARD heap
      minElement = ZRANGE heap 0 0 WITHSCORES
      if heapLength < k || (len(minElement) > 0 && f >= minElement[0].Score) {
          if ZSCORE heap x > 0 { ZREM heap x }
          ZADD heap f x
          heapLength = ZCARD heap
          if heapLength > k { ZPOPMIN heap }
      }
  The estimate `f` is a parameter of the program: the sketch part is `C16_cms`.
-/
namespace C16TopK

structure Local where
  card : Nat := 0
  go : Bool := false        -- the outer `if`
  score : Nat := 0          -- ZSCORE (0: absent)
  card2 : Nat := 0
  deriving Repr, DecidableEq

structure St where
  z : List HElem            -- the sorted set, ascending by (score, member)
  la : Local := {}
  lb : Local := {}
  deriving Repr, DecidableEq

def St.loc (s : St) (c : Bool) : Local := if c then s.lb else s.la
def St.setLoc (s : St) (c : Bool) (l : Local) : St := if c then { s with lb := l } else { s with la := l }

inductive Cmd where
  | zcard (c : Bool)
  | zrange (c : Bool) (f : Nat)
  | zscore (c : Bool) (x : String)
  | zrem (c : Bool) (x : String)
  | zadd (c : Bool) (x : String) (f : Nat)
  | zcard2 (c : Bool)
  | zpopmin (c : Bool)
  deriving Repr, DecidableEq

def step (k : Nat) (s : St) : Cmd → St
  | .zcard c => s.setLoc c { s.loc c with card := s.z.length }
  | .zrange c f =>
    s.setLoc c { s.loc c with
      go := decide ((s.loc c).card < k) ||
        (match s.z.head? with | some mn => decide (f ≥ mn.2) | none => false) }
  | .zscore c x =>
    if (s.loc c).go then
      s.setLoc c { s.loc c with score := match s.z.find? (fun e => e.1 == x) with | some e => e.2 | none => 0 }
    else s
  | .zrem c x =>
    if (s.loc c).go ∧ (s.loc c).score > 0 then { s with z := s.z.filter (fun e => e.1 != x) } else s
  | .zadd c x f => if (s.loc c).go then { s with z := TopK.zadd s.z x f } else s
  | .zcard2 c => if (s.loc c).go then s.setLoc c { s.loc c with card2 := s.z.length } else s
  | .zpopmin c => if (s.loc c).go ∧ (s.loc c).card2 > k then { s with z := s.z.tail } else s

def insertProg (c : Bool) (x : String) (f : Nat) : List Cmd :=
  [.zcard c, .zrange c f, .zscore c x, .zrem c x, .zadd c x f, .zcard2 c, .zpopmin c]

/-- the sorted set holds exactly the `k` heaviest of the offered (element, estimate) pairs -/
def post (k : Nat) (offered : List HElem) (z : List HElem) : Bool :=
  z == (TopK.sortBy TopK.zLt offered).drop (offered.length - k)

def s0 : St := { z := [] }
def pA : List Cmd := insertProg false "a" 5
def pB : List Cmd := insertProg true "b" 1

/-- both see an empty set, both add, both then see two members, both pop -/
def bad : List Cmd :=
  [.zcard false, .zrange false 5, .zcard true, .zrange true 1,
   .zscore false "a", .zrem false "a", .zadd false "a" 5,
   .zscore true "b", .zrem true "b", .zadd true "b" 1,
   .zcard2 false, .zcard2 true, .zpopmin false, .zpopmin true]

theorem bad_interleaving : Interleaving [pA, pB] bad :=
  Interleaving.of_pick (is := [0, 0, 1, 1, 0, 0, 0, 1, 1, 1, 0, 1, 0, 1]) (by decide +kernel)

end C16TopK

open C16TopK in
/-- **D21 (Top-K).**  k = 1, two clients offering a heavy and a light element: an interleaving
    after which the sorted set does not hold the heaviest element (it is EMPTY: both clients
    popped), while both sequential orders end with exactly the heavy element. -/
theorem C16_topk_counterexample :
    ∃ (k : Nat) (s0 : St) (a b : HElem) (pA pB w : List Cmd),
      pA = insertProg false a.1 a.2 ∧ pB = insertProg true b.1 b.2 ∧
      Interleaving [pA, pB] w ∧
      post k [a, b] (exec (step k) s0 w).z = false ∧
      post k [a, b] (exec (step k) s0 (pA ++ pB)).z = true ∧
      post k [a, b] (exec (step k) s0 (pB ++ pA)).z = true :=
  ⟨1, C16TopK.s0, ("a", 5), ("b", 1), pA, pB, bad, rfl, rfl, bad_interleaving,
    by decide +kernel, by decide +kernel, by decide +kernel⟩

namespace C16TopK

theorem bad_run_detail : (exec (step 1) s0 bad).z = [] := by decide +kernel

theorem seq_runs_detail :
    (exec (step 1) s0 (pA ++ pB)).z = [("a", 5)] ∧
    (exec (step 1) s0 (pB ++ pA)).z = [("a", 5)] ∧
    TopK.offerRedis 1 (TopK.offerRedis 1 [] "a" 5) "b" 1 = [("a", 5)] ∧
    TopK.offerRedis 1 (TopK.offerRedis 1 [] "b" 1) "a" 5 = [("a", 5)] := by decide +kernel

/-- the five commands after ZCARD and ZRANGE 0 0 have evaluated the guard into `go` -/
def restProg (x : String) (f : Nat) : List Cmd :=
  [.zscore false x, .zrem false x, .zadd false x f, .zcard2 false, .zpopmin false]

theorem rest_false (k : Nat) (s : St) (x : String) (f : Nat) (hg : s.la.go = false) (m : Nat) :
    exec (step k) s ((restProg x f).take m) = s := by
  rcases m with _ | _ | _ | _ | _ | m <;>
    simp [exec, restProg, step, St.loc, hg]

theorem step_zscore (k : Nat) (s : St) (x : String) (hg : s.la.go = true) :
    step k s (.zscore false x) =
      ⟨s.z, { s.la with score := match s.z.find? (fun e => e.1 == x) with | some e => e.2 | none => 0 },
        s.lb⟩ := by
  show (if (s.loc false).go = true then _ else s) = _
  rw [if_pos (show (s.loc false).go = true from hg)]
  rfl

theorem rest4_true (k : Nat) (s : St) (x : String) (f : Nat) (hg : s.la.go = true) (m : Nat) :
    (exec (step k) s ((restProg x f).tail.take m)).z =
      match m with
      | 0 => s.z
      | 1 => if s.la.score > 0 then s.z.filter (fun e => e.1 != x) else s.z
      | 2 | 3 => TopK.zadd s.z x f
      | _ => if (TopK.zadd s.z x f).length > k then (TopK.zadd s.z x f).tail else TopK.zadd s.z x f := by
  -- ZADD removes the member itself, so whether ZREM ran makes no difference afterwards
  have hz : TopK.zadd (s.z.filter (fun e => e.1 != x)) x f = TopK.zadd s.z x f := by simp [TopK.zadd]
  by_cases hs : s.la.score > 0
  all_goals
    match m with
    | 0 => rfl
    | 1 => simp [exec, restProg, step, St.loc, hg, hs]
    | 2 => simp [exec, restProg, step, St.loc, hg, hs, hz]
    | 3 => simp [exec, restProg, step, St.loc, St.setLoc, hg, hs, hz]
    | m + 4 =>
      -- ZPOPMIN tests the length that the second ZCARD recorded
      simp [exec, restProg, step, St.loc, St.setLoc, hg, hs, hz]
      split <;> rfl

theorem insertProg_z (k : Nat) (s : St) (x : String) (f : Nat) :
    (exec (step k) s (insertProg false x f)).z = TopK.offerRedis k s.z x f := by
  show (exec (step k) (exec (step k) s [.zcard false, .zrange false f]) (restProg x f)).z = _
  have hz : (exec (step k) s [.zcard false, .zrange false f]).z = s.z := rfl
  have hoff : TopK.offerRedis k s.z x f =
      if (exec (step k) s [.zcard false, .zrange false f]).la.go
      then (if (TopK.zadd s.z x f).length > k then (TopK.zadd s.z x f).tail else TopK.zadd s.z x f)
      else s.z := rfl
  rw [hoff, ← hz]
  generalize exec (step k) s [.zcard false, .zrange false f] = s2
  cases hgo : s2.la.go
  · exact congrArg St.z (rest_false k s2 x f hgo 5)
  · show (exec (step k) (step k s2 (.zscore false x)) ((restProg x f).tail.take 4)).z = _
    rw [step_zscore k s2 x hgo]
    refine (rest4_true k _ x f ?_ 4).trans ?_
    · exact hgo
    · rfl

theorem insertProg_alone (k : Nat) (z : List HElem) (x : String) (f : Nat) :
    (exec (step k) { z := z } (insertProg false x f)).z = TopK.offerRedis k z x f :=
  insertProg_z k { z := z } x f

end C16TopK

namespace C16Example

def clients : List (List (List Nat)) := [[[0, 1], [2, 5]], [[1, 3], [0, 4]]]
def w : List Nat := [0, 1, 1, 3, 2, 0, 5, 4]

theorem w_interleaving : Interleaving (clients.map List.flatten) w :=
  Interleaving.of_pick (is := [0, 1, 0, 1, 0, 1, 0, 1]) (by decide +kernel)

example : exec setBit (List.replicate 8 false) w
    = [[0, 4], [0, 1], [2, 5], [1, 3]].foldl Bloom.setBits (List.replicate 8 false) :=
  C16_bloom _ clients w w_interleaving _ (by decide +kernel)

example : exec setBit (List.replicate 8 false) w = [true, true, true, true, true, true, false, false] := by
  decide +kernel

example : Bloom.lookup { Bloom.new 8 2 with bits := exec setBit (Bloom.new 8 2).bits w } [0, 4] = true :=
  C16_bloom_not_lost (Bloom.new 8 2) clients w w_interleaving [0, 4] (by decide +kernel) (by decide +kernel)

example : exec cmsStep (CMS.new 2 4) [([1, 2], 3), ([1, 0], 2), ([3, 3], 1)]
    = [([3, 3], 1), ([1, 2], 3), ([1, 0], 2)].foldl (fun s u => s.update u.1 u.2) (CMS.new 2 4) :=
  C16_cms _ [[([1, 2], 3), ([3, 3], 1)], [([1, 0], 2)]] _
    (Interleaving.of_pick (is := [0, 1, 0]) (by decide +kernel)) _ (by decide +kernel)

example : (exec cmsStep (CMS.new 2 4) [([1, 2], 3), ([1, 0], 2), ([3, 3], 1)]).m
    = [[0, 5, 0, 1], [2, 0, 3, 1]] := by decide +kernel

example : exec HLL.upd [0, 0, 0, 0] [(1, 7), (1, 3), (2, 4)] = [(2, 4), (1, 3), (1, 7)].foldl HLL.upd [0, 0, 0, 0] :=
  C16_hll _ [[(1, 7), (2, 4)], [(1, 3)]] _
    (Interleaving.of_pick (is := [0, 1, 0]) (by decide +kernel)) _ (by decide +kernel)

example : exec HLL.upd [0, 0, 0, 0] [(1, 7), (1, 3), (2, 4)] = [0, 7, 4, 0] := by decide +kernel

end C16Example

end Gostatix
