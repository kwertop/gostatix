/-
  C07 (premise 1) — the lock discipline, decided over the table REGENERATED from /repo's current
  sources by /verif/extract on every run (`Gostatix/Generated/LockTable.lean`).
  If a method of an in-memory structure touches mutable state outside a critical section of its
  instance's mutex (or writes under a read lock, or the extractor does not understand its shape),
  `decide` fails, the build fails, and bin/check falls back to the race-detector search.
-/
import Gostatix.Generated.LockTable
import Gostatix.Model.Conc
namespace Gostatix.Conc
open Gostatix.Generated

/-- every method of the five in-memory types that is inside the property's call classes keeps the
    lock discipline -/
theorem C07_lock_discipline : lockDisciplineOK lockTable = true := by decide +kernel

/-- the operations the property names -/
def requiredMethods : List (String × String) := [
  ("BloomFilter", "Insert"), ("BloomFilter", "Lookup"), ("BloomFilter", "Export"), ("BloomFilter", "WriteTo"), ("BloomFilter", "BloomPositiveRate"),
  ("CuckooFilter", "Insert"), ("CuckooFilter", "Lookup"), ("CuckooFilter", "Remove"), ("CuckooFilter", "Length"), ("CuckooFilter", "Export"), ("CuckooFilter", "WriteTo"),
  ("CountMinSketch", "Update"), ("CountMinSketch", "Count"), ("CountMinSketch", "Merge"), ("CountMinSketch", "Export"), ("CountMinSketch", "WriteTo"),
  ("HyperLogLog", "Update"), ("HyperLogLog", "Count"), ("HyperLogLog", "Merge"), ("HyperLogLog", "Reset"), ("HyperLogLog", "Export"), ("HyperLogLog", "WriteTo"),
  ("TopK", "Insert"), ("TopK", "Values"), ("TopK", "Export"), ("TopK", "WriteTo")]

/-- the table really covers them (a method that disappears from the table would otherwise pass
    `C07_lock_discipline` vacuously) -/
theorem C07_lock_table_covers :
    requiredMethods.all (fun r => lockTable.any (fun f =>
      f.typ == r.1 && f.method == r.2 && f.touchesMutable && f.guarded && !f.exempt)) = true := by decide +kernel

end Gostatix.Conc
