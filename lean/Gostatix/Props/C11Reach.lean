/-
  C11Reach — the images of REACHABLE states are well formed, so the codec theorems of C11 (round
  trip, byte counts), C18 (truncation) and C10 (JSON), which quantify over image records with
  `s.WF`, apply to every state the five in-memory structures can reach.

  Image functions `imgOf…`, histories and invariants: Proofs/C11Reach.lean.  Fields the model
  state does not carry (`allSum`, `numBytesPerHash`, float bit patterns) are arguments with the
  hypothesis `< 2^64`.  Reachable = a constructor followed by ANY history of the structure's
  operations: Bloom `Bloom.run` (any probe lists); CMS / HLL history trees `CMSHist`, `HLLHist`
  (merge with any other history; a failing Merge and a panicking Update, finding D4, change
  nothing); cuckoo `Cuckoo.run` over `COp` (every mode, side, slot choice and outcome, ANY
  positions and fingerprints, the empty one of finding D3 included) and the byte-level `runB`
  (real `getPositions`/murmur3, all byte strings); Top-K `tkRun` (any names, positions, counts).

  `C11_reachable_wf_<x>`: the image of every such state is `WF`.  Hypotheses:
  - constructor parameters `< 2^64` (Go `uint`/`uint64`: always true in the code);
  - NO-OVERFLOW, the boundary between the `Nat` models and Go's wrapping `uint64` counters:
    CMS `h.total < 2^64`, Top-K `tkTotal ops < 2^64`, cuckoo `numInserts ops < 2^64`; beyond them
    the model state leaves `WF` (examples and `C11_cuckoo_length_leaves_wf` below), the Go state wraps;
  - string lengths `< 2^64`: proved for the byte-level cuckoo histories (at most 20 digits), a
    hypothesis on the inserted strings for abstract `COp` histories and Top-K names.
  No clause of the binary `WF` predicates fails on a reachable state; the D3 states have
  well-formed images and round-trip (`exD3`).
  Corollaries `C11_roundtrip_reachable_<x>`, `C11_count_reachable_<x>`, `C18_truncated_reachable_<x>`
  and, for JSON, `C10_roundtrip_reachable_<x>`: unconditional for Bloom/CMS/HLL; cuckoo needs
  `CuckooMem.WF`, which holds along VALID operations (C13) and fails in D3 states (`exD3_json`: a
  gap of the code); Top-K needs `rows, cols ≥ 1` and names fixed by the UTF-8 coercion (D23).
  The last section compares `enc… (imgOf… state)` with hex dumps of Go's `WriteTo`, one history
  per structure, by `decide`.

  NOT PROVED / MODEL BOUNDARIES
  * `length - 1` in `Cuckoo.remove`/`BucketMem.remove` is truncated in the model and wraps in Go.
    Valid histories never decrement at 0 (C13_remove_present); a D3 state does (`exD3_remove`):
    Go 2^64-1, model 0.  Both images are WF and round-trip; they differ.
  * Bloom: `bitset.Set` beyond the length would grow the bitset; probes are `< size` in the code
    (C01_probe_in_range), the model ignores others.  `NewMemBloomFilterFromBitSet(empty slice)` is
    not a `Bloom.new` state.  For `size > 2^64 - 64` bitset's `wordsNeeded` is capped; such a
    filter cannot be allocated.
  * HLL: `HLL.update` takes any `val : Nat`, the code offers `uint8(count)`; the image truncates,
    so it is faithful exactly under `ValsOK` (`C11_hll_img_needs_bytes`).
  * ReadFrom/Import are not operations of these histories (C19 covers imports).
-/
import Gostatix.Proofs.C11Reach
import Gostatix.Props.C10
import Gostatix.Props.C13
import Gostatix.Props.C02Concrete
namespace Gostatix.Codec
open Gostatix.Reach Gostatix.Cuckoo

/-- `NewMemBloomFilterWithParameters`/`…FromBitSet`, then any Insert/Lookup history. -/
theorem C11_reachable_wf_bloom {E : Type} (probes : E → List Nat) (size k : Nat)
    (hs : size < 2 ^ 64) (hk : k < 2 ^ 64) (ops : List (BloomOp E)) :
    (imgOfBloom (Bloom.run probes (Bloom.new size k) ops)).WF := by
  obtain ⟨e1, e2, e3⟩ := bloom_reach probes size k ops
  exact imgOfBloom_wf _ (e1 ▸ Nat.max_lt.2 ⟨hs, by decide⟩) (e2 ▸ Nat.max_lt.2 ⟨hk, by decide⟩)
    (e3 ▸ Nat.max_lt.2 ⟨hs, by decide⟩)

/-- the three size fields of the image agree (for `size ≥ 1`: `BloomFilter.size`,
    `BitSetMem.size` and `bitset.length` are the same number) -/
theorem C11_bloom_img_sizes {E : Type} (probes : E → List Nat) (size k : Nat) (hs : 1 ≤ size)
    (ops : List (BloomOp E)) :
    let img := imgOfBloom (Bloom.run probes (Bloom.new size k) ops)
    img.size = size ∧ img.bsSize = size ∧ img.bsLen = size := by
  obtain ⟨e1, _, e3⟩ := bloom_reach probes size k ops
  have h1 : max size 1 = size := Nat.max_eq_left hs
  exact ⟨e1.trans h1, e3.trans h1, e3.trans h1⟩

/-- the image loses nothing: bit `i` of the state is bit `i mod 64` of word `i / 64` -/
theorem C11_bloom_img_bits (b : Bloom) (i : Nat) (hi : i < b.bits.length) :
    ((imgOfBloom b).words.getD (i / 64) 0).testBit (i % 64) = b.bits.getD i false :=
  packN_testBit _ _ i (by unfold wordsNeeded; omega)

theorem C11_bloom_size_needs_uint : ¬ (imgOfBloom (Bloom.new (2 ^ 64) 1)).WF := by
  exact fun h => absurd h.1 (by decide)

theorem C11_roundtrip_reachable_bloom {E : Type} (probes : E → List Nat) (size k : Nat)
    (hs : size < 2 ^ 64) (hk : k < 2 ^ 64) (ops : List (BloomOp E)) :
    let img := imgOfBloom (Bloom.run probes (Bloom.new size k) ops)
    ∀ rest, Dec.run decBloom (encBloom img ++ rest) = some (img, rest) :=
  C11_roundtrip_bloom _ (C11_reachable_wf_bloom probes size k hs hk ops)

theorem C11_count_reachable_bloom {E : Type} (probes : E → List Nat) (size k : Nat)
    (hs : size < 2 ^ 64) (hk : k < 2 ^ 64) (ops : List (BloomOp E)) :
    let img := imgOfBloom (Bloom.run probes (Bloom.new size k) ops)
    (encBloom img).length = countBloom img :=
  C11_count_bloom _ (C11_reachable_wf_bloom probes size k hs hk ops)

theorem C18_truncated_reachable_bloom {E : Type} (probes : E → List Nat) (size k : Nat)
    (hs : size < 2 ^ 64) (hk : k < 2 ^ 64) (ops : List (BloomOp E)) :
    let img := imgOfBloom (Bloom.run probes (Bloom.new size k) ops)
    ∀ p, p <+: encBloom img → p ≠ encBloom img → Dec.run decBloom p = none :=
  C18_truncated_bloom _ (C11_reachable_wf_bloom probes size k hs hk ops)

/-- JSON: Export/Import reproduces the reachable filter, whatever instance it is imported into -/
theorem C10_roundtrip_reachable_bloom {E : Type} (probes : E → List Nat) (size k : Nat)
    (ops : List (BloomOp E)) (t : Json.BloomMem) :
    let b := Bloom.run probes (Bloom.new size k) ops
    let s : Json.BloomMem := ⟨b.size, b.k, b.bits.length, b.bits⟩
    Json.BloomMem.importDoc s.exportDoc t = s :=
  Json.C10_roundtrip_bloomMem_exact _ t rfl

theorem C11_reachable_wf_cms (h : CMSHist) (hr : h.rows < 2 ^ 64) (hc : h.cols < 2 ^ 64)
    (hno : h.total < 2 ^ 64) (allSum : Nat) (ha : allSum < 2 ^ 64) :
    (imgOfCMS h.state allSum).WF := by
  obtain ⟨h1, h2, h3, h4⟩ := h.inv
  exact imgOfCMS_wf h.state allSum h.total h1 h2 h3 h4 hr hc ha hno

/-- with the `allSum` the code holds: the sum of the receiver's own Update counts -/
theorem C11_reachable_wf_cms_ownSum (h : CMSHist) (hr : h.rows < 2 ^ 64) (hc : h.cols < 2 ^ 64)
    (hno : h.total < 2 ^ 64) : (imgOfCMS h.state h.ownSum).WF :=
  C11_reachable_wf_cms h hr hc hno _ (Nat.lt_of_le_of_lt h.ownSum_le_total hno)

/-- **the no-overflow hypothesis is needed**: one `Update(x, 2^64)` — or two sketches holding
    `2^63` merged — puts `2^64` into a cell of the MODEL (the Go cell wraps to 0: beyond the
    bound model and code disagree). -/
example : ¬ (imgOfCMS (CMSHist.update (.new 1 1) [0] (2 ^ 64)).state 0).WF := by decide +kernel
example :
    let a := CMSHist.update (.new 1 2) [1] (2 ^ 63)
    a.total < 2 ^ 64 ∧ (imgOfCMS a.state 0).WF ∧ (CMSHist.merge a a).total = 2 ^ 64 ∧
      ¬ (imgOfCMS (CMSHist.merge a a).state 0).WF := by decide +kernel

theorem C11_roundtrip_reachable_cms (h : CMSHist) (hr : h.rows < 2 ^ 64) (hc : h.cols < 2 ^ 64)
    (hno : h.total < 2 ^ 64) (allSum : Nat) (ha : allSum < 2 ^ 64) :
    ∀ rest, Dec.run decCMS (encCMS (imgOfCMS h.state allSum) ++ rest)
      = some (imgOfCMS h.state allSum, rest) :=
  C11_roundtrip_cms _ (C11_reachable_wf_cms h hr hc hno allSum ha)

theorem C11_count_reachable_cms (h : CMSHist) (hr : h.rows < 2 ^ 64) (hc : h.cols < 2 ^ 64)
    (hno : h.total < 2 ^ 64) (allSum : Nat) (ha : allSum < 2 ^ 64) :
    (encCMS (imgOfCMS h.state allSum)).length = countCMS (imgOfCMS h.state allSum) :=
  C11_count_cms _ (C11_reachable_wf_cms h hr hc hno allSum ha)

theorem C18_truncated_reachable_cms (h : CMSHist) (hr : h.rows < 2 ^ 64) (hc : h.cols < 2 ^ 64)
    (hno : h.total < 2 ^ 64) (allSum : Nat) (ha : allSum < 2 ^ 64) :
    ∀ p, p <+: encCMS (imgOfCMS h.state allSum) → p ≠ encCMS (imgOfCMS h.state allSum) →
      Dec.run decCMS p = none :=
  C18_truncated_cms _ (C11_reachable_wf_cms h hr hc hno allSum ha)

theorem C10_roundtrip_reachable_cms (h : CMSHist) (t : Json.CMSMem) :
    Json.CMSMem.importDoc (Json.CMSMem.exportDoc ⟨h.state, h.ownSum⟩) t = ⟨h.state, h.ownSum⟩ :=
  Json.C10_roundtrip_cmsMem _ t

theorem C11_reachable_wf_hll (h : HLLHist) (hm : h.m < 2 ^ 64) (nbp bias : Nat)
    (h1 : nbp < 2 ^ 64) (h2 : bias < 2 ^ 64) : (imgOfHLL h.state nbp bias).WF := by
  obtain ⟨a, b⟩ := h.inv
  exact ⟨Nat.lt_of_le_of_lt (Nat.le_of_eq a) hm, h1, h2, (List.length_map _).trans (b.trans a.symm)⟩

/-- the image loses nothing when every offered register value is a byte (always, in the code) -/
theorem C11_hll_img_regs (h : HLLHist) (hv : h.ValsOK) (nbp bias : Nat) :
    (imgOfHLL h.state nbp bias).regs.map UInt8.toNat = h.state.regs :=
  map_toNat_ofNat _ (h.regs_lt hv)

/-- … and only then: a model `update` with value 256 (the code would have cut it to 0 before
    taking the maximum) is not represented by its image -/
theorem C11_hll_img_needs_bytes :
    let h := HLLHist.update (.new 2) 1 256
    (imgOfHLL h.state 1 0).WF ∧ h.state.regs = [0, 256] ∧
      (imgOfHLL h.state 1 0).regs.map UInt8.toNat = [0, 0] := by decide

theorem C11_roundtrip_reachable_hll (h : HLLHist) (hm : h.m < 2 ^ 64) (nbp bias : Nat)
    (h1 : nbp < 2 ^ 64) (h2 : bias < 2 ^ 64) :
    ∀ rest, Dec.run decHLL (encHLL (imgOfHLL h.state nbp bias) ++ rest)
      = some (imgOfHLL h.state nbp bias, rest) :=
  C11_roundtrip_hll _ (C11_reachable_wf_hll h hm nbp bias h1 h2)

theorem C11_count_reachable_hll (h : HLLHist) (hm : h.m < 2 ^ 64) (nbp bias : Nat)
    (h1 : nbp < 2 ^ 64) (h2 : bias < 2 ^ 64) :
    (encHLL (imgOfHLL h.state nbp bias)).length = countHLL (imgOfHLL h.state nbp bias) :=
  C11_count_hll _ (C11_reachable_wf_hll h hm nbp bias h1 h2)

theorem C18_truncated_reachable_hll (h : HLLHist) (hm : h.m < 2 ^ 64) (nbp bias : Nat)
    (h1 : nbp < 2 ^ 64) (h2 : bias < 2 ^ 64) :
    ∀ p, p <+: encHLL (imgOfHLL h.state nbp bias) → p ≠ encHLL (imgOfHLL h.state nbp bias) →
      Dec.run decHLL p = none :=
  C18_truncated_hll _ (C11_reachable_wf_hll h hm nbp bias h1 h2)

theorem C10_roundtrip_reachable_hll (h : HLLHist) (nbp bias : Nat) (t : Json.HLLMem) :
    Json.HLLMem.importDoc (Json.HLLMem.exportDoc ⟨h.state, nbp, bias⟩) t = ⟨h.state, nbp, bias⟩ :=
  Json.C10_roundtrip_hllMem _ t

section cuckoo
variable {F : Type} [DecidableEq F] [Inhabited (BucketMem F)]

/-- abstract histories.  `hdef` concerns the bucket the model reads for an index outside the table
    (the instance for `String` has no slots). -/
theorem C11_reachable_wf_cuckoo (enc : F → Bytes) (emp : F) (alt : Nat → F → Nat)
    (n bsize fpl retries : Nat) (ops : List (COp F))
    (hn : n < 2 ^ 64) (hb : bsize < 2 ^ 64) (hf : fpl < 2 ^ 64) (hr : retries < 2 ^ 64)
    (hemp : (enc emp).length < 2 ^ 64)
    (hdef : ∀ e ∈ (default : BucketMem F).elements, (enc e).length < 2 ^ 64)
    (hfp : ∀ op ∈ ops, (enc (COp.fp op)).length < 2 ^ 64)
    (hno : numInserts ops < 2 ^ 64) :
    (imgOfCuckoo enc (run (BucketMem.ops emp) alt (Mem.empty emp n bsize fpl retries) ops)).WF :=
  imgOfCuckoo_wf enc (numInserts ops) (run_params alt _ ops)
    (run_ok emp hemp hdef alt _ ops (empty_ok emp hemp n bsize fpl retries) hfp) hn hb hf
    (Nat.lt_of_le_of_lt (Nat.le_of_eq (Nat.zero_add _)) hno) hr

end cuckoo

/-- the in-memory structure: `String` fingerprints, `""` the empty slot, `[]byte(str)` the bytes -/
theorem C11_reachable_wf_cuckoo_str (alt : Nat → String → Nat) (n bsize fpl retries : Nat)
    (ops : List (COp String))
    (hn : n < 2 ^ 64) (hb : bsize < 2 ^ 64) (hf : fpl < 2 ^ 64) (hr : retries < 2 ^ 64)
    (hfp : ∀ op ∈ ops, (strBytes (COp.fp op)).length < 2 ^ 64) (hno : numInserts ops < 2 ^ 64) :
    (imgOfCuckoo strBytes (run (BucketMem.ops "") alt (Mem.empty "" n bsize fpl retries) ops)).WF :=
  C11_reachable_wf_cuckoo strBytes "" alt n bsize fpl retries ops hn hb hf hr
    (by rw [strBytes_empty]; decide) (by intro e he; cases he) hfp hno

/-- byte-level histories (`getPositions` and murmur3 as coded): the string-length clauses of `WF`
    are proved, not assumed. -/
theorem C11_reachable_wf_cuckoo_bytes (n bsize fpl retries : Nat) (h : List BOp)
    (hn : n < 2 ^ 64) (hb : bsize < 2 ^ 64) (hf : fpl < 2 ^ 64) (hr : retries < 2 ^ 64)
    (hno : numInsertsB h < 2 ^ 64) :
    (imgOfCuckoo strBytes (runB (BucketMem.ops "") (Mem.empty "" n bsize fpl retries) h)).WF := by
  have hemp : (strBytes "").length < 2 ^ 64 := by rw [strBytes_empty]; decide
  exact imgOfCuckoo_wf strBytes (numInsertsB h) (runB_params _ h)
    (runB_ok hemp (fun n fpl data => Nat.lt_of_le_of_lt (strBytes_positions_le n fpl data) (by decide))
      _ h (empty_ok "" hemp n bsize fpl retries)) hn hb hf
    (Nat.lt_of_le_of_lt (Nat.le_of_eq (Nat.zero_add _)) hno) hr

/-- **the bound on the number of inserts is needed** (in the model): with the empty fingerprint
    of finding D3 every `Insert` answers true, stores nothing and counts, so `k` inserts give
    `length = k` in a filter with one cell; `2^64` of them leave WF (the Go counter wraps to 0:
    `2^64` calls are out of reach of any execution, this only delimits the model). -/
theorem C11_cuckoo_length_needs_bound (k : Nat) :
    (run (BucketMem.ops "") (fun _ _ => 0) (Mem.empty "" 1 1 20 500)
      (List.replicate k (COp.insert "" 0 false false []))).length = k := by
  have key : ∀ (k l : Nat),
      (run (BucketMem.ops "") (fun _ _ => 0) ⟨1, 1, 20, 500, [BucketMem.new "" 1], l⟩
        (List.replicate k (COp.insert "" 0 false false []))).length = l + k := by
    intro k
    induction k with
    | zero => intro l; rfl
    | succ k ih =>
      intro l
      rw [List.replicate_succ, run_cons]
      exact (ih (l + 1)).trans (Nat.add_right_comm l 1 k)
  exact (key k 0).trans (Nat.zero_add k)

theorem C11_cuckoo_length_leaves_wf (k : Nat) (hk : 2 ^ 64 ≤ k) :
    ¬ (imgOfCuckoo strBytes (run (BucketMem.ops "") (fun _ _ => 0) (Mem.empty "" 1 1 20 500)
      (List.replicate k (COp.insert "" 0 false false [])))).WF := by
  intro h
  exact Nat.lt_irrefl _ (Nat.lt_of_le_of_lt hk (C11_cuckoo_length_needs_bound k ▸ h.2.2.2.1))

section cuckoo
variable {F : Type} [DecidableEq F] [Inhabited (BucketMem F)]

theorem C11_roundtrip_reachable_cuckoo (enc : F → Bytes) (emp : F) (alt : Nat → F → Nat)
    (n bsize fpl retries : Nat) (ops : List (COp F))
    (hn : n < 2 ^ 64) (hb : bsize < 2 ^ 64) (hf : fpl < 2 ^ 64) (hr : retries < 2 ^ 64)
    (hemp : (enc emp).length < 2 ^ 64)
    (hdef : ∀ e ∈ (default : BucketMem F).elements, (enc e).length < 2 ^ 64)
    (hfp : ∀ op ∈ ops, (enc (COp.fp op)).length < 2 ^ 64)
    (hno : numInserts ops < 2 ^ 64) :
    let img := imgOfCuckoo enc (run (BucketMem.ops emp) alt (Mem.empty emp n bsize fpl retries) ops)
    ∀ rest, Dec.run decCuckoo (encCuckoo img ++ rest) = some (img, rest) :=
  C11_roundtrip_cuckoo _
    (C11_reachable_wf_cuckoo enc emp alt n bsize fpl retries ops hn hb hf hr hemp hdef hfp hno)

theorem C11_count_reachable_cuckoo (enc : F → Bytes) (emp : F) (alt : Nat → F → Nat)
    (n bsize fpl retries : Nat) (ops : List (COp F))
    (hn : n < 2 ^ 64) (hb : bsize < 2 ^ 64) (hf : fpl < 2 ^ 64) (hr : retries < 2 ^ 64)
    (hemp : (enc emp).length < 2 ^ 64)
    (hdef : ∀ e ∈ (default : BucketMem F).elements, (enc e).length < 2 ^ 64)
    (hfp : ∀ op ∈ ops, (enc (COp.fp op)).length < 2 ^ 64)
    (hno : numInserts ops < 2 ^ 64) :
    let img := imgOfCuckoo enc (run (BucketMem.ops emp) alt (Mem.empty emp n bsize fpl retries) ops)
    (encCuckoo img).length = countCuckoo img :=
  C11_count_cuckoo _
    (C11_reachable_wf_cuckoo enc emp alt n bsize fpl retries ops hn hb hf hr hemp hdef hfp hno)

theorem C18_truncated_reachable_cuckoo (enc : F → Bytes) (emp : F) (alt : Nat → F → Nat)
    (n bsize fpl retries : Nat) (ops : List (COp F))
    (hn : n < 2 ^ 64) (hb : bsize < 2 ^ 64) (hf : fpl < 2 ^ 64) (hr : retries < 2 ^ 64)
    (hemp : (enc emp).length < 2 ^ 64)
    (hdef : ∀ e ∈ (default : BucketMem F).elements, (enc e).length < 2 ^ 64)
    (hfp : ∀ op ∈ ops, (enc (COp.fp op)).length < 2 ^ 64)
    (hno : numInserts ops < 2 ^ 64) :
    let img := imgOfCuckoo enc (run (BucketMem.ops emp) alt (Mem.empty emp n bsize fpl retries) ops)
    ∀ p, p <+: encCuckoo img → p ≠ encCuckoo img → Dec.run decCuckoo p = none :=
  C18_truncated_cuckoo _
    (C11_reachable_wf_cuckoo enc emp alt n bsize fpl retries ops hn hb hf hr hemp hdef hfp hno)

end cuckoo

theorem C11_roundtrip_reachable_cuckoo_bytes (n bsize fpl retries : Nat) (h : List BOp)
    (hn : n < 2 ^ 64) (hb : bsize < 2 ^ 64) (hf : fpl < 2 ^ 64) (hr : retries < 2 ^ 64)
    (hno : numInsertsB h < 2 ^ 64) :
    let img := imgOfCuckoo strBytes (runB (BucketMem.ops "") (Mem.empty "" n bsize fpl retries) h)
    ∀ rest, Dec.run decCuckoo (encCuckoo img ++ rest) = some (img, rest) :=
  C11_roundtrip_cuckoo _ (C11_reachable_wf_cuckoo_bytes n bsize fpl retries h hn hb hf hr hno)

theorem C11_count_reachable_cuckoo_bytes (n bsize fpl retries : Nat) (h : List BOp)
    (hn : n < 2 ^ 64) (hb : bsize < 2 ^ 64) (hf : fpl < 2 ^ 64) (hr : retries < 2 ^ 64)
    (hno : numInsertsB h < 2 ^ 64) :
    let img := imgOfCuckoo strBytes (runB (BucketMem.ops "") (Mem.empty "" n bsize fpl retries) h)
    (encCuckoo img).length = countCuckoo img :=
  C11_count_cuckoo _ (C11_reachable_wf_cuckoo_bytes n bsize fpl retries h hn hb hf hr hno)

theorem C18_truncated_reachable_cuckoo_bytes (n bsize fpl retries : Nat) (h : List BOp)
    (hn : n < 2 ^ 64) (hb : bsize < 2 ^ 64) (hf : fpl < 2 ^ 64) (hr : retries < 2 ^ 64)
    (hno : numInsertsB h < 2 ^ 64) :
    let img := imgOfCuckoo strBytes (runB (BucketMem.ops "") (Mem.empty "" n bsize fpl retries) h)
    ∀ p, p <+: encCuckoo img → p ≠ encCuckoo img → Dec.run decCuckoo p = none :=
  C18_truncated_cuckoo _ (C11_reachable_wf_cuckoo_bytes n bsize fpl retries h hn hb hf hr hno)

/-- the count of non-empty slots of the cuckoo proofs (`occ`, Proofs/CuckooList.lean) and the one of
    the JSON model (`Json.occupied`) are the same number -/
theorem occ_eq_occupied (l : List String) : occ "" l = Json.occupied l := by
  unfold occ Json.occupied
  congr 1

/-- JSON side: `CuckooMem.WF` (what `Import(Export(·))` needs) holds along histories of VALID
    operations — non-empty fingerprints, first position in range, slot choices in range, `alt`
    staying in the table — from the C13 invariant.  For the D3 states it fails and so does the
    round trip (`C10_cuckooMem_counterexample`, `exD3_json`). -/
theorem C10_reachable_wf_cuckoo (alt : Nat → String → Nat) (n bsize fpl retries : Nat)
    (ops : List (COp String)) (hAlt : ∀ j f, j < n → alt j f < n) (hb : 0 < bsize)
    (hv : ∀ op ∈ ops, ValidOp "" n bsize op) :
    Json.CuckooMem.WF (run (BucketMem.ops "") alt (Mem.empty "" n bsize fpl retries) ops) := by
  have hwf := Mem.C13_wf_preserved "" alt (Mem.empty "" n bsize fpl retries) ops
    (Mem.empty_wf "" n bsize fpl retries) hAlt hb hv
  refine ⟨hwf.nbuckets, ?_⟩
  intro b hb'
  obtain ⟨k1, k2, k3⟩ := hwf.bucket b hb'
  refine ⟨k1, by rw [k2, k1], ?_⟩
  rw [k3, occ_eq_occupied]

theorem C10_roundtrip_reachable_cuckoo (alt : Nat → String → Nat) (n bsize fpl retries : Nat)
    (ops : List (COp String)) (hAlt : ∀ j f, j < n → alt j f < n) (hb : 0 < bsize)
    (hv : ∀ op ∈ ops, ValidOp "" n bsize op) (t : Json.CuckooMem) :
    let s := run (BucketMem.ops "") alt (Mem.empty "" n bsize fpl retries) ops
    Json.CuckooMem.importDoc (Json.CuckooMem.exportDoc s) t = .ok s :=
  Json.C10_roundtrip_cuckooMem_partial _ t (C10_reachable_wf_cuckoo alt n bsize fpl retries ops hAlt hb hv)

/-- every cell of the sketch and every tracked frequency is bounded by the sum of all inserted
    counts, hence the no-overflow hypothesis `tkTotal ops < 2^64` -/
theorem C11_reachable_wf_topk (enc : String → Bytes) (k rows cols : Nat) (ops : List TKOp)
    (hk : k < 2 ^ 64) (hr : rows < 2 ^ 64) (hc : cols < 2 ^ 64)
    (hq : ∀ o ∈ ops, (enc o.1).length < 2 ^ 64) (hno : tkTotal ops < 2 ^ 64)
    (er acc allSum : Nat) (her : er < 2 ^ 64) (hacc : acc < 2 ^ 64) (ha : allSum < 2 ^ 64) :
    (imgOfTopK enc (tkRun (tkInit k rows cols) ops) er acc allSum).WF := by
  obtain ⟨a, b⟩ := tkRun_inv (fun x => (enc x).length < 2 ^ 64) rows cols 0 (tkInit k rows cols) ops
    (tkInit_inv _ k rows cols) hq
  rw [Nat.zero_add] at a
  exact imgOfTopK_wf enc _ er acc allSum rows cols (tkTotal ops) a (by rw [b]; exact hk) hr hc hno
    her hacc ha

/-- with the `allSum` the code holds -/
theorem C11_reachable_wf_topk_allSum (enc : String → Bytes) (k rows cols : Nat) (ops : List TKOp)
    (hk : k < 2 ^ 64) (hr : rows < 2 ^ 64) (hc : cols < 2 ^ 64)
    (hq : ∀ o ∈ ops, (enc o.1).length < 2 ^ 64) (hno : tkTotal ops < 2 ^ 64)
    (er acc : Nat) (her : er < 2 ^ 64) (hacc : acc < 2 ^ 64) :
    (imgOfTopK enc (tkRun (tkInit k rows cols) ops) er acc (tkTotal ops)).WF :=
  C11_reachable_wf_topk enc k rows cols ops hk hr hc hq hno er acc _ her hacc hno

/-- **the no-overflow hypothesis is needed**: one `Insert("a", 2^64)` (model; the Go cell and the
    tracked frequency wrap to 0) -/
example : ¬ (imgOfTopK strBytes (tkRun (tkInit 1 1 1) [("a", [0], 2 ^ 64)]) 0 0 0).WF := by
  decide +kernel

theorem C11_roundtrip_reachable_topk (enc : String → Bytes) (k rows cols : Nat) (ops : List TKOp)
    (hk : k < 2 ^ 64) (hr : rows < 2 ^ 64) (hc : cols < 2 ^ 64)
    (hq : ∀ o ∈ ops, (enc o.1).length < 2 ^ 64) (hno : tkTotal ops < 2 ^ 64)
    (er acc allSum : Nat) (her : er < 2 ^ 64) (hacc : acc < 2 ^ 64) (ha : allSum < 2 ^ 64) :
    let img := imgOfTopK enc (tkRun (tkInit k rows cols) ops) er acc allSum
    ∀ rest, Dec.run decTopK (encTopK img ++ rest) = some (img, rest) :=
  C11_roundtrip_topk _ (C11_reachable_wf_topk enc k rows cols ops hk hr hc hq hno er acc allSum her hacc ha)

theorem C11_count_reachable_topk (enc : String → Bytes) (k rows cols : Nat) (ops : List TKOp)
    (hk : k < 2 ^ 64) (hr : rows < 2 ^ 64) (hc : cols < 2 ^ 64)
    (hq : ∀ o ∈ ops, (enc o.1).length < 2 ^ 64) (hno : tkTotal ops < 2 ^ 64)
    (er acc allSum : Nat) (her : er < 2 ^ 64) (hacc : acc < 2 ^ 64) (ha : allSum < 2 ^ 64) :
    let img := imgOfTopK enc (tkRun (tkInit k rows cols) ops) er acc allSum
    (encTopK img).length = countTopK img :=
  C11_count_topk _ (C11_reachable_wf_topk enc k rows cols ops hk hr hc hq hno er acc allSum her hacc ha)

theorem C18_truncated_reachable_topk (enc : String → Bytes) (k rows cols : Nat) (ops : List TKOp)
    (hk : k < 2 ^ 64) (hr : rows < 2 ^ 64) (hc : cols < 2 ^ 64)
    (hq : ∀ o ∈ ops, (enc o.1).length < 2 ^ 64) (hno : tkTotal ops < 2 ^ 64)
    (er acc allSum : Nat) (her : er < 2 ^ 64) (hacc : acc < 2 ^ 64) (ha : allSum < 2 ^ 64) :
    let img := imgOfTopK enc (tkRun (tkInit k rows cols) ops) er acc allSum
    ∀ p, p <+: encTopK img → p ≠ encTopK img → Dec.run decTopK p = none :=
  C18_truncated_topk _ (C11_reachable_wf_topk enc k rows cols ops hk hr hc hq hno er acc allSum her hacc ha)

/-- the same for `TopK.runInserts` (positions a function of the name, as in C04) -/
theorem C11_reachable_wf_topk_runInserts (enc : String → Bytes) (posOf : String → List Nat)
    (k rows cols : Nat) (ops : List (String × Nat))
    (hk : k < 2 ^ 64) (hr : rows < 2 ^ 64) (hc : cols < 2 ^ 64)
    (hq : ∀ o ∈ ops, (enc o.1).length < 2 ^ 64) (hno : sumL (ops.map (·.2)) < 2 ^ 64)
    (er acc allSum : Nat) (her : er < 2 ^ 64) (hacc : acc < 2 ^ 64) (ha : allSum < 2 ^ 64) :
    (imgOfTopK enc (TopK.runInserts posOf (tkInit k rows cols) ops) er acc allSum).WF := by
  rw [runInserts_eq_tkRun]
  exact C11_reachable_wf_topk enc k rows cols _ hk hr hc (List.forall_mem_map.2 hq)
    (by simpa [tkTotal, List.map_map, Function.comp_def] using hno) er acc allSum her hacc ha

/-- JSON side: `rows, cols ≥ 1` and every INSERTED name fixed by the UTF-8 coercion of
    `encoding/json` (finding D23) — then every tracked name is, and Export/Import reproduces the
    state (`k`, rates, sketch with `allSum`, heap slice in order). -/
theorem C10_roundtrip_reachable_topk (utf8fix : String → String) (k rows cols : Nat)
    (ops : List TKOp) (hr : 0 < rows) (hc : 0 < cols) (hfix : ∀ o ∈ ops, utf8fix o.1 = o.1)
    (er acc : Nat) (t : Json.TopKMem String) :
    let r := tkRun (tkInit k rows cols) ops
    let s : Json.TopKMem String := ⟨r.k, er, acc, ⟨r.sketch, tkTotal ops⟩, r.heap.toList⟩
    Json.TopKMem.importDoc (s.exportDoc.jsonTrip utf8fix) t = .ok s := by
  obtain ⟨a, _⟩ := tkRun_inv (fun x => utf8fix x = x) rows cols 0 (tkInit k rows cols) ops
    (tkInit_inv _ k rows cols) hfix
  exact Json.C10_roundtrip_topkMem_partial utf8fix _ t (Nat.lt_of_lt_of_le hr (Nat.le_of_eq a.srows.symm))
    (Nat.lt_of_lt_of_le hc (Nat.le_of_eq a.scols.symm)) fun e he => (a.entries e he).1

/-! ## non-vacuity: concrete histories, all hypotheses discharged by `decide`, the state and its
    image evaluated by the kernel; round trip, byte count and truncation are then instances of the
    theorems above (the last section compares what the encoders produce with hex constants taken
    from Go's `WriteTo`, by `decide`) -/

/-! ### Bloom: 70 bits (two words), three probes per element, inserts and lookups -/

def exBloomProbes (e : Nat) : List Nat := Bloom.probesOf (e * 7 + 1) (e * 13 + 5) 3 70
def exBloomOps : List (BloomOp Nat) := [.insert 1, .lookup 2, .insert 5, .insert 9, .lookup 1]
def exBloomState : Bloom := Bloom.run exBloomProbes (Bloom.new 70 3) exBloomOps

theorem exBloomState_wf : (imgOfBloom exBloomState).WF :=
  C11_reachable_wf_bloom exBloomProbes 70 3 (by decide) (by decide) exBloomOps
/-- the image: probes 8,26,45 / 36,36,37 / 64,46,29.  (Stated under a name, and once more as the
    `example` below, so that the later examples can refer to the one evaluation; likewise
    `exCMS_facts`, `exB_facts`, `exBImg`, `exD3_eq`.) -/
theorem exBloomImg : imgOfBloom exBloomState = ⟨70, 3, 70, 70, [105759878676736, 1]⟩ := by
  decide +kernel
example : imgOfBloom exBloomState = ⟨70, 3, 70, 70, [105759878676736, 1]⟩ := exBloomImg
example : Dec.run decBloom (encBloom (imgOfBloom exBloomState) ++ [0xAA])
    = some (imgOfBloom exBloomState, [0xAA]) := C11_roundtrip_bloom _ exBloomState_wf _
example : (encBloom (imgOfBloom exBloomState)).length = 48 := by
  rw [C11_count_bloom _ exBloomState_wf, exBloomImg]; rfl
example : Dec.run decBloom ((encBloom (imgOfBloom exBloomState)).take 47) = none :=
  Dec.take_rejected (C11_roundtrip_bloom _ exBloomState_wf) <| by
    rw [C11_count_bloom _ exBloomState_wf, exBloomImg]; decide

/-! ### CMS: two updates, a successful merge of a sketch with its own update, a rejected merge -/

def exCMSHist : CMSHist :=
  .merge (.merge (.update (.update (.new 2 3) [1, 2] 5) [0, 2] 7) (.update (.new 2 3) [1, 1] 4))
    (.update (.new 1 1) [0] (2 ^ 64))
theorem exCMS_facts : exCMSHist.state = ⟨2, 3, [[7, 9, 0], [0, 4, 12]]⟩ ∧ exCMSHist.total = 16 ∧
    exCMSHist.ownSum = 12 := by decide +kernel
example : exCMSHist.state = ⟨2, 3, [[7, 9, 0], [0, 4, 12]]⟩ ∧ exCMSHist.total = 16 ∧
    exCMSHist.ownSum = 12 := exCMS_facts
theorem exCMS_wf : (imgOfCMS exCMSHist.state 12).WF :=
  C11_reachable_wf_cms exCMSHist (by decide) (by decide) (by decide) 12 (by decide)
example : (imgOfCMS exCMSHist.state exCMSHist.ownSum).WF :=
  C11_reachable_wf_cms_ownSum exCMSHist (by decide) (by decide) (by decide)
example : Dec.run decCMS (encCMS (imgOfCMS exCMSHist.state 12) ++ [0xAA])
    = some (⟨2, 3, 12, [[7, 9, 0], [0, 4, 12]]⟩, [0xAA]) := by
  rw [C11_roundtrip_cms _ exCMS_wf, exCMS_facts.1]; rfl
example : Dec.run decCMS ((encCMS (imgOfCMS exCMSHist.state 12)).take 71) = none :=
  Dec.take_rejected (C11_roundtrip_cms _ exCMS_wf) <| by
    rw [C11_count_cms _ exCMS_wf, exCMS_facts.1]; decide

/-! ### HLL: updates (one of them out of range: panics, no effect), a merge, a rejected merge -/

def exHLLHist : HLLHist :=
  .merge (.merge (.update (.update (.update (.new 4) 1 200) 3 7) 9 1) (.update (.new 4) 1 255))
    (.new 8)
example : exHLLHist.state = ⟨4, [0, 255, 0, 7]⟩ ∧ exHLLHist.ValsOK := by decide
example : (imgOfHLL exHLLHist.state 2 0x3FE1C3B13B13B13B).WF :=
  C11_reachable_wf_hll exHLLHist (by decide) _ _ (by decide) (by decide)
example : (imgOfHLL exHLLHist.state 2 0).regs.map UInt8.toNat = exHLLHist.state.regs :=
  C11_hll_img_regs exHLLHist (by decide) 2 0
example : Dec.run decHLL (encHLL (imgOfHLL exHLLHist.state 2 0x3FE1C3B13B13B13B) ++ [0xAA])
    = some (⟨4, 2, 0x3FE1C3B13B13B13B, [0, 255, 0, 7]⟩, [0xAA]) := by
  rw [C11_roundtrip_hll _ (C11_reachable_wf_hll exHLLHist (by decide) _ _ (by decide) (by decide))]
  decide +kernel

/-! ### Cuckoo, abstract history: 3 buckets of 3 slots; seven inserts (the seventh relocates "12"
    from the full bucket 0 to bucket 2), a remove that leaves a hole in the MIDDLE of bucket 1,
    an insert with the empty fingerprint (D3), a failing destructive insert -/

def exAlt (j : Nat) (f : String) : Nat := if f = "12" then 2 else (j + 1) % 3
def exCOps : List (COp String) :=
  [.insert "11" 0 false true [], .insert "12" 0 false true [], .insert "13" 0 false true [],
   .insert "21" 1 false true [], .insert "22" 1 false true [], .insert "23" 1 false true [],
   .insert "14" 0 false true [1, 0], .remove "22" 1, .insert "" 1 false true [], .lookup "12" 0]
def exCState : Cuckoo (BucketMem String) :=
  run (BucketMem.ops "") exAlt (Mem.empty "" 3 3 2 5) exCOps

example : exCState = ⟨3, 3, 2, 5,
    [⟨3, ["11", "14", "13"], 3⟩, ⟨3, ["21", "", "23"], 2⟩, ⟨3, ["12", "", ""], 1⟩], 7⟩ := by
  decide +kernel
theorem exCState_wf : (imgOfCuckoo strBytes exCState).WF :=
  C11_reachable_wf_cuckoo_str exAlt 3 3 2 5 exCOps (by decide) (by decide) (by decide)
    (by decide) (by decide +kernel) (by decide)
example : Dec.run decCuckoo (encCuckoo (imgOfCuckoo strBytes exCState) ++ [0xAA])
    = some (imgOfCuckoo strBytes exCState, [0xAA]) := C11_roundtrip_cuckoo _ exCState_wf _
example : (encCuckoo (imgOfCuckoo strBytes exCState)).length = 172 := by
  rw [C11_count_cuckoo _ exCState_wf]; decide +kernel

/-! ### Cuckoo, byte-level history (real `getPositions`/murmur3): 4 buckets of 3 slots, two-digit
    fingerprints.  "w15", "w23", "w39" fill bucket 1; "w3" (both candidates = bucket 1) evicts
    "18" (= "w15") from slot 0 into its alternate bucket 2 — one relocation; removing "w23"
    leaves the hole in the middle of bucket 1; "w15" is still found. -/

def exBHist : List BOp :=
  [.insert (bytes "w15") false true [0, 0, 0], .insert (bytes "w23") false true [0, 0, 0],
   .insert (bytes "w39") false true [0, 0, 0], .insert (bytes "w3") false true [0, 0, 0],
   .remove (bytes "w23"), .lookup (bytes "w15")]
def exBState : Cuckoo (BucketMem String) := runB (BucketMem.ops "") (Mem.empty "" 4 3 2 3) exBHist

theorem exB_facts : positions 4 2 (bytes "w15") = ("18", 1, 2) ∧ positions 4 2 (bytes "w3") = ("13", 1, 1) ∧
    (runB (BucketMem.ops "") (Mem.empty "" 4 3 2 3) (exBHist.take 3)).buckets
      = [⟨3, ["", "", ""], 0⟩, ⟨3, ["18", "14", "16"], 3⟩, ⟨3, ["", "", ""], 0⟩, ⟨3, ["", "", ""], 0⟩] ∧
    exBState = ⟨4, 3, 2, 3,
      [⟨3, ["", "", ""], 0⟩, ⟨3, ["13", "", "16"], 2⟩, ⟨3, ["18", "", ""], 1⟩, ⟨3, ["", "", ""], 0⟩], 3⟩ ∧
    lookupB (BucketMem.ops "") exBState (bytes "w15") = true := by decide +kernel
example : positions 4 2 (bytes "w15") = ("18", 1, 2) ∧ positions 4 2 (bytes "w3") = ("13", 1, 1) ∧
    (runB (BucketMem.ops "") (Mem.empty "" 4 3 2 3) (exBHist.take 3)).buckets
      = [⟨3, ["", "", ""], 0⟩, ⟨3, ["18", "14", "16"], 3⟩, ⟨3, ["", "", ""], 0⟩, ⟨3, ["", "", ""], 0⟩] ∧
    exBState = ⟨4, 3, 2, 3,
      [⟨3, ["", "", ""], 0⟩, ⟨3, ["13", "", "16"], 2⟩, ⟨3, ["18", "", ""], 1⟩, ⟨3, ["", "", ""], 0⟩], 3⟩ ∧
    lookupB (BucketMem.ops "") exBState (bytes "w15") = true := exB_facts
theorem exBState_wf : (imgOfCuckoo strBytes exBState).WF :=
  C11_reachable_wf_cuckoo_bytes 4 3 2 3 exBHist (by decide) (by decide) (by decide) (by decide)
    (by decide)
theorem exBImg : imgOfCuckoo strBytes exBState = ⟨4, 3, 2, 3, 3,
    [⟨3, 0, [[], [], []]⟩, ⟨3, 2, [[0x31, 0x33], [], [0x31, 0x36]]⟩, ⟨3, 1, [[0x31, 0x38], [], []]⟩,
     ⟨3, 0, [[], [], []]⟩]⟩ := by rw [exB_facts.2.2.2.1]; decide +kernel
example : imgOfCuckoo strBytes exBState = ⟨4, 3, 2, 3, 3,
    [⟨3, 0, [[], [], []]⟩, ⟨3, 2, [[0x31, 0x33], [], [0x31, 0x36]]⟩, ⟨3, 1, [[0x31, 0x38], [], []]⟩,
     ⟨3, 0, [[], [], []]⟩]⟩ := exBImg
example : Dec.run decCuckoo (encCuckoo (imgOfCuckoo strBytes exBState) ++ [0xAA])
    = some (imgOfCuckoo strBytes exBState, [0xAA]) := C11_roundtrip_cuckoo _ exBState_wf _
example : (encCuckoo (imgOfCuckoo strBytes exBState)).length = 206 := by
  rw [C11_count_cuckoo _ exBState_wf, exBImg]; decide +kernel
example : Dec.run decCuckoo ((encCuckoo (imgOfCuckoo strBytes exBState)).take 205) = none :=
  Dec.take_rejected (C11_roundtrip_cuckoo _ exBState_wf) <| by
    rw [C11_count_cuckoo _ exBState_wf, exBImg]; decide +kernel

/-! ### the D3 state (`fingerPrintLength = 20`, "a" has a 19-digit hash): reachable, `length = 2`
    over ONE stored fingerprint — its BINARY image is well formed and round-trips; its JSON image
    does not (`CuckooMem.WF` fails: counters) -/

def exD3 : Cuckoo (BucketMem String) :=
  runB (BucketMem.ops "") (Mem.empty "" 4 1 20 3)
    [.insert (bytes "a") false true [0], .insert (bytes "e") false true [0]]
theorem exD3_eq : exD3 = ⟨4, 1, 20, 3,
    [⟨1, ["14246735316212115860"], 1⟩, ⟨1, [""], 0⟩, ⟨1, [""], 0⟩, ⟨1, [""], 0⟩], 2⟩ := by
  decide +kernel
example : exD3 = ⟨4, 1, 20, 3,
    [⟨1, ["14246735316212115860"], 1⟩, ⟨1, [""], 0⟩, ⟨1, [""], 0⟩, ⟨1, [""], 0⟩], 2⟩ := exD3_eq
theorem exD3_wf : (imgOfCuckoo strBytes exD3).WF :=
  C11_reachable_wf_cuckoo_bytes 4 1 20 3 _ (by decide) (by decide) (by decide) (by decide) (by decide)
example : Dec.run decCuckoo (encCuckoo (imgOfCuckoo strBytes exD3))
    = some (imgOfCuckoo strBytes exD3, []) := by
  simpa only [List.append_nil] using C11_roundtrip_cuckoo _ exD3_wf []
example : (encCuckoo (imgOfCuckoo strBytes exD3)).length = 156 := by
  rw [C11_count_cuckoo _ exD3_wf, exD3_eq]; decide +kernel

/-- where model and code part in a D3 state: `Remove("a")` on the NEW filter "finds" the empty
    fingerprint in the empty slot of bucket 0 and decrements two counters that are 0.  Model
    (truncated subtraction): both stay 0.  Go (`uint64`): both wrap to 2^64 - 1.
    Either image is WF and round-trips; they are not the same image. -/
theorem exD3_remove :
    (runB (BucketMem.ops "") (Mem.empty "" 4 1 20 3) [.remove (bytes "a")])
      = Mem.empty "" 4 1 20 3 ∧
    (stepB (BucketMem.ops "") (Mem.empty "" 4 1 20 3) (.remove (bytes "a"))).2 = true := by
  decide +kernel

/-- the JSON side of a D3 state: two one-slot buckets are filled, then a DESTRUCTIVE insert of an
    element with the empty fingerprint fails after its single retry has written "" over a stored
    fingerprint (cached bucket length 1 over an empty slot).  Reachable, binary image WF and
    round-tripping — but not `CuckooMem.WF`, and JSON Export/Import gives a different state. -/
def exD3Json : Cuckoo (BucketMem String) :=
  run (BucketMem.ops "") (fun j _ => (j + 1) % 2) (Mem.empty "" 2 1 20 1)
    [.insert "15172694540135229311" 1 false true [], .insert "10000000000000000000" 0 false true [],
     .insert "" 0 true true [0]]
theorem exD3Json_eq :
    exD3Json = ⟨2, 1, 20, 1, [⟨1, [""], 1⟩, ⟨1, ["15172694540135229311"], 1⟩], 2⟩ := by
  decide +kernel
theorem exD3_json :
    (imgOfCuckoo strBytes exD3Json).WF ∧
    Dec.run decCuckoo (encCuckoo (imgOfCuckoo strBytes exD3Json))
      = some (imgOfCuckoo strBytes exD3Json, []) ∧
    ¬ Json.CuckooMem.WF exD3Json ∧
    Json.CuckooMem.importDoc (Json.CuckooMem.exportDoc exD3Json) exD3Json
      = .ok ⟨2, 1, 20, 1, [⟨1, [""], 0⟩, ⟨1, ["15172694540135229311"], 1⟩], 2⟩ := by
  have wf : (imgOfCuckoo strBytes exD3Json).WF :=
    C11_reachable_wf_cuckoo_str _ 2 1 20 1 _ (by decide) (by decide) (by decide) (by decide)
      (by decide +kernel) (by decide)
  refine ⟨wf, ?_, ?_, ?_⟩
  · simpa only [List.append_nil] using C11_roundtrip_cuckoo _ wf []
  · intro h
    rw [exD3Json_eq] at h
    exact absurd (h.bucket ⟨1, [""], 1⟩ List.mem_cons_self).2.2 (by decide)
  · rw [exD3Json_eq]; decide +kernel

/-! ### Top-K: a partially filled heap (2 of k = 3), and a full heap after one eviction (k = 2) -/

def exTKOps : List TKOp :=
  [("a", [1, 2], 2), ("bb", [2, 1], 1), ("dddd", [1, 2], 1), ("bb", [2, 1], 2)]

/-- k = 3, first two inserts: heap holds 2 entries -/
example : (tkRun (tkInit 3 2 3) (exTKOps.take 2)).heap = #[("bb", 1), ("a", 2)] := by decide +kernel
/-- k = 2, all four inserts: "dddd" collides with "a" (estimate 3), "a" (2) is evicted -/
example : (tkRun (tkInit 2 2 3) (exTKOps.take 2)).heap = #[("bb", 1), ("a", 2)] ∧
    (tkRun (tkInit 2 2 3) (exTKOps.take 3)).heap = #[("a", 2), ("dddd", 3)] ∧
    (tkRun (tkInit 2 2 3) exTKOps).heap = #[("bb", 3), ("dddd", 3)] ∧
    (tkRun (tkInit 2 2 3) exTKOps).sketch = ⟨2, 3, [[0, 3, 3], [0, 3, 3]]⟩ ∧
    tkTotal exTKOps = 6 := by decide +kernel

theorem exTK_partial_wf :
    (imgOfTopK strBytes (tkRun (tkInit 3 2 3) (exTKOps.take 2)) 0x3FE0000000000000 0x3FC999999999999A 3).WF :=
  C11_reachable_wf_topk_allSum strBytes 3 2 3 (exTKOps.take 2) (by decide) (by decide) (by decide)
    (by decide +kernel) (by decide) _ _ (by decide) (by decide)
theorem exTK_evicted_wf :
    (imgOfTopK strBytes (tkRun (tkInit 2 2 3) exTKOps) 0x3FE0000000000000 0x3FC999999999999A 6).WF :=
  C11_reachable_wf_topk_allSum strBytes 2 2 3 exTKOps (by decide) (by decide) (by decide)
    (by decide +kernel) (by decide) _ _ (by decide) (by decide)

example : imgOfTopK strBytes (tkRun (tkInit 2 2 3) exTKOps) 0x3FE0000000000000 0x3FC999999999999A 6
    = ⟨2, 0x3FE0000000000000, 0x3FC999999999999A, ⟨2, 3, 6, [[0, 3, 3], [0, 3, 3]]⟩,
        [([0x62, 0x62], 3), ([0x64, 0x64, 0x64, 0x64], 3)]⟩ := by decide +kernel
example : Dec.run decTopK
    (encTopK (imgOfTopK strBytes (tkRun (tkInit 2 2 3) exTKOps) 0x3FE0000000000000 0x3FC999999999999A 6) ++ [0xAA])
    = some (imgOfTopK strBytes (tkRun (tkInit 2 2 3) exTKOps) 0x3FE0000000000000 0x3FC999999999999A 6, [0xAA]) :=
  C11_roundtrip_topk _ exTK_evicted_wf _
example : Dec.run decTopK
    (encTopK (imgOfTopK strBytes (tkRun (tkInit 3 2 3) (exTKOps.take 2)) 0x3FE0000000000000 0x3FC999999999999A 3))
    = some (imgOfTopK strBytes (tkRun (tkInit 3 2 3) (exTKOps.take 2)) 0x3FE0000000000000 0x3FC999999999999A 3, []) := by
  simpa only [List.append_nil] using C11_roundtrip_topk _ exTK_partial_wf []
example : (encTopK (imgOfTopK strBytes (tkRun (tkInit 2 2 3) exTKOps) 0x3FE0000000000000 0x3FC999999999999A 6)).length = 142 := by
  rw [C11_count_topk _ exTK_evicted_wf]; decide +kernel
example : Dec.run decTopK
    ((encTopK (imgOfTopK strBytes (tkRun (tkInit 2 2 3) exTKOps) 0x3FE0000000000000 0x3FC999999999999A 6)).take 134) = none :=
  Dec.take_rejected (C11_roundtrip_topk _ exTK_evicted_wf) <| by
    rw [C11_count_topk _ exTK_evicted_wf]; decide +kernel

/-- JSON side of the same two histories (ASCII names are fixed by the coercion) -/
example (utf8fix : String → String) (hascii : ∀ s ∈ ["a", "bb", "dddd"], utf8fix s = s)
    (t : Json.TopKMem String) :
    let r := tkRun (tkInit 2 2 3) exTKOps
    let s : Json.TopKMem String := ⟨r.k, 1, 2, ⟨r.sketch, tkTotal exTKOps⟩, r.heap.toList⟩
    Json.TopKMem.importDoc (s.exportDoc.jsonTrip utf8fix) t = .ok s := by
  apply C10_roundtrip_reachable_topk utf8fix 2 2 3 exTKOps (by decide) (by decide)
  intro o ho
  simp only [exTKOps, List.mem_cons, List.not_mem_nil, or_false] at ho
  rcases ho with rfl | rfl | rfl | rfl <;> exact hascii _ (by simp)

/-! ## the image functions against the bytes the Go code wrote

  For one history per structure the positions/probes/register values were printed by the Go code
  (`getIndex`, `getPositions`, `getRegisterIndexAndCount` on the elements "a", "bb", "ccc", …)
  together with the hex dump of what `WriteTo` wrote; the model is run on the same abstract
  history and `enc… (imgOf… state)` is compared with that dump: same length, same big-endian
  value (`beVal`), i.e. the same bytes (kernel evaluation). -/

/-- `NewMemBloomFilterWithParameters(10, 0.1)` (48 bits, 3 hashes), Insert "a", "bb", "ccc" -/
example :
    let bs := encBloom (imgOfBloom (Bloom.run
      (fun (e : Nat) => if e = 0 then [3, 43, 20] else if e = 1 then [22, 33, 45] else [38, 39, 41])
      (Bloom.new 48 3) [.insert 0, .insert 1, .insert 2]))
    bs.length = 40 ∧ beVal bs =
      0x3000000000000000030000000000000030000000000000003000002ac200500008 := by
  decide +kernel

/-- `NewCountMinSketch(2, 3)`: Update("a", 5), Update("bb", 7), Merge of a sketch with
    Update("ccc", 4); `allSum` stays 12 -/
example :
    let h : CMSHist := .merge (.update (.update (.new 2 3) [0, 1] 5) [1, 0] 7) (.update (.new 2 3) [2, 0] 4)
    let bs := encCMS (imgOfCMS h.state h.ownSum)
    bs.length = 72 ∧ beVal bs =
      0x20000000000000003000000000000000c000000000000000500000000000000070000000000000004000000000000000b00000000000000050000000000000000 := by
  decide +kernel

/-- `NewHyperLogLog(128)`: Update "a" (register 2, byte 11), "bb" (register 2, byte 174), Merge of a
    sketch with "ccc" (register 1, byte 247); `numBytesPerHash = 7`, bias `0x3fe6e37ef20b947a`.
    (the dump is `…073fe6e37ef20b947a 00 f7 ae` followed by 125 zero registers) -/
example :
    let h : HLLHist := .merge (.update (.update (.new 128) 2 11) 2 174) (.update (.new 128) 1 247)
    let bs := encHLL (imgOfHLL h.state 7 0x3fe6e37ef20b947a)
    bs.length = 152 ∧ beVal bs = 0x8000000000000000073fe6e37ef20b947a00f7ae * 256 ^ 125 := by
  decide +kernel

/-- `NewCuckooFilterWithRetries(4, 3, 2, 3)`: Insert "w15", "w23", "w39", Remove "w23" (hole in
    the middle of bucket 1) -/
example :
    let bs := encCuckoo (imgOfCuckoo strBytes (runB (BucketMem.ops "") (Mem.empty "" 4 3 2 3)
      [.insert (bytes "w15") false true [], .insert (bytes "w23") false true [],
       .insert (bytes "w39") false true [], .remove (bytes "w23")]))
    bs.length = 204 ∧ beVal bs =
      0x400000000000000030000000000000002000000000000000200000000000000030000000000000003000000000000000000000000000000000000000000000000000000000000000000000000000000030000000000000002000000000000000231380000000000000000000000000000000231360000000000000003000000000000000000000000000000000000000000000000000000000000000000000000000000030000000000000000000000000000000000000000000000000000000000000000 := by
  decide +kernel

/-- `NewTopK(2, 1, 0.2)` (sketch 2 x 3): Insert ("a",2), ("bb",1), ("dddd",1), ("bb",2), ("e",1) —
    "bb" is re-inserted (heap.Remove + Push) and "dddd", "e" are refused -/
example :
    let ops : List TKOp :=
      [("a", [0, 1], 2), ("bb", [1, 0], 1), ("dddd", [1, 2], 1), ("bb", [1, 0], 2), ("e", [2, 1], 1)]
    let bs := encTopK (imgOfTopK strBytes (tkRun (tkInit 2 2 3) ops) 0x3ff0000000000000
      0x3fc999999999999a (tkTotal ops))
    bs.length = 139 ∧ beVal bs =
      0x23ff00000000000003fc999999999999a00000000000000020000000000000003000000000000000700000000000000020000000000000004000000000000000100000000000000030000000000000003000000000000000100000000000000020000000000000001610000000000000002000000000000000262620000000000000003 := by
  decide +kernel

end Gostatix.Codec
