/-
  C19 — structures sharing one Redis database do not interfere.

  Every Redis-backed structure keeps its state under keys derived from 16-letter random base
  keys (`util.GenerateRandomString(16)`).  `Handle.keysOf` lists, for each kind of structure,
  exactly the Redis keys its Go code builds (Model/Redis.lean).  Two handles of ANY kinds and
  parameters with different base keys have disjoint key sets (pure string facts); operations
  that read and write only their own key set (`SupportedOn K op`) can be interleaved in any way
  without changing any result or any structure's part of the final store; and the modelled
  scripts satisfy `SupportedOn (keysOf handle)` (cuckoo buckets: Props/C08Bucket.lean, sorted
  sets: Props/C08ZSet.lean, `hllEquals`: Props/C09Stable.lean, imports: Props/C19Import.lean).
  The hypothesis "base keys pairwise different" is the (probabilistic) assumption that the
  random generator does not repeat a 16-letter string; it is not a theorem.
-/
import Gostatix.Proofs.RedisKeys
import Gostatix.Proofs.RedisFrame
import Gostatix.Proofs.RedisFrameOps
namespace Gostatix.Redis

theorem C19_decimal_roundtrip (n : Nat) : parseDecimal (decimal n) = some n := parseDecimal_decimal n

theorem C19_decimal_is_toString (n : Nat) : decimal n = toString n := decimal_eq_toString n

theorem C19_keys_nodup (h : Handle) (hbase : ∀ b ∈ h.bases, IsBase b) (hne : h.bases.Nodup) :
    h.keysOf.Nodup := by
  unfold Handle.keysOf
  apply nodup_map_of_inj_on _ _ _ (h.descr_nodup hne)
  intro a ha b hb' e
  exact KeyD.render_inj (hbase _ (h.descr_base a ha)) (hbase _ (h.descr_base b hb')) e

/-- handles (any kinds, any parameters) with different 16-letter base keys share no Redis key. -/
theorem C19_disjoint (h₁ h₂ : Handle)
    (hb₁ : ∀ b ∈ h₁.bases, IsBase b) (hb₂ : ∀ b ∈ h₂.bases, IsBase b)
    (hne : ∀ b₁ ∈ h₁.bases, ∀ b₂ ∈ h₂.bases, b₁ ≠ b₂) :
    ∀ k, k ∈ h₁.keysOf → k ∉ h₂.keysOf := by
  intro k hk₁ hk₂
  obtain ⟨d₁, hd₁, rfl⟩ := List.mem_map.mp hk₁
  obtain ⟨d₂, hd₂, e⟩ := List.mem_map.mp hk₂
  have := KeyD.render_inj (hb₂ _ (h₂.descr_base d₂ hd₂)) (hb₁ _ (h₁.descr_base d₁ hd₁)) e
  subst this
  exact hne _ (h₁.descr_base _ hd₁) _ (h₂.descr_base _ hd₂) rfl

theorem C19_render_injective {d₁ d₂ : KeyD} (h₁ : IsBase d₁.baseOf) (h₂ : IsBase d₂.baseOf)
    (e : d₁.render = d₂.render) : d₁ = d₂ := KeyD.render_inj h₁ h₂ e

/-- the driver-facing `keysOfKind` returns exactly the `keysOf` of the handle (the parameters
    it leaves out do not influence the key set). -/
theorem C19_keysOfKind_bloom (h : BloomHandle) :
    keysOfKind "bloom" [] [h.bitsetKey, h.metadataKey] = some h.keysOf := rfl

theorem C19_keysOfKind_cuckoo (h : CuckooHandle) :
    keysOfKind "cuckoo" [h.n] [h.key, h.metadataKey] = some h.keysOf := rfl

theorem C19_keysOfKind_cms (h : CMSHandle) :
    keysOfKind "cms" [h.rows] [h.key, h.metadataKey] = some h.keysOf := rfl

theorem C19_keysOfKind_hll (h : HLLHandle) :
    keysOfKind "hll" [] [h.key, h.metadataKey] = some h.keysOf := rfl

theorem C19_keysOfKind_topk (h : TopKHandle) :
    keysOfKind "topk" [h.sketch.rows]
      [h.heapKey, h.metadataKey, h.sketch.key, h.sketch.metadataKey] = some h.keysOf := rfl

/-- `n` structures (index type `ι`) on pairwise disjoint key sets; `tr` is any sequence of
    operations, each tagged with the structure it belongs to and supported on that structure's
    keys.  For every structure `i`: its operations return, inside `tr`, exactly what they return
    when run alone from the same initial store, and its part of the final store is the same. -/
theorem C19_noninterference_n {ι : Type} [DecidableEq ι] {ρ : Type} (K : ι → List String)
    (hdisj : ∀ i j, i ≠ j → ∀ k ∈ K i, k ∉ K j)
    (tr : List (ι × Op ρ)) (hsup : ∀ p ∈ tr, SupportedOn (K p.1) p.2) (s : Store) (i : ι) :
    resultsOf i (runTagged tr s).2 = (runOps (opsOf i tr) s).2 ∧
    ∀ k ∈ K i, (runTagged tr s).1 k = (runOps (opsOf i tr) s).1 k :=
  noninterference_aux K hdisj tr hsup i s s (fun _ _ => rfl)

theorem C19_noninterference {ρ : Type} (K₁ K₂ : List String) (hdisj : ∀ k ∈ K₁, k ∉ K₂)
    (ops₁ ops₂ : List (Op ρ))
    (h₁ : ∀ op ∈ ops₁, SupportedOn K₁ op) (h₂ : ∀ op ∈ ops₂, SupportedOn K₂ op)
    (tr : List (Bool × Op ρ)) (htr : Interleaving ops₁ ops₂ tr) (s : Store) :
    (resultsOf true (runTagged tr s).2 = (runOps ops₁ s).2 ∧
      ∀ k ∈ K₁, (runTagged tr s).1 k = (runOps ops₁ s).1 k) ∧
    (resultsOf false (runTagged tr s).2 = (runOps ops₂ s).2 ∧
      ∀ k ∈ K₂, (runTagged tr s).1 k = (runOps ops₂ s).1 k) := by
  let K : Bool → List String := fun b => if b then K₁ else K₂
  have hd : ∀ i j, i ≠ j → ∀ k ∈ K i, k ∉ K j := by
    intro i j hij k hk hk'
    cases i <;> cases j <;> grind
  have hsup : ∀ p ∈ tr, SupportedOn (K p.1) p.2 := by
    rintro ⟨b, op⟩ hp
    have := htr.mem _ hp
    cases b
    · exact h₂ op (this.2 rfl)
    · exact h₁ op (this.1 rfl)
  have e := htr.opsOf
  have r₁ := C19_noninterference_n K hd tr hsup s true
  have r₂ := C19_noninterference_n K hd tr hsup s false
  rw [e.1] at r₁
  rw [e.2] at r₂
  exact ⟨r₁, r₂⟩

theorem C19_noninterference_handles {ρ : Type} (g₁ g₂ : Handle)
    (hb₁ : ∀ b ∈ g₁.bases, IsBase b) (hb₂ : ∀ b ∈ g₂.bases, IsBase b)
    (hne : ∀ b₁ ∈ g₁.bases, ∀ b₂ ∈ g₂.bases, b₁ ≠ b₂)
    (ops₁ ops₂ : List (Op ρ))
    (h₁ : ∀ op ∈ ops₁, SupportedOn g₁.keysOf op) (h₂ : ∀ op ∈ ops₂, SupportedOn g₂.keysOf op)
    (tr : List (Bool × Op ρ)) (htr : Interleaving ops₁ ops₂ tr) (s : Store) :
    (resultsOf true (runTagged tr s).2 = (runOps ops₁ s).2 ∧
      ∀ k ∈ g₁.keysOf, (runTagged tr s).1 k = (runOps ops₁ s).1 k) ∧
    (resultsOf false (runTagged tr s).2 = (runOps ops₂ s).2 ∧
      ∀ k ∈ g₂.keysOf, (runTagged tr s).1 k = (runOps ops₂ s).1 k) :=
  C19_noninterference _ _ (C19_disjoint g₁ g₂ hb₁ hb₂ hne) ops₁ ops₂ h₁ h₂ tr htr s

/-- an import writing the fresh key set `K` changes no other key — none of the exporter's keys
    `Kexp` when the two sets are disjoint — and every later answer of the exporter is the same. -/
theorem C19_import_new_keys {ρ ρ' : Type} (K Kexp : List String) (imp : Op ρ)
    (hsup : SupportedOn K imp) (hdisj : ∀ k ∈ Kexp, k ∉ K) (s : Store) :
    (∀ k, k ∉ K → (imp s).1 k = s k) ∧
    (∀ k ∈ Kexp, (imp s).1 k = s k) ∧
    (∀ op : Op ρ', SupportedOn Kexp op → (op (imp s).1).2 = (op s).2) := by
  refine ⟨fun k hk => hsup.1 s k hk, fun k hk => hsup.1 s k (hdisj k hk), ?_⟩
  intro op hop
  exact (hop.2 _ _ (fun k hk => hsup.1 s k (hdisj k hk))).1

theorem C19_frame_cms_init (h : CMSHandle) : SupportedOn h.keysOf (cmsInit h) :=
  supported_cmsInit_on _ h fun _ hr => h.rowKey_mem hr

/-- `pos` is `getPositions(data)`, one column per row (`len(pos) = rows`). -/
theorem C19_frame_cms_update (h : CMSHandle) (pos : List Nat) (count : Nat)
    (hlen : pos.length ≤ h.rows) : SupportedOn h.keysOf (cmsUpdate h pos count) :=
  supported_cmsUpdate_on _ h pos count hlen fun _ hr => h.rowKey_mem hr

theorem C19_frame_cms_count (h : CMSHandle) (pos : List Nat) (hlen : pos.length ≤ h.rows) :
    SupportedOn h.keysOf (cmsCount h pos) :=
  supported_cmsCount_on _ h pos hlen fun _ hr => h.rowKey_mem hr

/-- `Merge` reads the argument's rows and writes the receiver's. -/
theorem C19_frame_cms_merge (h₁ h₂ : CMSHandle) :
    SupportedOn (h₁.keysOf ++ h₂.keysOf) (cmsMerge h₁ h₂) :=
  supported_cmsMerge_on _ h₁ h₂ (fun _ hr => List.mem_append_left _ (h₁.rowKey_mem hr))
    (fun _ hr => List.mem_append_right _ (h₂.rowKey_mem hr))

theorem C19_frame_cms_create (h : CMSHandle) : SupportedOn h.keysOf (cmsCreate h) :=
  supported_HSET h.metadataKey_mem _

theorem C19_frame_hll_init (h : HLLHandle) : SupportedOn h.keysOf (hllInit h) :=
  supported_hllInit_on _ h h.key_mem

theorem C19_frame_hll_update (h : HLLHandle) (idx val : Nat) :
    SupportedOn h.keysOf (hllUpdate h idx val) := supported_hllUpdate_on _ h idx val h.key_mem

theorem C19_frame_hll_merge (h g : HLLHandle) :
    SupportedOn (h.keysOf ++ g.keysOf) (hllMerge h g) :=
  supported_hllMerge_on _ h g (List.mem_append_left _ h.key_mem) (List.mem_append_right _ g.key_mem)

theorem C19_frame_bloom_insert (h : BloomHandle) (ps : List Nat) :
    SupportedOn h.keysOf (bloomInsert h ps) := supported_bloomInsertLoop _ _ h.bitsetKey_mem ps

theorem C19_frame_bloom_lookup (h : BloomHandle) (ps : List Nat) :
    SupportedOn h.keysOf (bloomLookup h ps) := supported_bloomLookupLoop _ _ h.bitsetKey_mem ps

section examples

def exCMS₁ : CMSHandle := { rows := 3, cols := 4, key := "aaaaaaaaaaaaaaaa", metadataKey := "aaaaaaaaaaaaaaab" }
def exCMS₂ : CMSHandle := { rows := 12, cols := 4, key := "aaaaaaaaaaaaaaac", metadataKey := "aaaaaaaaaaaaaaad" }
def exCuckoo : CuckooHandle :=
  { n := 11, bsize := 4, fpl := 2, retries := 500, key := "aaaaaaaaaaaaaaae", metadataKey := "aaaaaaaaaaaaaaaf" }
def exTopK : TopKHandle :=
  { k := 5, errorRate := "0.01", accuracy := "0.01", heapKey := "Zaaaaaaaaaaaaaaa",
    metadataKey := "Zaaaaaaaaaaaaaab", sketch := exCMS₂ }

example : IsBase "aaaaaaaaaaaaaaaa" := by decide +kernel
example : ¬ IsBase "aaaaaaaaaaaaaaa" := by decide +kernel          -- 15 letters
example : ¬ IsBase "aaaaaaaaaaaaaaa_" := by decide +kernel         -- not a letter
example : ¬ IsBase "aaaaaaaaaaaaaaa1" := by decide +kernel

example : (Handle.cuckoo exCuckoo).keysOf.Nodup :=
  C19_keys_nodup _ (by decide +kernel) (by decide +kernel)

example : ∀ k, k ∈ (Handle.cms exCMS₁).keysOf → k ∉ (Handle.cuckoo exCuckoo).keysOf :=
  C19_disjoint _ _ (by decide +kernel) (by decide +kernel) (by decide +kernel)

example : ∀ k, k ∈ (Handle.cms exCMS₁).keysOf → k ∉ (Handle.topk exTopK).keysOf :=
  C19_disjoint _ _ (by decide +kernel) (by decide +kernel) (by decide +kernel)

/-- the key lists of the example handles, decided together so that each key is spelled once. -/
theorem exKeys_facts :
    (exCMS₁.keysOf =
      ["aaaaaaaaaaaaaaab", "aaaaaaaaaaaaaaaa0", "aaaaaaaaaaaaaaaa1", "aaaaaaaaaaaaaaaa2"]) ∧
    (cuckooBucketKey "aaaaaaaaaaaaaaae" 10 = "cuckoo_aaaaaaaaaaaaaaae_bucket_10") ∧
    (cuckooLenKey "aaaaaaaaaaaaaaae" 10 = "cuckoo_aaaaaaaaaaaaaaae_bucket_10_len") ∧
    ((Handle.cuckoo exCuckoo).keysOf.length = 24) ∧
    (keysOfKind "cms" [3] ["aaaaaaaaaaaaaaaa", "aaaaaaaaaaaaaaab"] = some exCMS₁.keysOf) ∧
    (keysOfKind "hll" [] ["aaaaaaaaaaaaaaaa", "aaaaaaaaaaaaaaab"] =
      some ["aaaaaaaaaaaaaaaa", "aaaaaaaaaaaaaaab"]) ∧
    (keysOfKind "cuckoo" [2] ["k", "m"] =
      some ["k", "m", "cuckoo_k_bucket_0", "cuckoo_k_bucket_1", "cuckoo_k_bucket_0_len",
      "cuckoo_k_bucket_1_len"]) ∧
    (keysOfKind "cms" [] ["a", "b"] = none) ∧
    (keysOfKind "nope" [] [] = none) ∧
    (cmsRowKey "x" 10 = cmsRowKey "x1" 0) ∧
    (let a : CMSHandle := { rows := 11, cols := 1, key := "x", metadataKey := "m" }
      let b : CMSHandle := { rows := 1, cols := 1, key := "x1", metadataKey := "n" }
      "x10" ∈ a.keysOf ∧ "x10" ∈ b.keysOf) := by
  decide +kernel

example : exCMS₁.keysOf =
    ["aaaaaaaaaaaaaaab", "aaaaaaaaaaaaaaaa0", "aaaaaaaaaaaaaaaa1", "aaaaaaaaaaaaaaaa2"] := exKeys_facts.1

example : cuckooBucketKey "aaaaaaaaaaaaaaae" 10 = "cuckoo_aaaaaaaaaaaaaaae_bucket_10" := exKeys_facts.2.1
example : cuckooLenKey "aaaaaaaaaaaaaaae" 10 = "cuckoo_aaaaaaaaaaaaaaae_bucket_10_len" := exKeys_facts.2.2.1
example : (Handle.cuckoo exCuckoo).keysOf.length = 24 := exKeys_facts.2.2.2.1
example : keysOfKind "cms" [3] ["aaaaaaaaaaaaaaaa", "aaaaaaaaaaaaaaab"] = some exCMS₁.keysOf := exKeys_facts.2.2.2.2.1
example : keysOfKind "hll" [] ["aaaaaaaaaaaaaaaa", "aaaaaaaaaaaaaaab"] =
    some ["aaaaaaaaaaaaaaaa", "aaaaaaaaaaaaaaab"] := exKeys_facts.2.2.2.2.2.1
example : keysOfKind "cuckoo" [2] ["k", "m"] =
    some ["k", "m", "cuckoo_k_bucket_0", "cuckoo_k_bucket_1", "cuckoo_k_bucket_0_len",
      "cuckoo_k_bucket_1_len"] := exKeys_facts.2.2.2.2.2.2.1
example : keysOfKind "cms" [] ["a", "b"] = none := exKeys_facts.2.2.2.2.2.2.2.1
example : keysOfKind "nope" [] [] = none := exKeys_facts.2.2.2.2.2.2.2.2.1

/-- the `IsBase` hypothesis matters: without it two sketches CAN collide, because the row
    key is `key .. row` with no separator (sketch "x" row 10 and sketch "x1" row 0). -/
example : cmsRowKey "x" 10 = cmsRowKey "x1" 0 := exKeys_facts.2.2.2.2.2.2.2.2.2.1

example :
    let a : CMSHandle := { rows := 11, cols := 1, key := "x", metadataKey := "m" }
    let b : CMSHandle := { rows := 1, cols := 1, key := "x1", metadataKey := "n" }
    "x10" ∈ a.keysOf ∧ "x10" ∈ b.keysOf := exKeys_facts.2.2.2.2.2.2.2.2.2.2

def exTrace : List (Bool × Op (Option Nat)) :=
  [ (true,  cmsInit exCMS₁ >>=ₛ fun _ => Script.pure 0),
    (false, cmsInit exCMS₂ >>=ₛ fun _ => Script.pure 0),
    (true,  cmsUpdate exCMS₁ [1, 2, 3] 5 >>=ₛ fun _ => Script.pure 0),
    (false, cmsUpdate exCMS₂ [1, 2, 3] 7 >>=ₛ fun _ => Script.pure 0),
    (false, cmsCount exCMS₂ [1, 2, 3]),
    (true,  cmsCount exCMS₁ [1, 2, 3]) ]

/-- the facts about the run of `exTrace`, decided together so that it is evaluated once. -/
theorem exTrace_runs :
    (resultsOf true (runTagged exTrace Store.empty).2 = [some 0, some 0, some 5]) ∧
    (resultsOf false (runTagged exTrace Store.empty).2 = [some 0, some 0, some 7]) ∧
    ((runOps (opsOf true exTrace) Store.empty).2 = [some 0, some 0, some 5]) := by
  decide +kernel

example : resultsOf true (runTagged exTrace Store.empty).2 = [some 0, some 0, some 5] := exTrace_runs.1
example : resultsOf false (runTagged exTrace Store.empty).2 = [some 0, some 0, some 7] := exTrace_runs.2.1
example : (runOps (opsOf true exTrace) Store.empty).2 = [some 0, some 0, some 5] := exTrace_runs.2.2

end examples

end Gostatix.Redis
