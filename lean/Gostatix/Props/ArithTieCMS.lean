/-
  ArithTieCMS — arithmetic tie, count-min sketch `getPositions`: the definitions of Generated/Arith.lean
  agree with the hand-written `Nat` model for ALL inputs.  See Props/ArithTie.lean.
-/
import Gostatix.Generated.Arith
import Gostatix.Model.CMS
-- the simp sets are wider than today's generated terms need, so that an equivalent spelling of
-- the Go source (operands swapped, a local introduced) keeps the proofs valid
set_option linter.unusedSimpArgs false

namespace Gostatix.ArithTie
open Gostatix.Generated.Arith Gostatix.GoArith

/-- `positions[c] = uint((hash1 + uint64(c)*hash2) % uint64(cms.columns))` is `CMS.position`. -/
theorem tie_cmsPosition (h1 h2 c cols : UInt64) (_hc : cols ≠ 0) :
    (cmsPosition h1 h2 c cols).toNat = CMS.position h1.toNat h2.toNat c.toNat cols.toNat := by
  simp only [cmsPosition, CMS.position, UInt64.toNat_mod, UInt64.toNat_add, UInt64.toNat_mul,
    Nat.add_mod_mod, Nat.mod_add_mod, Nat.mul_comm]

/-- the whole row list of `getPositions` (loop variable `c = 0 .. rows-1`, `rows ≤ 2^64`). -/
theorem tie_cmsPositionsOf (h1 h2 cols : UInt64) (rows : Nat) (hr : rows ≤ 2 ^ 64) (hc : cols ≠ 0) :
    (List.range rows).map (fun c => (cmsPosition h1 h2 (UInt64.ofNat c) cols).toNat)
      = CMS.positionsOf h1.toNat h2.toNat rows cols.toNat := by
  unfold CMS.positionsOf
  apply List.map_congr_left
  intro c hcr
  have hlt : c < UInt64.size := by
    have := List.mem_range.1 hcr
    show c < 2 ^ 64
    omega
  rw [tie_cmsPosition _ _ _ _ hc, UInt64.toNat_ofNat_of_lt' hlt]

example : (cmsPosition 18446744073709551615 3 2 10).toNat = 5 := by decide +kernel
example : CMS.position 18446744073709551615 3 2 10 = 5 := by decide +kernel


end Gostatix.ArithTie
