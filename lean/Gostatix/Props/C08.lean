/-
  C08 — Redis-backed and in-memory variants answer identically.

  The Redis variants keep their state in Redis lists/strings and run Lua scripts; Model/Redis.lean
  transcribes those scripts command by command on a store.  `absCMS`/`absHLL`/`absBloom` read the
  in-memory state (Model/CMS.lean, HLL.lean, Bloom.lean) back from a store.  Each theorem says:
  on a store that represents the in-memory state `c`, the script succeeds, returns the in-memory
  operation's answer, and leaves a store that represents the in-memory operation's new state.

  Scope: count-min sketch (init, update, count, merge), HyperLogLog registers (init, update,
  merge, equals), Bloom bitset (init, insert, lookup).  Numbers are decimal strings
  (`C19_decimal_roundtrip`); counters are unbounded naturals here, while Lua numbers are float64
  (exact below 2^53) and the Go counters uint64 — the correspondence suite ties that at run time.
-/
import Gostatix.Proofs.CMS
import Gostatix.Proofs.RedisCMSMerge
import Gostatix.Proofs.RedisHLL
import Gostatix.Proofs.RedisBloom
namespace Gostatix.Redis

/-- `initMatrix` builds the all-zero matrix of `CMS.new` (the constructor demands `columns > 0`). -/
theorem C08_cms_init (h : CMSHandle) (s : Store) (hcols : 0 < h.cols) :
    ∃ s', cmsInit h s = (s', some ()) ∧ absCMS s' h = some (CMS.new h.rows h.cols) := by
  obtain ⟨s', hrun, hrows, _⟩ := cmsInitLoop_spec h.key h.cols hcols h.rows 0 s
  refine ⟨s', hrun, (absCMS_eq_some_iff _ _ _).mpr ⟨rfl, rfl, ?_, hrows⟩⟩
  simp [CMS.new]

/-- `Update`: `pos = getPositions(data)` has one in-range column per row. -/
theorem C08_cms_update (h : CMSHandle) (s : Store) (c : CMS) (pos : List Nat) (count : Nat)
    (habs : absCMS s h = some c) (hlen : pos.length ≤ h.rows) (hpos : ∀ p ∈ pos, p < h.cols) :
    ∃ s', cmsUpdate h pos count s = (s', some ()) ∧ absCMS s' h = some (c.update pos count) := by
  obtain ⟨h1, h2, h3, h4⟩ := (absCMS_eq_some_iff _ _ _).mp habs
  obtain ⟨s', hrun, hrows, _⟩ :=
    cmsUpdateLoop_spec h.key h.cols count pos 0 s c.m (by omega) h4 hpos
  refine ⟨s', hrun, (absCMS_eq_some_iff _ _ _).mpr ⟨h1, h2, ?_, hrows⟩⟩
  simp only [CMS.update, CMS.updRows_length]; exact h3

theorem C08_cms_count (h : CMSHandle) (s : Store) (c : CMS) (pos : List Nat)
    (habs : absCMS s h = some c) (hlen : pos.length ≤ h.rows) (hpos : ∀ p ∈ pos, p < h.cols) :
    cmsCount h pos s = (s, some (c.count pos)) := by
  obtain ⟨h1, h2, h3, h4⟩ := (absCMS_eq_some_iff _ _ _).mp habs
  exact cmsCount_spec h.key h.cols pos s c.m (by omega) h4 hpos

/-- `Merge`: same error cases (rows, then columns); on success the receiver represents the
    cell-wise sum and the argument is unchanged.  `hd`: no row key of one is a row key of the
    other (true for distinct 16-letter keys, `C08_cms_merge_base`). -/
theorem C08_cms_merge (h₁ h₂ : CMSHandle) (s : Store) (a b : CMS)
    (ha : absCMS s h₁ = some a) (hb : absCMS s h₂ = some b) (hcols : 0 < h₁.cols)
    (hd : ∀ i j, i < h₁.rows → j < h₂.rows → cmsRowKey h₁.key i ≠ cmsRowKey h₂.key j) :
    match CMS.merge a b with
    | .ok c => ∃ s', cmsMerge h₁ h₂ s = (s', some ()) ∧ absCMS s' h₁ = some c ∧ absCMS s' h₂ = some b
    | .err => cmsMerge h₁ h₂ s = (s, none) := by
  obtain ⟨a1, a2, a3, a4⟩ := (absCMS_eq_some_iff _ _ _).mp ha
  obtain ⟨b1, b2, b3, b4⟩ := (absCMS_eq_some_iff _ _ _).mp hb
  unfold CMS.merge cmsMerge
  -- both sides test the same thing: the sketches have the dimensions of their handles
  rw [a1, b1, a2, b2]
  by_cases hr : h₁.rows ≠ h₂.rows
  · rw [if_pos hr, if_pos hr]; rfl
  rw [if_neg hr, if_neg hr]
  by_cases hc : h₁.cols ≠ h₂.cols
  · rw [if_pos hc, if_pos hc]; rfl
  rw [if_neg hc, if_neg hc]
  have hr := Decidable.not_not.mp hr
  have hc := Decidable.not_not.mp hc
  obtain ⟨s', hrun, hrows, hframe⟩ :=
    cmsMergeLoop_spec h₁.key h₂.key h₁.cols hcols h₁.rows (fun i j hi hj => hd i j hi (hr ▸ hj))
      h₁.rows 0 s a.m b.m (Nat.le_of_eq (Nat.zero_add _)) a3 (b3.trans hr.symm) a4 (hc ▸ b4)
  refine ⟨s', hrun, (absCMS_eq_some_iff _ _ _).mpr ⟨rfl, rfl, (CMS.addRows_length _ _).trans a3, hrows⟩,
    (absCMS_eq_some_iff _ _ _).mpr ⟨b1, b2, b3, b4.congr' fun j _ hj => hframe _ fun i _ hi e => ?_⟩⟩
  rw [Nat.zero_add] at hi hj
  exact hd i j hi (b3 ▸ hj) e.symm

theorem C08_cms_merge_base (h₁ h₂ : CMSHandle) (s : Store) (a b : CMS)
    (ha : absCMS s h₁ = some a) (hb : absCMS s h₂ = some b) (hcols : 0 < h₁.cols)
    (hb₁ : IsBase h₁.key) (hb₂ : IsBase h₂.key) (hne : h₁.key ≠ h₂.key) :
    match CMS.merge a b with
    | .ok c => ∃ s', cmsMerge h₁ h₂ s = (s', some ()) ∧ absCMS s' h₁ = some c ∧ absCMS s' h₂ = some b
    | .err => cmsMerge h₁ h₂ s = (s, none) :=
  C08_cms_merge h₁ h₂ s a b ha hb hcols (fun i j _ _ => cmsRowKey_ne_of_base hb₁ hb₂ hne i j)

/-- a whole history of updates: every script succeeds and the store represents the in-memory
    sketch after the same updates (so every later `Count` agrees, by `C08_cms_count`). -/
theorem C08_cms_history (h : CMSHandle) (ups : List (List Nat × Nat))
    (hwf : ∀ u ∈ ups, u.1.length ≤ h.rows ∧ ∀ p ∈ u.1, p < h.cols) :
    ∀ (s : Store) (c : CMS), absCMS s h = some c →
    ∃ s', runOps (ups.map fun u => cmsUpdate h u.1 u.2) s = (s', ups.map fun _ => some ()) ∧
      absCMS s' h = some (ups.foldl (fun c u => c.update u.1 u.2) c) := by
  induction ups with
  | nil => intro s c habs; exact ⟨s, rfl, habs⟩
  | cons u ups ih =>
    intro s c habs
    obtain ⟨hl, hp⟩ := hwf u List.mem_cons_self
    obtain ⟨s₁, hrun, habs₁⟩ := C08_cms_update h s c u.1 u.2 habs hl hp
    obtain ⟨s', hrun', habs'⟩ := ih (fun v hv => hwf v (List.mem_cons_of_mem _ hv)) s₁ _ habs₁
    refine ⟨s', ?_, habs'⟩
    simp only [List.map_cons, runOps, hrun, hrun']

/-- `initRegisters` on a fresh key (`m` a power of two ≥ 2; for `m = 1` the script pushes nothing
    and Redis rejects the `LPUSH`). -/
theorem C08_hll_init (h : HLLHandle) (s : Store) (hfresh : s h.key = none)
    (hm : 0 < h.m) (heven : h.m % 2 = 0) :
    ∃ s', hllInit h s = (s', some ()) ∧ absHLL s' h = some (HLL.new h.m) ∧
      ∀ k, k ≠ h.key → s' k = s k := by
  have h2 : h.m / 2 + h.m / 2 = h.m := by omega
  have hne : List.replicate (h.m / 2) (decimal 0) ≠ [] :=
    fun e => by have := congrArg List.length e; simp at this; omega
  let zs := List.replicate (h.m / 2) (decimal 0)
  refine ⟨(s.set h.key (.list zs.reverse)).set h.key (.list (zs.reverse ++ zs.reverse)), ?_, ?_,
    fun k hk => (Store.set_ne _ _ hk).trans (Store.set_ne _ _ hk)⟩
  · unfold hllInit
    rw [Script.bind_ok (cmdLPUSH_none hfresh hne)]
    exact cmdLPUSH_list (Store.set_self _ _ _) hne
  · -- the two halves pushed make `m` zeros because `m` is even
    refine (absHLL_eq_some_iff _ _ _).mpr ⟨rfl, _, Store.set_self _ _ _, ?_, ?_⟩
    · show (zs.reverse ++ zs.reverse).length = h.m
      rw [List.length_append, List.length_reverse, List.length_replicate, h2]
    · show (zs.reverse ++ zs.reverse).map parseDecimal = _
      rw [List.reverse_replicate, List.replicate_append_replicate, h2, List.map_replicate,
        parseDecimal_decimal, HLL.new, List.map_replicate]

theorem C08_hll_update (h : HLLHandle) (s : Store) (c : HLL) (idx val : Nat)
    (habs : absHLL s h = some c) (hidx : idx < h.m) :
    ∃ s' c', HLL.update c idx val = .ok c' ∧ hllUpdate h idx val s = (s', some ()) ∧
      absHLL s' h = some c' ∧ ∀ k, k ≠ h.key → s' k = s k := by
  obtain ⟨hm, l, hl, hlen, hmap⟩ := (absHLL_eq_some_iff _ _ _).mp habs
  have hrl : c.regs.length = h.m := RowIs.length ⟨l, hl, hlen, hmap⟩
  have hil : idx < l.length := by rw [hlen]; exact hidx
  have hv : parseDecimal (if val > c.regs.getD idx 0 then decimal val else l[idx]) =
      some (max (c.regs.getD idx 0) val) := by
    split
    · rw [parseDecimal_decimal, Nat.max_eq_right (Nat.le_of_lt ‹_›)]
    · rw [getElem_parse hmap hil, Nat.max_eq_left (Nat.le_of_not_lt ‹_›)]
  refine ⟨s.set h.key (.list (l.set idx (if val > c.regs.getD idx 0 then decimal val else l[idx]))),
    { c with regs := modAt c.regs idx (fun o => max o val) }, ?_, ?_, ?_, ?_⟩
  · unfold HLL.update; rw [if_pos (by rw [hrl]; exact hidx)]
  · unfold hllUpdate
    rw [lindex_number hl hmap hil]
    exact cmdLSET_list hl hil _
  · refine (absHLL_eq_some_iff _ _ _).mpr ⟨hm, _, Store.set_self _ _ _, by simpa using hlen, ?_⟩
    exact set_map_parse hmap idx (fun o => max o val) hv hil
  · intro k hk; exact Store.set_ne _ _ hk

/-- where the two variants differ in kind (not in state): an out-of-range register index makes
    the in-memory variant panic and the Redis variant return an error; neither writes. -/
theorem C08_hll_update_out_of_range (h : HLLHandle) (s : Store) (c : HLL) (idx val : Nat)
    (habs : absHLL s h = some c) (hidx : h.m ≤ idx) :
    HLL.update c idx val = .panic ∧ hllUpdate h idx val s = (s, none) := by
  obtain ⟨hm, l, hl, hlen, hmap⟩ := (absHLL_eq_some_iff _ _ _).mp habs
  have hrl : c.regs.length = h.m := RowIs.length ⟨l, hl, hlen, hmap⟩
  constructor
  · unfold HLL.update; rw [if_neg (by rw [hrl]; exact Nat.not_lt.mpr hidx)]
  · unfold hllUpdate
    rw [Script.bind_ok (cmdLINDEX_list hl idx), List.getElem?_eq_none (by rw [hlen]; exact hidx)]
    rfl

theorem C08_hll_merge (h g : HLLHandle) (s : Store) (a b : HLL)
    (ha : absHLL s h = some a) (hb : absHLL s g = some b) (hm : 0 < h.m) :
    match HLL.merge a b with
    | .ok c => ∃ s', hllMerge h g s = (s', some ()) ∧ absHLL s' h = some c ∧
        (h.key ≠ g.key → absHLL s' g = some b) ∧ ∀ k, k ≠ h.key → s' k = s k
    | .err => hllMerge h g s = (s, none)
    | .panic => False := by
  obtain ⟨am, l1, hl1, hlen1, hmap1⟩ := (absHLL_eq_some_iff _ _ _).mp ha
  obtain ⟨bm, l2, hl2, hlen2, hmap2⟩ := (absHLL_eq_some_iff _ _ _).mp hb
  unfold HLL.merge hllMerge
  rw [am, bm]
  by_cases hmm : h.m ≠ g.m
  · rw [if_pos hmm, if_pos hmm]; rfl
  · rw [if_neg hmm, if_neg hmm]
    obtain ⟨l', hrun, hlen', hmap'⟩ := hllMergeVals_spec h.m l1 l2 a.regs b.regs s hlen1
      (hlen2.trans (Decidable.not_not.mp hmm).symm) hmap1 hmap2
    have hne : l' ≠ [] := by rintro rfl; exact Nat.ne_of_lt hm hlen'
    have hs' : ∀ k, k ≠ h.key → ((s.del h.key).set h.key (.list l')) k = s k :=
      fun k hk => by rw [Store.set_ne _ _ hk, Store.del_ne _ hk]
    refine ⟨_, ?_, ?_, ?_, hs'⟩
    · unfold hllMergeScript
      rw [Script.bind_ok (Script.try_ok (cmdLRANGE_list hl1)),
        Script.bind_ok (Script.try_ok (cmdLRANGE_list hl2)), Option.getD_some, Option.getD_some,
        Script.bind_ok hrun,
        Script.bind_ok (Script.try_ok (rfl : cmdDEL h.key s = (s.del h.key, some ()))),
        Script.bind_ok (Script.try_ok (cmdRPUSH_none (Store.del_self _ _) hne))]
      rfl
    · exact (absHLL_eq_some_iff _ _ _).mpr ⟨rfl, l', Store.set_self _ _ _, hlen', hmap'⟩
    · intro hk
      exact (absHLL_eq_some_iff _ _ _).mpr ⟨bm, l2, (hs' _ (Ne.symm hk)).trans hl2, hlen2, hmap2⟩

theorem C08_hll_equals (h g : HLLHandle) (s : Store) (a b : HLL)
    (ha : absHLL s h = some a) (hb : absHLL s g = some b) :
    hllEquals h g s = (s, some (HLL.equals a b)) := by
  obtain ⟨am, l1, hl1, hlen1, hmap1⟩ := (absHLL_eq_some_iff _ _ _).mp ha
  obtain ⟨bm, l2, hl2, hlen2, hmap2⟩ := (absHLL_eq_some_iff _ _ _).mp hb
  unfold HLL.equals hllEquals
  rw [am, bm]
  by_cases hmm : h.m ≠ g.m
  · rw [if_pos hmm, if_pos hmm]; rfl
  · rw [if_neg hmm, if_neg hmm, Script.bind_ok (Script.try_ok (cmdLRANGE_list hl1)),
      Script.bind_ok (Script.try_ok (cmdLRANGE_list hl2)), Option.getD_some, Option.getD_some,
      hllCompareVals_spec h.m l1 l2 a.regs b.regs hlen1
        (hlen2.trans (Decidable.not_not.mp hmm).symm) hmap1 hmap2]
    rfl

theorem C08_bloom_init (h : BloomHandle) (s : Store) (hsize : 1 ≤ h.size) (hk : 1 ≤ h.k) :
    ∃ s', bloomInit h s = (s', some ()) ∧ absBloom s' h = some (Bloom.new h.size h.k) ∧
      ∀ k, k ≠ h.bitsetKey → s' k = s k := by
  refine ⟨s.set h.bitsetKey (.str (List.replicate h.size 0)), rfl, ?_, fun k hk => Store.set_ne _ _ hk⟩
  have h8 : h.size ≤ 8 * h.size := Nat.le_mul_of_pos_left _ (by decide)
  refine (absBloom_eq_some_iff _ _ _).mpr ⟨_, Store.set_self _ _ _,
    by rw [List.length_replicate]; exact h8, ?_⟩
  rw [bitsOf_zeros, List.take_replicate, Nat.min_eq_left h8, Bloom.new, Nat.max_eq_left hsize,
    Nat.max_eq_left hk]

/-- `SETBIT n` ↔ bit `n` of the in-memory array (byte `n/8`, bit `7 - n%8`), for in-range probes
    (`getIndex` reduces modulo `size`). -/
theorem C08_bloom_insert (h : BloomHandle) (s : Store) (b : Bloom) (ps : List Nat)
    (habs : absBloom s h = some b) (hps : ∀ p ∈ ps, p < h.size) :
    ∃ s', bloomInsert h ps s = (s', some ()) ∧ absBloom s' h = some (b.insert ps) ∧
      ∀ k, k ≠ h.bitsetKey → s' k = s k := by
  obtain ⟨bytes, hs, hle, rfl⟩ := (absBloom_eq_some_iff _ _ _).mp habs
  obtain ⟨s', bytes', hrun, hs', hlen', hbits, hframe⟩ :=
    bloomInsertLoop_spec h.bitsetKey ps s bytes hs (fun p hp => by have := hps p hp; omega)
  refine ⟨s', hrun, (absBloom_eq_some_iff _ _ _).mpr ⟨bytes', hs', by omega, ?_⟩, hframe⟩
  simp only [Bloom.insert, hbits, setBits_take]

theorem C08_bloom_lookup (h : BloomHandle) (s : Store) (b : Bloom) (ps : List Nat)
    (habs : absBloom s h = some b) (hps : ∀ p ∈ ps, p < h.size) :
    bloomLookup h ps s = (s, some (b.lookup ps)) := by
  obtain ⟨bytes, hs, hle, rfl⟩ := (absBloom_eq_some_iff _ _ _).mp habs
  unfold bloomLookup
  rw [bloomLookupLoop_spec h.bitsetKey s bytes hs ps]
  congr 2
  unfold Bloom.lookup
  apply all_congr_mem
  intro p hp
  have hp' := hps p hp
  simp only [List.getD_eq_getElem?_getD, List.getElem?_take, hp', if_true]
  rw [← List.getD_eq_getElem?_getD, bitsOf_getD bytes p (by omega)]

theorem C08_bloom_setbit_getbit (bytes : List UInt8) (n p : Nat) (hn : n < 8 * bytes.length) :
    getBit (setBit bytes n) p = (decide (p = n) || getBit bytes p) :=
  getBit_setBit bytes n p hn

section examples

def exH : CMSHandle := { rows := 2, cols := 3, key := "aaaaaaaaaaaaaaaa", metadataKey := "aaaaaaaaaaaaaaab" }
def exS₀ : Store := (cmsInit exH Store.empty).1
def exS₁ : Store := (cmsUpdate exH [1, 2] 5 exS₀).1
def exS₂ : Store := (cmsUpdate exH [1, 0] 2 exS₁).1

/-- the facts about the stores `exS₀` … `exS₂`,
    decided together so that the chain is evaluated once. -/
theorem exS_runs :
    (exS₀ "aaaaaaaaaaaaaaaa0" = some (.list ["0", "0", "0"])) ∧
    (absCMS exS₀ exH = some (CMS.new 2 3)) ∧
    (absCMS exS₁ exH = some { rows := 2, cols := 3, m := [[0, 5, 0], [0, 0, 5]] }) ∧
    (exS₂ "aaaaaaaaaaaaaaaa0" = some (.list ["0", "7", "0"])) ∧
    ((cmsCount exH [1, 2] exS₂).2 = some 5) ∧
    ((cmsCount exH [1, 0] exS₂).2 = some 2) ∧
    ((cmsUpdate exH [1, 7] 5 exS₀).2 = none) := by
  decide +kernel

example : exS₀ "aaaaaaaaaaaaaaaa0" = some (.list ["0", "0", "0"]) := exS_runs.1
example : absCMS exS₀ exH = some (CMS.new 2 3) := exS_runs.2.1
example : absCMS exS₁ exH = some { rows := 2, cols := 3, m := [[0, 5, 0], [0, 0, 5]] } := exS_runs.2.2.1
example : exS₂ "aaaaaaaaaaaaaaaa0" = some (.list ["0", "7", "0"]) := exS_runs.2.2.2.1
example : (cmsCount exH [1, 2] exS₂).2 = some 5 := exS_runs.2.2.2.2.1
example : (cmsCount exH [1, 0] exS₂).2 = some 2 := exS_runs.2.2.2.2.2.1
example : ((CMS.new 2 3).update [1, 2] 5 |>.update [1, 0] 2 |>.count [1, 2]) = 5 := by decide +kernel
/-- a store that does not represent a sketch (missing rows) has no abstraction … -/
example : absCMS Store.empty exH = none := by decide +kernel
/-- … and the script fails on it, as does an out-of-range column. -/
example : (cmsUpdate exH [1, 2] 5 Store.empty).2 = none := by decide +kernel
example : (cmsUpdate exH [1, 7] 5 exS₀).2 = none := exS_runs.2.2.2.2.2.2

def exHL : HLLHandle := { m := 4, key := "bbbbbbbbbbbbbbbb", metadataKey := "bbbbbbbbbbbbbbbc" }
def exHL' : HLLHandle := { m := 4, key := "cccccccccccccccc", metadataKey := "cccccccccccccccd" }
def exT₀ : Store := (hllInit exHL' (hllInit exHL Store.empty).1).1
def exT₁ : Store := (hllUpdate exHL' 0 9 (hllUpdate exHL 1 3 (hllUpdate exHL 2 7 exT₀).1).1).1

/-- the facts about the stores `exT₀`, `exT₁`,
    decided together so that the chain is evaluated once. -/
theorem exT_runs :
    (absHLL exT₀ exHL = some (HLL.new 4)) ∧
    (absHLL exT₁ exHL = some { m := 4, regs := [0, 3, 7, 0] }) ∧
    (absHLL (hllMerge exHL exHL' exT₁).1 exHL = some { m := 4, regs := [9, 3, 7, 0] }) ∧
    ((hllEquals exHL exHL' exT₁).2 = some false) ∧
    ((hllEquals exHL exHL exT₁).2 = some true) ∧
    ((hllUpdate exHL 4 1 exT₁).2 = none) := by
  decide +kernel

example : absHLL exT₀ exHL = some (HLL.new 4) := exT_runs.1
example : absHLL exT₁ exHL = some { m := 4, regs := [0, 3, 7, 0] } := exT_runs.2.1
example : absHLL (hllMerge exHL exHL' exT₁).1 exHL = some { m := 4, regs := [9, 3, 7, 0] } := exT_runs.2.2.1
example : (hllEquals exHL exHL' exT₁).2 = some false := exT_runs.2.2.2.1
example : (hllEquals exHL exHL exT₁).2 = some true := exT_runs.2.2.2.2.1
example : (hllUpdate exHL 4 1 exT₁).2 = none := exT_runs.2.2.2.2.2
example : HLL.update { m := 4, regs := [0, 3, 7, 0] } 4 1 = .panic := by decide +kernel

def exB : BloomHandle := { size := 10, k := 2, bitsetKey := "dddddddddddddddd", metadataKey := "ddddddddddddddde" }
def exU₀ : Store := (bloomInit exB Store.empty).1
def exU₁ : Store := (bloomInsert exB [1, 9] exU₀).1

/-- the facts about the stores `exU₀`, `exU₁`,
    decided together so that the chain is evaluated once. -/
theorem exU_runs :
    (absBloom exU₀ exB = some (Bloom.new 10 2)) ∧
    (exU₁ "dddddddddddddddd" = some (.str [0x40, 0x40, 0, 0, 0, 0, 0, 0, 0, 0])) ∧
    (absBloom exU₁ exB = some ((Bloom.new 10 2).insert [1, 9])) ∧
    ((bloomLookup exB [1, 9] exU₁).2 = some true) ∧
    ((bloomLookup exB [1, 8] exU₁).2 = some false) := by
  decide +kernel

example : absBloom exU₀ exB = some (Bloom.new 10 2) := exU_runs.1
/-- bit 1 is `0x40` of byte 0, bit 9 is `0x40` of byte 1 (most significant bit first). -/
example : exU₁ "dddddddddddddddd" = some (.str [0x40, 0x40, 0, 0, 0, 0, 0, 0, 0, 0]) := exU_runs.2.1
example : absBloom exU₁ exB = some ((Bloom.new 10 2).insert [1, 9]) := exU_runs.2.2.1
example : (bloomLookup exB [1, 9] exU₁).2 = some true := exU_runs.2.2.2.1
example : (bloomLookup exB [1, 8] exU₁).2 = some false := exU_runs.2.2.2.2

end examples

end Gostatix.Redis
