/-
  C02Concrete — C02 ("the cuckoo filter never loses a live element") and C13 (`length` accounting)
  END TO END OVER BYTE STRINGS, closing the gap between `Cuckoo.positions` (the model of
  `getPositions`: murmur3 hash of the element bytes, decimal-prefix fingerprint, `hash % n`,
  `(i1 xor hash(fp)) % n`) and the abstract theorems of Props/C02.lean and Props/C13.lean, which
  quantify over abstract operations `(fp, i1, alt i1 fp)` with `fp ≠ emp`, `i1 < n`.

  WHAT IS PROVED
  * for every byte string and every `n > 0`, `positions n fpl data` is a valid abstract operation
    as soon as `1 ≤ fpl ≤ #decimal digits of the hash` (`ValidData`); the candidate pair is
    symmetric for `n = 2^k` and not for `n = 5`; which `fpl` are valid, and the two ways into
    finding D3 (`fpl = 0`, `fpl > #digits`: fingerprint "") with their concrete consequences;
  * no false negative for a filter built by the constructor with `2^k` buckets and ANY history of
    `Insert / Remove / Lookup` calls given as byte strings (`List BOp`; valid elements, random
    choices part of the history): a valid element whose KEY was successfully inserted more often
    than removed is found.  "Key" = (fingerprint, unordered pair of candidate buckets): the filter
    cannot tell apart two elements with the same key, so the removes of every such element count.
    Obtained by translating the history (`histB_eq`, Proofs/C02Concrete.lean);
  * `length` accounting on byte strings for any `n > 0`;
  * the hypotheses are needed, on real byte strings (by evaluation, murmur included); `exHistory`
    satisfies every hypothesis of the main theorems, which are applied to it.

  WHAT IS NOT PROVED / ASSUMED
  * `Murmur.getHash` is used as a function; nothing is proved about its distribution.  That it is
    murmur.go is `tie_murmur_getHash` (Props/MurmurTie.lean), not part of this file.  No theorem
    depends on its values except the `decide` examples.
  * `toString : Nat → String` is taken to be `strconv.FormatUint(hash, 10)`, `String.ofList
    (… .take fpl)` to be `hashString[:fpl]` (bytes = characters because all are ASCII digits;
    not proved here).
  * The byte-level operations `insertB / lookupB / removeB` (Proofs/C02Concrete.lean) are the
    composition `positions` ; `insert / lookup / remove` that Driver.lean tests against the Go
    code; that Go's `Insert` is this composition is covered by that differential test only.
  * Validity (`fpl ≤ #digits`) is a hypothesis on every element of the history: the code does not
    check it (finding D3), so it cannot be derived.
-/
import Gostatix.Props.C02
import Gostatix.Props.C13
import Gostatix.Proofs.C02Concrete
namespace Gostatix.Cuckoo

/-- **Any `n > 0`.** Fingerprint non-empty, both indices in range, the second index is the
    alternate bucket of the first. -/
theorem C02_positions_valid_any_n (n fpl : Nat) (data : List UInt8) (hn : 0 < n) (h1 : 1 ≤ fpl)
    (h2 : fpl ≤ (toString (Murmur.getHash data)).length) :
    let r := Cuckoo.positions n fpl data
    r.1 ≠ "" ∧ r.2.1 < n ∧ r.2.2 = Cuckoo.altOf Cuckoo.hashStr n r.2.1 r.1 ∧ r.2.2 < n :=
  ⟨positions_fp_ne n fpl data ⟨h1, h2⟩, positions_i1_lt n fpl data hn h2, positions_alt n fpl data h2,
    positions_i2_lt n fpl data hn h2⟩

/-- **`n = 2^k`.** As above, and the first index is the alternate bucket of the second. -/
theorem C02_positions_valid (k fpl : Nat) (data : List UInt8) (h1 : 1 ≤ fpl)
    (h2 : fpl ≤ (toString (Murmur.getHash data)).length) :
    let r := Cuckoo.positions (2^k) fpl data
    r.1 ≠ "" ∧ r.2.1 < 2^k ∧ r.2.2 = Cuckoo.altOf Cuckoo.hashStr (2^k) r.2.1 r.1 ∧ r.2.2 < 2^k ∧
      Cuckoo.altOf Cuckoo.hashStr (2^k) r.2.2 r.1 = r.2.1 := by
  obtain ⟨a, b, c, d⟩ := C02_positions_valid_any_n (2^k) fpl data (Nat.two_pow_pos k) h1 h2
  refine ⟨a, b, c, d, ?_⟩
  rw [c]
  exact (Mem.C02_alt_involutive_pow2 hashStr k _ _ b).2

/-- For `n = 5` the candidate pair is not symmetric: the element "g" has fingerprint "13" and
    buckets (4, 3), but the alternate bucket of 3 for "13" is 2. -/
theorem C02_positions_not_symmetric_npow2 :
    Cuckoo.positions 5 2 "g".toUTF8.toList = ("13", 4, 3) ∧ Cuckoo.altOf Cuckoo.hashStr 5 3 "13" = 2 := by
  decide +kernel

/-! ### which fingerprint lengths are valid; finding D3 -/

/-- **D3, first entrance.** With `fpl = 0` the fingerprint of EVERY element is the empty string
    (the length check `0 > len` never fires). -/
theorem C02_fpl_zero_is_D3 (n : Nat) (data : List UInt8) : (Cuckoo.positions n 0 data).1 = "" := by
  rw [positions_of_le n 0 data (Nat.zero_le _)]
  simp

/-- **D3, second entrance.** If `fpl` exceeds the number of decimal digits of the element's hash,
    `getPositions` returns `("", 0, 0)` (and an error the callers ignore). -/
theorem C02_fpl_too_long_is_D3 (n fpl : Nat) (data : List UInt8)
    (h : (toString (Murmur.getHash data)).length < fpl) : Cuckoo.positions n fpl data = ("", 0, 0) :=
  positions_of_gt n fpl data h

/-- The validity hypothesis in arithmetic form: one digit is always available; `fpl ≥ 2` digits
    are available exactly when `hash ≥ 10^(fpl-1)`. -/
theorem C02_fpl_valid_iff (fpl : Nat) (data : List UInt8) :
    ValidData fpl data ↔ fpl = 1 ∨ (2 ≤ fpl ∧ 10 ^ (fpl - 1) ≤ Murmur.getHash data) := by
  unfold ValidData
  constructor
  · rintro ⟨h1, h2⟩
    rcases (le_digits_iff fpl _ h1).mp h2 with h | h
    · exact Or.inl h
    · by_cases h' : fpl = 1
      · exact Or.inl h'
      · exact Or.inr ⟨by omega, h⟩
  · rintro (h | ⟨h1, h2⟩)
    · subst h; exact ⟨Nat.le_refl _, (le_digits_iff 1 _ (Nat.le_refl _)).mpr (Or.inl rfl)⟩
    · exact ⟨by omega, (le_digits_iff fpl _ (by omega)).mpr (Or.inr h2)⟩

theorem C02_fpl_one_always_valid (data : List UInt8) : ValidData 1 data :=
  (C02_fpl_valid_iff 1 data).mpr (Or.inl rfl)

/-- `fpl ≥ 21` is valid for no element (a `uint64` has at most 20 decimal digits). -/
theorem C02_fpl_ge_21_never_valid (fpl : Nat) (data : List UInt8) (h : 21 ≤ fpl) :
    ¬ ValidData fpl data := by
  rintro ⟨_, h2⟩
  have := digits_getHash_le data
  omega

/-- Validity depends on the element for `2 ≤ fpl ≤ 20`: the hash of "a" has 19 digits, that of "c" 20. -/
theorem C02_fpl_20_depends_on_element :
    ¬ ValidData 20 "a".toUTF8.toList ∧ ValidData 20 "c".toUTF8.toList := by decide +kernel

end Gostatix.Cuckoo

/-! ## in-memory filter -/
namespace Gostatix.Cuckoo.Mem

/-- **No false negative on byte strings, non-destructive API.** -/
theorem C02_no_false_negative_concrete (k bsize fpl retries : Nat) (h : List BOp) (hb : 0 < bsize)
    (hv : ∀ op ∈ h, ValidBOp fpl bsize op) (hnd : NonDestructiveB h)
    (data : List UInt8) (hd : ValidData fpl data)
    (hlive : okRemovesB (BucketMem.ops "") (sameKey (2^k) fpl data) (empty "" (2^k) bsize fpl retries) h
           < okInsertsB (BucketMem.ops "") (sameKey (2^k) fpl data) (empty "" (2^k) bsize fpl retries) h) :
    lookupB (BucketMem.ops "") (runB (BucketMem.ops "") (empty "" (2^k) bsize fpl retries) h) data
      = true :=
  no_false_negative_bytes (BucketMem.lawful "") (2^k) bsize fpl _ h (Nat.two_pow_pos k) hb
    (empty_inv "" (2^k) bsize fpl retries) rfl hv (C02_alt_involutive_pow2 hashStr k) (empty_cnt "" (2^k) bsize fpl retries)
    (noDestructiveFail_of_nonDestructive _ _ _ (nonDestructive_map (2^k) fpl h hnd)) data hd hlive

/-- **No false negative on byte strings**, destructive inserts allowed as long as none of them fails. -/
theorem C02_no_false_negative_concrete_partial (k bsize fpl retries : Nat) (h : List BOp) (hb : 0 < bsize)
    (hv : ∀ op ∈ h, ValidBOp fpl bsize op)
    (hsafe : NoDestructiveFailB (BucketMem.ops "") (empty "" (2^k) bsize fpl retries) h)
    (data : List UInt8) (hd : ValidData fpl data)
    (hlive : okRemovesB (BucketMem.ops "") (sameKey (2^k) fpl data) (empty "" (2^k) bsize fpl retries) h
           < okInsertsB (BucketMem.ops "") (sameKey (2^k) fpl data) (empty "" (2^k) bsize fpl retries) h) :
    lookupB (BucketMem.ops "") (runB (BucketMem.ops "") (empty "" (2^k) bsize fpl retries) h) data
      = true :=
  no_false_negative_bytes (BucketMem.lawful "") (2^k) bsize fpl _ h (Nat.two_pow_pos k) hb
    (empty_inv "" (2^k) bsize fpl retries) rfl hv (C02_alt_involutive_pow2 hashStr k) (empty_cnt "" (2^k) bsize fpl retries)
    (noDestructiveFailB_eq (2^k) fpl bsize _ h rfl rfl hv hsafe) data hd hlive

/-- **An element inserted more often than removed is found**: `data` itself was successfully
    inserted more often than elements with its key were successfully removed. -/
theorem C02_inserted_element_found (k bsize fpl retries : Nat) (h : List BOp) (hb : 0 < bsize)
    (hv : ∀ op ∈ h, ValidBOp fpl bsize op) (hnd : NonDestructiveB h)
    (data : List UInt8) (hd : ValidData fpl data)
    (hlive : okRemovesB (BucketMem.ops "") (sameKey (2^k) fpl data) (empty "" (2^k) bsize fpl retries) h
           < okInsertsB (BucketMem.ops "") (thisData data) (empty "" (2^k) bsize fpl retries) h) :
    lookupB (BucketMem.ops "") (runB (BucketMem.ops "") (empty "" (2^k) bsize fpl retries) h) data
      = true :=
  C02_no_false_negative_concrete k bsize fpl retries h hb hv hnd data hd
    (Nat.lt_of_lt_of_le hlive (okInsertsB_thisData_le (2^k) fpl data _ h))

/-- **`length` is exact on byte strings**, any number of buckets `n > 0`, any mode of insert. -/
theorem C13_length_exact_concrete (n bsize fpl retries : Nat) (h : List BOp) (hn : 0 < n) (hb : 0 < bsize)
    (hv : ∀ op ∈ h, ValidBOp fpl bsize op) :
    let c0 : Cuckoo (BucketMem String) := empty "" n bsize fpl retries
    let c := runB (BucketMem.ops "") c0 h
    c.length = stored "" c ∧
    c.length + okRemovesB (BucketMem.ops "") allData c0 h = okInsertsB (BucketMem.ops "") allData c0 h :=
  length_exact_bytes (BucketMem.lawful "") n bsize fpl _ h hn hb (empty_inv "" n bsize fpl retries) rfl hv rfl

end Gostatix.Cuckoo.Mem

/-! ## Redis-backed filter -/
namespace Gostatix.Cuckoo.Redis

theorem C02_no_false_negative_concrete (k bsize fpl retries : Nat) (h : List BOp) (hb : 0 < bsize)
    (hv : ∀ op ∈ h, ValidBOp fpl bsize op) (hnd : NonDestructiveB h)
    (data : List UInt8) (hd : ValidData fpl data)
    (hlive : okRemovesB (BucketRedis.ops "") (sameKey (2^k) fpl data) (empty (2^k) bsize fpl retries) h
           < okInsertsB (BucketRedis.ops "") (sameKey (2^k) fpl data) (empty (2^k) bsize fpl retries) h) :
    lookupB (BucketRedis.ops "") (runB (BucketRedis.ops "") (empty (2^k) bsize fpl retries) h) data
      = true :=
  no_false_negative_bytes (BucketRedis.lawful "") (2^k) bsize fpl _ h (Nat.two_pow_pos k) hb
    (empty_inv "" (2^k) bsize fpl retries) rfl hv (Mem.C02_alt_involutive_pow2 hashStr k) (fun j g hj _ => empty_cnt (2^k) bsize fpl retries j g hj)
    (noDestructiveFail_of_nonDestructive _ _ _ (nonDestructive_map (2^k) fpl h hnd)) data hd hlive

theorem C02_no_false_negative_concrete_partial (k bsize fpl retries : Nat) (h : List BOp) (hb : 0 < bsize)
    (hv : ∀ op ∈ h, ValidBOp fpl bsize op)
    (hsafe : NoDestructiveFailB (BucketRedis.ops "") (empty (2^k) bsize fpl retries) h)
    (data : List UInt8) (hd : ValidData fpl data)
    (hlive : okRemovesB (BucketRedis.ops "") (sameKey (2^k) fpl data) (empty (2^k) bsize fpl retries) h
           < okInsertsB (BucketRedis.ops "") (sameKey (2^k) fpl data) (empty (2^k) bsize fpl retries) h) :
    lookupB (BucketRedis.ops "") (runB (BucketRedis.ops "") (empty (2^k) bsize fpl retries) h) data
      = true :=
  no_false_negative_bytes (BucketRedis.lawful "") (2^k) bsize fpl _ h (Nat.two_pow_pos k) hb
    (empty_inv "" (2^k) bsize fpl retries) rfl hv (Mem.C02_alt_involutive_pow2 hashStr k) (fun j g hj _ => empty_cnt (2^k) bsize fpl retries j g hj)
    (noDestructiveFailB_eq (2^k) fpl bsize _ h rfl rfl hv hsafe) data hd hlive

theorem C02_inserted_element_found (k bsize fpl retries : Nat) (h : List BOp) (hb : 0 < bsize)
    (hv : ∀ op ∈ h, ValidBOp fpl bsize op) (hnd : NonDestructiveB h)
    (data : List UInt8) (hd : ValidData fpl data)
    (hlive : okRemovesB (BucketRedis.ops "") (sameKey (2^k) fpl data) (empty (2^k) bsize fpl retries) h
           < okInsertsB (BucketRedis.ops "") (thisData data) (empty (2^k) bsize fpl retries) h) :
    lookupB (BucketRedis.ops "") (runB (BucketRedis.ops "") (empty (2^k) bsize fpl retries) h) data
      = true :=
  C02_no_false_negative_concrete k bsize fpl retries h hb hv hnd data hd
    (Nat.lt_of_lt_of_le hlive (okInsertsB_thisData_le (2^k) fpl data _ h))

theorem C13_length_exact_concrete (n bsize fpl retries : Nat) (h : List BOp) (hn : 0 < n) (hb : 0 < bsize)
    (hv : ∀ op ∈ h, ValidBOp fpl bsize op) :
    let c0 : Cuckoo (BucketRedis String) := empty n bsize fpl retries
    let c := runB (BucketRedis.ops "") c0 h
    c.length = stored "" c ∧
    c.length + okRemovesB (BucketRedis.ops "") allData c0 h = okInsertsB (BucketRedis.ops "") allData c0 h :=
  length_exact_bytes (BucketRedis.lawful "") n bsize fpl _ h hn hb (empty_inv "" n bsize fpl retries) rfl hv rfl

end Gostatix.Cuckoo.Redis

/-! ## the hypotheses are needed; non-vacuity — on real byte strings

  Elements are ASCII words (`bytes "a" = [0x61]`, …); everything is evaluated by the kernel
  (`decide +kernel`, because `String.toUTF8.toList` inside `hashStr` is defined by well-founded
  recursion, which the elaborator's `decide` does not unfold), including the murmur3 hash. -/
namespace Gostatix.Cuckoo

def bytes (s : String) : List UInt8 := s.toUTF8.toList

/-- `getPositions` on four buckets with two-digit fingerprints: "c" and "f" have the same key
    (fingerprint "10", buckets 3 and 0); "dog" lives in {1, 2}, "a" in {1, 0}, "p" in {3, 0}. -/
example : positions 4 2 (bytes "c") = ("10", 3, 0) ∧ positions 4 2 (bytes "f") = ("10", 3, 0) ∧
    positions 4 2 (bytes "dog") = ("35", 1, 2) ∧ positions 4 2 (bytes "a") = ("96", 1, 0) ∧
    positions 4 2 (bytes "p") = ("14", 3, 0) ∧ Murmur.getHash (bytes "a") = 9607679276477937801 := by
  decide +kernel

/-- the hypotheses of `C02_positions_valid` are satisfiable, and its conclusion is not trivial -/
example : ValidData 2 (bytes "dog") ∧ positions (2^2) 2 (bytes "dog") = ("35", 1, 2) ∧
    altOf hashStr (2^2) 2 "35" = 1 := by decide +kernel

/-- **`1 ≤ fpl` is needed** (D3), Redis-backed filter: with `fpl = 0`, `Insert("a")` into the new
    filter answers true and bumps `length`, nothing is stored, and `Lookup("a")` answers false. -/
theorem C02_fpl_zero_loses_element :
    let c0 : Cuckoo (BucketRedis String) := Redis.empty 4 1 0 3
    let h : List BOp := [.insert (bytes "a") false true [0]]
    okInsertsB (BucketRedis.ops "") (thisData (bytes "a")) c0 h = 1 ∧
    okRemovesB (BucketRedis.ops "") allData c0 h = 0 ∧
    (runB (BucketRedis.ops "") c0 h).length = 1 ∧
    (runB (BucketRedis.ops "") c0 h).buckets = c0.buckets ∧
    lookupB (BucketRedis.ops "") (runB (BucketRedis.ops "") c0 h) (bytes "a") = false := by
  decide +kernel

/-- … and in the in-memory filter, whose free slots ARE the empty string, `fpl = 0` makes `Lookup`
    answer true for an element that was never inserted (the new filter "contains" "zebra"). -/
theorem C02_fpl_zero_mem_finds_everything :
    lookupB (BucketMem.ops "") (Mem.empty "" 4 1 0 3) (bytes "zebra") = true := by decide +kernel

/-- **`fpl ≤ #digits` is needed** (D3): `fpl = 20` and the element "a", whose hash has 19 digits
    (as for about half of all elements: `2^64 ≈ 1.8·10^19`).  Redis-backed filter: `Insert("a")`
    answers true, `length` becomes 1, nothing is stored, `Lookup("a")` answers false. -/
theorem C02_fpl_too_long_loses_element :
    let c0 : Cuckoo (BucketRedis String) := Redis.empty 4 1 20 3
    let h : List BOp := [.insert (bytes "a") false true [0]]
    positions 4 20 (bytes "a") = ("", 0, 0) ∧
    okInsertsB (BucketRedis.ops "") (thisData (bytes "a")) c0 h = 1 ∧
    okRemovesB (BucketRedis.ops "") allData c0 h = 0 ∧
    (runB (BucketRedis.ops "") c0 h).length = 1 ∧
    (runB (BucketRedis.ops "") c0 h).buckets = c0.buckets ∧
    lookupB (BucketRedis.ops "") (runB (BucketRedis.ops "") c0 h) (bytes "a") = false := by
  decide +kernel

/-- The same in the in-memory filter, once bucket 0 has no free slot: "e" (20 digits, bucket 0) is
    inserted after "a"; both inserts answer true, `length = 2`, one slot is occupied, "e" is found
    and "a" is not. -/
theorem C02_fpl_too_long_loses_element_mem :
    let c0 : Cuckoo (BucketMem String) := Mem.empty "" 4 1 20 3
    let h : List BOp := [.insert (bytes "a") false true [0], .insert (bytes "e") false true [0]]
    okInsertsB (BucketMem.ops "") allData c0 h = 2 ∧
    (runB (BucketMem.ops "") c0 h).length = 2 ∧
    Mem.stored "" (runB (BucketMem.ops "") c0 h) = 1 ∧
    lookupB (BucketMem.ops "") (runB (BucketMem.ops "") c0 h) (bytes "e") = true ∧
    lookupB (BucketMem.ops "") (runB (BucketMem.ops "") c0 h) (bytes "a") = false := by
  decide +kernel

/-- **`n = 2^k` is needed**: five buckets of one slot, two-digit fingerprints.  "h" ("15", buckets
    0 and 3) goes to bucket 0; "b" ("88", buckets 0 and 0) evicts it to bucket 3; "dog" ("35",
    buckets 3 and 3) evicts it to bucket `(3 xor hash "15") % 5 = 1`, which is not one of its
    buckets.  Three valid elements, three successful non-destructive inserts, no remove: "h" is
    reported absent. -/
theorem C02_concrete_npow2_loses_element :
    let c0 : Cuckoo (BucketMem String) := Mem.empty "" 5 1 2 3
    let h : List BOp := [.insert (bytes "h") false true [0], .insert (bytes "b") false true [0],
      .insert (bytes "dog") false true [0]]
    (∀ op ∈ h, ValidBOp 2 1 op) ∧ NonDestructiveB h ∧ ValidData 2 (bytes "h") ∧
    okInsertsB (BucketMem.ops "") allData c0 h = 3 ∧
    okInsertsB (BucketMem.ops "") (thisData (bytes "h")) c0 h = 1 ∧
    okRemovesB (BucketMem.ops "") allData c0 h = 0 ∧
    lookupB (BucketMem.ops "") (runB (BucketMem.ops "") c0 h) (bytes "h") = false := by
  decide +kernel

/-- **"No destructive insert fails" is needed**: two buckets of one slot, one-digit fingerprints,
    two retries.  "b" ("8") sits in bucket 0, "a" ("9") in bucket 1; the destructive insert of "k"
    ("5", buckets 0 and 1) evicts "8", which evicts "9", runs out of retries and fails without
    rollback: "a" (inserted once, never removed) is reported absent. -/
theorem C02_concrete_destructive_failure_loses :
    let c0 : Cuckoo (BucketMem String) := Mem.empty "" (2^1) 1 1 2
    let h : List BOp := [.insert (bytes "b") false true [0, 0], .insert (bytes "a") false true [0, 0],
      .insert (bytes "k") true true [0, 0]]
    (∀ op ∈ h, ValidBOp 1 1 op) ∧ ValidData 1 (bytes "a") ∧
    okInsertsB (BucketMem.ops "") (sameKey (2^1) 1 (bytes "a")) c0 h = 1 ∧
    okRemovesB (BucketMem.ops "") (sameKey (2^1) 1 (bytes "a")) c0 h = 0 ∧
    ¬ NoDestructiveFailB (BucketMem.ops "") c0 h ∧
    lookupB (BucketMem.ops "") (runB (BucketMem.ops "") c0 h) (bytes "a") = false := by
  decide +kernel

/-- the history of the non-vacuity examples: four buckets of one slot, two-digit fingerprints.
    "c" → bucket 3; "f" (same key as "c") → bucket 0; "dog" → bucket 1; "a" (buckets 1 and 0, both
    full) evicts "35" from bucket 1 into its alternate bucket 2; "p" (buckets 3 and 0) finds the
    table full, fails and rolls back; "c" is removed; lookups. -/
def exHistory : List BOp :=
  [.insert (bytes "c") false true [0], .insert (bytes "f") false true [0],
   .insert (bytes "dog") false true [0], .insert (bytes "a") false true [0, 0, 0],
   .insert (bytes "p") false true [0, 0, 0], .remove (bytes "c"), .lookup (bytes "dog")]

theorem exHistory_valid : ∀ op ∈ exHistory, ValidBOp 2 1 op := by decide +kernel

theorem exHistory_nonDestructive : NonDestructiveB exHistory := by decide +kernel

/-- `exHistory` on the in-memory filter, run once: what happens, the counts for the key of "c" and
    "f", that "dog" was inserted more often than its key was removed, and the final state -/
theorem exHistory_mem :
    (let c0 : Cuckoo (BucketMem String) := Mem.empty "" (2^2) 1 2 3
    (runB (BucketMem.ops "") c0 (exHistory.take 4)).buckets
      = [⟨1, ["10"], 1⟩, ⟨1, ["96"], 1⟩, ⟨1, ["35"], 1⟩, ⟨1, ["10"], 1⟩] ∧
    (stepB (BucketMem.ops "") (runB (BucketMem.ops "") c0 (exHistory.take 4)) (exHistory.getD 4 (.lookup []))).2 = false ∧
    runB (BucketMem.ops "") c0 (exHistory.take 5) = runB (BucketMem.ops "") c0 (exHistory.take 4) ∧
    (runB (BucketMem.ops "") c0 exHistory).buckets
      = [⟨1, ["10"], 1⟩, ⟨1, ["96"], 1⟩, ⟨1, ["35"], 1⟩, ⟨1, [""], 0⟩] ∧
    okInsertsB (BucketMem.ops "") allData c0 exHistory = 4 ∧
    okRemovesB (BucketMem.ops "") allData c0 exHistory = 1 ∧
    okInsertsB (BucketMem.ops "") (sameKey (2^2) 2 (bytes "f")) c0 exHistory = 2 ∧
    okRemovesB (BucketMem.ops "") (sameKey (2^2) 2 (bytes "f")) c0 exHistory = 1) ∧
    okRemovesB (BucketMem.ops "") (sameKey (2^2) 2 (bytes "dog")) (Mem.empty "" (2^2) 1 2 3) exHistory
      < okInsertsB (BucketMem.ops "") (thisData (bytes "dog")) (Mem.empty "" (2^2) 1 2 3) exHistory ∧
    runB (BucketMem.ops "") (Mem.empty "" (2^2) 1 2 3) exHistory
      = ⟨4, 1, 2, 3, [⟨1, ["10"], 1⟩, ⟨1, ["96"], 1⟩, ⟨1, ["35"], 1⟩, ⟨1, [""], 0⟩], 3⟩ := by
  decide +kernel

example :
    let c0 : Cuckoo (BucketMem String) := Mem.empty "" (2^2) 1 2 3
    (runB (BucketMem.ops "") c0 (exHistory.take 4)).buckets
      = [⟨1, ["10"], 1⟩, ⟨1, ["96"], 1⟩, ⟨1, ["35"], 1⟩, ⟨1, ["10"], 1⟩] ∧
    (stepB (BucketMem.ops "") (runB (BucketMem.ops "") c0 (exHistory.take 4)) (exHistory.getD 4 (.lookup []))).2 = false ∧
    runB (BucketMem.ops "") c0 (exHistory.take 5) = runB (BucketMem.ops "") c0 (exHistory.take 4) ∧
    (runB (BucketMem.ops "") c0 exHistory).buckets
      = [⟨1, ["10"], 1⟩, ⟨1, ["96"], 1⟩, ⟨1, ["35"], 1⟩, ⟨1, [""], 0⟩] ∧
    okInsertsB (BucketMem.ops "") allData c0 exHistory = 4 ∧
    okRemovesB (BucketMem.ops "") allData c0 exHistory = 1 ∧
    okInsertsB (BucketMem.ops "") (sameKey (2^2) 2 (bytes "f")) c0 exHistory = 2 ∧
    okRemovesB (BucketMem.ops "") (sameKey (2^2) 2 (bytes "f")) c0 exHistory = 1 :=
  exHistory_mem.1

/-- **non-vacuity of `Mem.C02_no_false_negative_concrete`**: all hypotheses hold for `exHistory`
    (which contains an eviction, a failed insert and a remove); the theorem gives that "f" — whose
    key was inserted twice and removed once — and the evicted "dog" are found. -/
example :
    lookupB (BucketMem.ops "") (runB (BucketMem.ops "") (Mem.empty "" (2^2) 1 2 3) exHistory) (bytes "f") = true ∧
    lookupB (BucketMem.ops "") (runB (BucketMem.ops "") (Mem.empty "" (2^2) 1 2 3) exHistory) (bytes "dog") = true := by
  obtain ⟨⟨_, _, _, _, _, _, hI, hR⟩, hdog, _⟩ := exHistory_mem
  exact ⟨Mem.C02_no_false_negative_concrete 2 1 2 3 exHistory (by decide) exHistory_valid
      exHistory_nonDestructive (bytes "f") (exHistory_valid _ (.tail _ (.head _))).1
      (by rw [hI, hR]; decide),
   Mem.C02_inserted_element_found 2 1 2 3 exHistory (by decide) exHistory_valid
      exHistory_nonDestructive (bytes "dog") (exHistory_valid _ (.tail _ (.tail _ (.head _)))).1 hdog⟩

/-- the theorem's conclusion can fail when `hlive` fails: "c"/"f" removed twice are gone -/
example : lookupB (BucketMem.ops "")
    (runB (BucketMem.ops "") (Mem.empty "" (2^2) 1 2 3) (exHistory ++ [.remove (bytes "f")])) (bytes "f") = false := by
  rw [runB_append, exHistory_mem.2.2]
  decide +kernel

/-- **non-vacuity of `Redis.C02_no_false_negative_concrete`** and what the Redis lists look like:
    the eviction `LSET`s "96" over "35" and `LPUSH`es "35" to bucket 2; the remove leaves a hole. -/
example :
    let c0 : Cuckoo (BucketRedis String) := Redis.empty (2^2) 1 2 3
    (runB (BucketRedis.ops "") c0 exHistory).buckets
      = [⟨1, ["10"], 1⟩, ⟨1, ["96"], 1⟩, ⟨1, ["35"], 1⟩, ⟨1, [""], 0⟩] ∧
    lookupB (BucketRedis.ops "") (runB (BucketRedis.ops "") c0 exHistory) (bytes "f") = true := by
  -- one run of the history gives the final lists and the counts for the key of "f"
  have h : (runB (BucketRedis.ops "") (Redis.empty (2^2) 1 2 3) exHistory).buckets
        = [⟨1, ["10"], 1⟩, ⟨1, ["96"], 1⟩, ⟨1, ["35"], 1⟩, ⟨1, [""], 0⟩] ∧
      okRemovesB (BucketRedis.ops "") (sameKey (2^2) 2 (bytes "f")) (Redis.empty (2^2) 1 2 3) exHistory
        < okInsertsB (BucketRedis.ops "") (sameKey (2^2) 2 (bytes "f")) (Redis.empty (2^2) 1 2 3) exHistory := by
    decide +kernel
  exact ⟨h.1, Redis.C02_no_false_negative_concrete 2 1 2 3 exHistory (by decide) exHistory_valid
    exHistory_nonDestructive (bytes "f") (exHistory_valid _ (.tail _ (.head _))).1 h.2⟩

/-- **non-vacuity of `C13_length_exact_concrete`** on FIVE buckets (not a power of two) with a
    destructive insert: `length` = occupied slots = 3 = 3 successful inserts − 0 removes, even
    though an element was lost (`C02_concrete_npow2_loses_element`). -/
example :
    let c0 : Cuckoo (BucketMem String) := Mem.empty "" 5 1 2 3
    let h : List BOp := [.insert (bytes "h") false true [0], .insert (bytes "b") true true [0],
      .insert (bytes "dog") false true [0]]
    (runB (BucketMem.ops "") c0 h).length = Mem.stored "" (runB (BucketMem.ops "") c0 h) ∧
    (runB (BucketMem.ops "") c0 h).length + okRemovesB (BucketMem.ops "") allData c0 h
      = okInsertsB (BucketMem.ops "") allData c0 h :=
  Mem.C13_length_exact_concrete 5 1 2 3 _ (by decide) (by decide) (by decide +kernel)

example : (runB (BucketMem.ops "") (Mem.empty "" 5 1 2 3)
    [.insert (bytes "h") false true [0], .insert (bytes "b") true true [0],
      .insert (bytes "dog") false true [0]]).length = 3 := by decide +kernel

end Gostatix.Cuckoo
