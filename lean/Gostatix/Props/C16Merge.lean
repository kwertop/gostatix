/-
  C16 (continued) — concurrent updates AND merges through Redis are not lost.

  `Props/C16.lean` proves "every interleaving = sequential application in any order" for step
  alphabets that contain whole-`Update` steps only.  Here the alphabets also contain whole-`Merge`
  steps, for the two structures whose Redis `Merge` is ONE Lua script:

   * Count-Min (count_min_sketch_redis.go `mergeMatrix`: per row, new row = cell-wise sum of the
     target row and the source row): `CMSStep.mergeFrom src`, semantics `CMS.addRows`;
   * HyperLogLog (hyperloglog_redis.go `mergeRegisters`: register-wise maximum):
     `HLLStep.mergeFrom src`, semantics `HLL.mergeRegs`.

  Assumptions (NOT theorems):
   * atomicity: one Redis command / one Lua script = one atomic step on the shared store (Redis
     runs scripts one at a time), exactly as in `Props/C16.lean`;
   * the SOURCE of a merge is a VALUE: `mergeFrom src` carries the source matrix / register file.
     The theorems are about concurrent writers of the TARGET sketch; the source sketch is not
     written while the schedule runs (a merge whose source is updated concurrently reads whatever
     the source holds when the script runs; that is a different alphabet);
   * the dimension check of `Merge` (`CMS.merge` / `HLL.merge`) happens in Go before the script is
     sent; a `mergeFrom` step is a merge that passed it (`cmsStepM_mergeFrom_eq_merge`,
     `hllStepM_mergeFrom_eq_merge`).

  Main results: `C16_cms_with_merge`, `C16_hll_with_merge` (every interleaving = sequential
  application in any order, no shape hypothesis), `C16_cms_merge_not_lost`,
  `C16_hll_merge_not_lost`, and `C16_cms_nonatomic_merge_loses_update` (a client-side merge
  `read ; writeBack` is NOT an instance).
-/
import Gostatix.Proofs.ConcMerge
import Gostatix.Props.C16
import Gostatix.Props.C03
namespace Gostatix
open Conc

/-- **every interleaving of whole-`Update` and whole-`Merge` steps = sequential application in any
    order.**  No hypothesis on shapes: out-of-range updates are no-ops, and a cell which a too short
    source row truncates away (`List.zipWith`) is lost in both orders. -/
theorem C16_cms_with_merge (s : CMS) (clients : List (List CMSStep)) (w : List CMSStep)
    (hi : Interleaving clients w) (order : List CMSStep) (ho : order.Perm clients.flatten) :
    exec cmsStepM s w = order.foldl cmsStepM s :=
  exec_perm_of_commute cmsStepM_commute (hi.perm.trans ho.symm) s

theorem C16_cms_with_merge_threads (s : CMS) (clients : List (List CMSStep)) (w : List CMSStep)
    (hi : Interleaving clients w) : exec cmsStepM s w = execThreads cmsStepM s clients :=
  exec_interleaving_of_commute cmsStepM_commute hi s

/-- the update-only alphabet of `C16_cms` is the sub-alphabet without merges -/
theorem cmsStepM_update (s : CMS) (u : List Nat × Nat) :
    cmsStepM s (.update u.1 u.2) = cmsStep s u := rfl

theorem C16_cms_merge_wf (s : CMS) (w : List CMSStep) (hs : CMS.WF s)
    (hsrc : ∀ a ∈ w, a.SrcOK s.rows s.cols) : CMS.WF (exec cmsStepM s w) := by
  have hd : (exec cmsStepM s w).rows = s.rows ∧ (exec cmsStepM s w).cols = s.cols :=
    exec_invariant (f := cmsStepM) (fun t => t.rows = s.rows ∧ t.cols = s.cols) w
      (fun t ht a _ => by
        have := cmsStepM_rows_cols t a
        exact ⟨this.1.trans ht.1, this.2.trans ht.2⟩) s ⟨rfl, rfl⟩
  have := exec_cmsStepM_shape s.rows s.cols w s hs hsrc
  unfold CMS.WF; rw [hd.1, hd.2]; exact this

/-- **nothing is lost**: cell `(r, c)` = initial cell + counts of all update steps that hit it
    (`pos[r] = c`) + the sources' cells `(r, c)`. -/
theorem C16_cms_merge_not_lost (s : CMS) (clients : List (List CMSStep)) (w : List CMSStep)
    (hi : Interleaving clients w) (hs : CMS.WF s)
    (hsrc : ∀ a ∈ clients.flatten, a.SrcOK s.rows s.cols)
    (r c : Nat) (hr : r < s.rows) (hc : c < s.cols) :
    CMS.cell (exec cmsStepM s w).m r c
      = CMS.cell s.m r c
        + sumL (clients.flatten.map (CMSStep.updHit r c))
        + sumL (clients.flatten.map (CMSStep.srcCell r c)) := by
  have hw : ∀ a ∈ w, a.SrcOK s.rows s.cols := fun a ha => hsrc a (hi.perm.mem_iff.1 ha)
  rw [exec_cmsStepM_cell s.rows s.cols w s hs hw r c hr hc,
    sumL_perm (hi.perm.map (CMSStep.updHit r c)), sumL_perm (hi.perm.map (CMSStep.srcCell r c))]

/-- the shape hypothesis on the sources cannot be dropped from `C16_cms_merge_not_lost`: a source
    row shorter than the target row truncates the target row (`List.zipWith`), so cell `(0,2)`,
    initially 3, is gone after the merge. -/
theorem C16_cms_merge_cell_needs_shape :
    ∃ (s : CMS) (src : List (List Nat)) (r c : Nat), CMS.WF s ∧ r < s.rows ∧ c < s.cols ∧
      CMS.cell (exec cmsStepM s [.mergeFrom src]).m r c
        ≠ CMS.cell s.m r c + sumL ([CMSStep.mergeFrom src].map (CMSStep.updHit r c))
          + sumL ([CMSStep.mergeFrom src].map (CMSStep.srcCell r c)) :=
  ⟨⟨1, 3, [[1, 2, 3]]⟩, [[1]], 0, 2, by unfold CMS.WF; decide, by decide, by decide, by decide +kernel⟩

/-- as `C16_cms_with_merge`.  No hypothesis on the lengths of the register files: a source shorter
    than the target only raises a prefix, the surplus of a longer one is ignored. -/
theorem C16_hll_with_merge (regs : List Nat) (clients : List (List HLLStep)) (w : List HLLStep)
    (hi : Interleaving clients w) (order : List HLLStep) (ho : order.Perm clients.flatten) :
    exec hllStepM regs w = order.foldl hllStepM regs :=
  exec_perm_of_commute hllStepM_commute (hi.perm.trans ho.symm) regs

theorem C16_hll_with_merge_threads (regs : List Nat) (clients : List (List HLLStep))
    (w : List HLLStep) (hi : Interleaving clients w) :
    exec hllStepM regs w = execThreads hllStepM regs clients :=
  exec_interleaving_of_commute hllStepM_commute hi regs

theorem hllStepM_update (regs : List Nat) (iv : Nat × Nat) :
    hllStepM regs (.update iv.1 iv.2) = HLL.upd regs iv := rfl

theorem C16_hll_merge_length (regs : List Nat) (w : List HLLStep) :
    (exec hllStepM regs w).length = regs.length :=
  exec_invariant (f := hllStepM) (fun r => r.length = regs.length) w
    (fun r hr a _ => (hllStepM_length r a).trans hr) regs rfl

theorem hllStepM_idem (regs : List Nat) (a : HLLStep) : hllStepM (hllStepM regs a) a = hllStepM regs a := by
  cases a with
  | update i v => exact HLL.upd_idem regs (i, v)
  | mergeFrom src =>
    show HLL.mergeRegs (HLL.mergeRegs regs src) src = HLL.mergeRegs regs src
    induction regs generalizing src with
    | nil => cases src <;> rfl
    | cons x regs ih =>
      cases src with
      | nil => rfl
      | cons y src => simp only [HLL.mergeRegs]; rw [ih, Nat.max_assoc, Nat.max_self]

/-- **nothing is lost**: every step of every client is absorbed in the final registers — applying
    it once more changes nothing. -/
theorem C16_hll_merge_not_lost (regs : List Nat) (clients : List (List HLLStep)) (w : List HLLStep)
    (hi : Interleaving clients w) (a : HLLStep) (ha : a ∈ clients.flatten) :
    hllStepM (exec hllStepM regs w) a = exec hllStepM regs w := by
  have haw : a ∈ w := hi.perm.mem_iff.2 ha
  obtain ⟨l, hl⟩ : ∃ l, w.Perm (l ++ [a]) := by
    obtain ⟨l₁, l₂, rfl⟩ := List.append_of_mem haw
    exact ⟨l₁ ++ l₂, List.perm_middle.trans (List.perm_append_singleton a (l₁ ++ l₂)).symm⟩
  rw [exec_perm_of_commute hllStepM_commute hl regs]
  simp only [exec, List.foldl_append, List.foldl_cons, List.foldl_nil]
  exact hllStepM_idem _ a

/-! ### a client-side (non-atomic) merge is NOT an instance

  Read the target matrix (LRANGE per row), add the source on the client, write the sums back
  (LSET / RPUSH).  At command granularity this is (at least) two steps; the coarsest faithful
  model has the two steps `read` and `writeBack src`.
-/
namespace C16NonAtomicMerge

/-- the shared matrix and the merging client's local copy of it -/
structure St where
  m : List (List Nat)
  copy : List (List Nat) := []
  deriving Repr, DecidableEq

inductive Cmd where
  | update (pos : List Nat) (c : Nat)       -- the update script of ANOTHER client (atomic)
  | read                                    -- merging client: copy := target
  | writeBack (src : List (List Nat))       -- merging client: target := copy + src
  deriving Repr, DecidableEq

def step (s : St) : Cmd → St
  | .update pos c => { s with m := CMS.updRows s.m pos c }
  | .read => { s with copy := s.m }
  | .writeBack src => { s with m := CMS.addRows s.copy src }

def mergeProg (src : List (List Nat)) : List Cmd := [.read, .writeBack src]

theorem mergeProg_alone (s : St) (src : List (List Nat)) :
    (exec step s (mergeProg src)).m = (cmsStepM ⟨0, 0, s.m⟩ (.mergeFrom src)).m := rfl

def s0 : St := { m := [[1, 0, 2], [0, 4, 0]] }
def src : List (List Nat) := [[1, 2, 3], [4, 5, 6]]
def pM : List Cmd := mergeProg src
def pU : List Cmd := [.update [0, 2] 5]
/-- the update runs between the merging client's `read` and `writeBack` -/
def bad : List Cmd := [.read, .update [0, 2] 5, .writeBack src]

theorem bad_interleaving : Interleaving [pM, pU] bad :=
  Interleaving.of_pick (is := [0, 1, 0]) (by decide +kernel)

theorem run_detail :
    (exec step s0 bad).m = [[2, 2, 5], [4, 9, 6]] ∧
    (exec step s0 (pM ++ pU)).m = [[7, 2, 5], [4, 9, 11]] ∧
    (exec step s0 (pU ++ pM)).m = [[7, 2, 5], [4, 9, 11]] := by decide +kernel

end C16NonAtomicMerge

open C16NonAtomicMerge in
/-- **a non-atomic merge loses a concurrent update**: the update that ran between `read` and
    `writeBack` is overwritten, the final matrix differs from BOTH sequential orders, which agree
    with the atomic alphabet `cmsStepM`. -/
theorem C16_cms_nonatomic_merge_loses_update :
    ∃ (s0 : St) (src : List (List Nat)) (pos : List Nat) (c : Nat) (w : List Cmd),
      Interleaving [mergeProg src, [.update pos c]] w ∧
      (exec step s0 w).m ≠ (exec step s0 (mergeProg src ++ [.update pos c])).m ∧
      (exec step s0 w).m ≠ (exec step s0 ([.update pos c] ++ mergeProg src)).m ∧
      (exec step s0 (mergeProg src ++ [.update pos c])).m
        = (exec cmsStepM ⟨2, 3, s0.m⟩ [.mergeFrom src, .update pos c]).m ∧
      (exec step s0 ([.update pos c] ++ mergeProg src)).m
        = (exec cmsStepM ⟨2, 3, s0.m⟩ [.update pos c, .mergeFrom src]).m ∧
      -- the lost update: the hit cell lacks exactly the update's count
      CMS.cell (exec step s0 w).m 0 0 + c
        = CMS.cell (exec step s0 (mergeProg src ++ [.update pos c])).m 0 0 :=
  ⟨C16NonAtomicMerge.s0, C16NonAtomicMerge.src, [0, 2], 5, bad, bad_interleaving,
    by decide +kernel, by decide +kernel, by decide +kernel, by decide +kernel, by decide +kernel⟩

namespace C16MergeExample

def s0 : CMS := ⟨2, 3, [[1, 0, 2], [0, 4, 0]]⟩
def src : List (List Nat) := [[1, 2, 3], [4, 5, 6]]
def clients : List (List CMSStep) := [[.mergeFrom src], [.update [0, 2] 5, .update [1, 1] 7]]
/-- the merge runs between the two updates -/
def w : List CMSStep := [.update [0, 2] 5, .mergeFrom src, .update [1, 1] 7]

theorem w_interleaving : Interleaving clients w :=
  Interleaving.of_pick (is := [1, 0, 1]) (by decide +kernel)

example : exec cmsStepM s0 w
    = [CMSStep.update [1, 1] 7, .mergeFrom src, .update [0, 2] 5].foldl cmsStepM s0 :=
  C16_cms_with_merge s0 clients w w_interleaving _ (by decide +kernel)

example : exec cmsStepM s0 w
    = [CMSStep.update [1, 1] 7, .mergeFrom src, .update [0, 2] 5].foldl cmsStepM s0 := by decide +kernel

example : (exec cmsStepM s0 w).m = [[7, 9, 5], [4, 16, 11]] := by decide +kernel

example : exec cmsStepM s0 w = execThreads cmsStepM s0 clients :=
  C16_cms_with_merge_threads s0 clients w w_interleaving

/-- cell (1,1) = 4 + 7 (one update hits it) + 5 (the source's cell) -/
example : CMS.cell (exec cmsStepM s0 w).m 1 1
    = CMS.cell s0.m 1 1 + sumL (clients.flatten.map (CMSStep.updHit 1 1))
      + sumL (clients.flatten.map (CMSStep.srcCell 1 1)) :=
  C16_cms_merge_not_lost s0 clients w w_interleaving (by unfold CMS.WF; decide)
    (by
      intro a ha
      simp only [clients, List.flatten_cons, List.flatten_nil, List.cons_append, List.nil_append,
        List.append_nil, List.mem_cons, List.not_mem_nil, or_false] at ha
      rcases ha with rfl | rfl | rfl
      · show CMS.Shape src 2 3
        unfold CMS.Shape; decide
      · trivial
      · trivial)
    1 1 (by decide +kernel) (by decide +kernel)

example : CMS.cell (exec cmsStepM s0 w).m 1 1 = 16 ∧
    CMS.cell s0.m 1 1 + sumL (clients.flatten.map (CMSStep.updHit 1 1))
      + sumL (clients.flatten.map (CMSStep.srcCell 1 1)) = 16 := by decide +kernel

example : CMS.merge s0 ⟨2, 3, src⟩ = .ok (cmsStepM s0 (.mergeFrom src)) :=
  cmsStepM_mergeFrom_eq_merge s0 ⟨2, 3, src⟩ rfl rfl

/-- ill-shaped operands (never produced by the code: `Merge` checks the dimensions) -/
example : exec cmsStepM ⟨1, 3, [[1, 2, 3]]⟩ [.update [2] 5, .mergeFrom [[1]]]
      = exec cmsStepM ⟨1, 3, [[1, 2, 3]]⟩ [.mergeFrom [[1]], .update [2] 5] ∧
    (exec cmsStepM ⟨1, 3, [[1, 2, 3]]⟩ [.update [2] 5, .mergeFrom [[1]]]).m = [[2]] := by decide +kernel

def hclients : List (List HLLStep) := [[.mergeFrom [3, 0, 9, 1]], [.update 1 7, .update 2 4]]
def hw : List HLLStep := [.update 1 7, .mergeFrom [3, 0, 9, 1], .update 2 4]

theorem hw_interleaving : Interleaving hclients hw :=
  Interleaving.of_pick (is := [1, 0, 1]) (by decide +kernel)

example : exec hllStepM [0, 2, 0, 5] hw
    = [HLLStep.update 2 4, .mergeFrom [3, 0, 9, 1], .update 1 7].foldl hllStepM [0, 2, 0, 5] :=
  C16_hll_with_merge _ hclients hw hw_interleaving _ (by decide +kernel)

example : exec hllStepM [0, 2, 0, 5] hw
    = [HLLStep.update 2 4, .mergeFrom [3, 0, 9, 1], .update 1 7].foldl hllStepM [0, 2, 0, 5] := by
  decide +kernel

example : exec hllStepM [0, 2, 0, 5] hw = [3, 7, 9, 5] := by decide +kernel

example : hllStepM (exec hllStepM [0, 2, 0, 5] hw) (.mergeFrom [3, 0, 9, 1]) = exec hllStepM [0, 2, 0, 5] hw :=
  C16_hll_merge_not_lost _ hclients hw hw_interleaving _ (by decide +kernel)

/-- sources of another length (never produced by the code: `Merge` checks `m`) -/
example : exec hllStepM [0, 2, 0, 5] [.mergeFrom [9], .update 0 3, .mergeFrom [1, 1, 1, 1, 8, 8]]
      = exec hllStepM [0, 2, 0, 5] [.mergeFrom [1, 1, 1, 1, 8, 8], .mergeFrom [9], .update 0 3] ∧
    exec hllStepM [0, 2, 0, 5] [.mergeFrom [9], .update 0 3, .mergeFrom [1, 1, 1, 1, 8, 8]]
      = [9, 2, 1, 5] := by decide +kernel

example : HLL.merge ⟨4, [0, 2, 0, 5]⟩ ⟨4, [3, 0, 9, 1]⟩
    = .ok { (⟨4, [0, 2, 0, 5]⟩ : HLL) with regs := hllStepM [0, 2, 0, 5] (.mergeFrom [3, 0, 9, 1]) } :=
  hllStepM_mergeFrom_eq_merge _ _ rfl

end C16MergeExample

end Gostatix
