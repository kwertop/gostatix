/-
  C04 — Top-K: the tracked heap against the abstract specification `TopK.Step`
  (Gostatix/Model/TopKSpec.lean).

  `Reach k evs heap`: `heap` is a heap the specification can reach from the empty heap by the
  history `evs` of inserts `(x, c, f)` (`f` = sketch estimate of `x` right after the update),
  for ANY resolution of frequency ties.  `EstOK evs` is what the Count-Min theorems provide:
  `trueTotal ≤ f ≤ total` at every insert, and estimates of one element never decrease
  (`CMS.C04_count_update_ge` below).  Neither `k ≥ 1` nor `c ≥ 1` is needed.
  Helper lemmas: Gostatix/Proofs/TopK*.lean, Gostatix/Proofs/GoHeap.lean.
-/
import Gostatix.Proofs.TopKInv
import Gostatix.Proofs.TopKSort
import Gostatix.Proofs.TopKRedis
import Gostatix.Proofs.TopKCMS
import Gostatix.Proofs.TopKMem
import Gostatix.Proofs.TopKRun

namespace Gostatix.TopK

variable {E : Type} [DecidableEq E]

omit [DecidableEq E] in
/-- The decidable guard `Admit` of the specification is the guard of the Go code:
    `len(heap) < k || f >= (the minimal frequency stored in heap)`. -/
theorem C04_admit_iff (k : Nat) (heap : List (E × Nat)) (f : Nat) :
    Admit k heap f ↔ (heap.length < k ∨ ∃ mn, isMinFreq heap mn ∧ f ≥ mn) :=
  admit_iff_isMinFreq k heap f

/-- No element is tracked twice (this one holds for arbitrary estimates). -/
theorem C04_nodup {k : Nat} {evs : List (Event E)} {heap : List (E × Nat)}
    (hr : Reach k evs heap) : (heap.map (·.1)).Nodup :=
  reach_nodup hr

/-- `numDistinct` counts what it should: `distinct l` has no duplicates and the same members. -/
theorem C04_distinct_spec (l : List E) : (distinct l).Nodup ∧ ∀ y, y ∈ distinct l ↔ y ∈ l :=
  ⟨distinct_nodup l, mem_distinct l⟩

/-- The heap holds exactly `min k (number of distinct inserted elements)` entries. -/
theorem C04_size {k : Nat} {evs : List (Event E)} {heap : List (E × Nat)}
    (hr : Reach k evs heap) (he : EstOK evs) : heap.length = min k (numDistinct evs) :=
  inv_size (reach_inv hr he)

/-- Every reported count is at least the element's true total and at most the stream total. -/
theorem C04_count_bounds {k : Nat} {evs : List (Event E)} {heap : List (E × Nat)}
    (hr : Reach k evs heap) (he : EstOK evs) :
    ∀ p ∈ heap, trueTotal evs p.1 ≤ p.2 ∧ p.2 ≤ total evs :=
  fun p hp => lastEst_bounds evs he p.1 p.2 ((reach_inv hr he).stored p hp)

/-- Every inserted element that is NOT reported has a true total of at most every reported
    count (so at most the smallest reported count). -/
theorem C04_unreported_light {k : Nat} {evs : List (Event E)} {heap : List (E × Nat)}
    (hr : Reach k evs heap) (he : EstOK evs) (y : E) (hy : ∃ e ∈ evs, e.x = y)
    (hno : ∀ p ∈ heap, p.1 ≠ y) : ∀ p ∈ heap, trueTotal evs y ≤ p.2 := by
  intro p hp
  obtain ⟨e, hmem, rfl⟩ := hy
  obtain ⟨g, hg⟩ := lastEst_of_mem evs e hmem
  exact Nat.le_trans (lastEst_bounds evs he e.x g hg).1
    ((reach_inv hr he).light e.x g hg hno p hp)

/-- Without collisions (every estimate exact) the reported counts are the true totals and every
    unreported element's true total is at most every reported element's true total: the reported
    set is a top-k set, up to ties at the boundary. -/
theorem C04_exact_without_collisions {k : Nat} {evs : List (Event E)} {heap : List (E × Nat)}
    (hr : Reach k evs heap) (he : EstOK evs) (hx : Exact evs) :
    (∀ p ∈ heap, p.2 = trueTotal evs p.1) ∧
    (∀ y, (∃ e ∈ evs, e.x = y) → (∀ p ∈ heap, p.1 ≠ y) →
      ∀ p ∈ heap, trueTotal evs y ≤ trueTotal evs p.1) := by
  have hcnt : ∀ p ∈ heap, p.2 = trueTotal evs p.1 :=
    fun p hp => lastEst_exact evs hx p.1 p.2 ((reach_inv hr he).stored p hp)
  refine ⟨hcnt, ?_⟩
  intro y hy hno p hp
  rw [← hcnt p hp]
  exact C04_unreported_light hr he y hy hno p hp

theorem C04_values_perm (h : List HElem) : (values h).Perm h := values_perm h

theorem C04_values_sorted (h : List HElem) :
    List.Pairwise (fun a b => a.2 > b.2 ∨ (a.2 = b.2 ∧ a.1 ≤ b.1)) (values h) :=
  values_sorted h

theorem C04_values_sorted_strict (h : List HElem) (hn : (h.map (·.1)).Nodup) :
    List.Pairwise (fun a b => a.2 > b.2 ∨ (a.2 = b.2 ∧ a.1 < b.1)) (values h) := by
  have hn' : ((values h).map (·.1)).Nodup := (((values_perm h).map (·.1)).nodup_iff).2 hn
  have hne : (values h).Pairwise (fun a b => a.1 ≠ b.1) := List.pairwise_map.1 hn'
  refine ((values_sorted h).and hne).imp ?_
  rintro a b ⟨h1 | ⟨h1, h2⟩, h3⟩
  · exact Or.inl h1
  · exact Or.inr ⟨h1, Std.lt_of_le_of_ne h2 h3⟩

theorem C04_values_size {k : Nat} {evs : List (Event String)} {heap : List HElem}
    (hr : Reach k evs heap) (he : EstOK evs) :
    (values heap).length = min k (numDistinct evs) ∧ ((values heap).map (·.1)).Nodup :=
  ⟨by rw [(values_perm heap).length_eq]; exact C04_size hr he,
   (((values_perm heap).map (·.1)).nodup_iff).2 (C04_nodup hr)⟩

/-- The Redis variant refines the specification: on a sorted set (sorted by `zLt`, no member
    twice) `offerRedis` is a `Step`, and the result is again such a sorted set. -/
theorem C04_redis_refines_spec (k : Nat) (z : List HElem) (x : String) (f : Nat)
    (hs : z.Pairwise (fun a b => zLt a b = true)) (hn : (z.map (·.1)).Nodup) :
    Step k z (x, f) (offerRedis k z x f) ∧
    (offerRedis k z x f).Pairwise (fun a b => zLt a b = true) ∧
    ((offerRedis k z x f).map (·.1)).Nodup :=
  redis_refines_spec k z x f hs hn

theorem C04_redis_reach (k : Nat) (evs : List (Event String)) :
    Reach k evs (evs.foldl (fun z e => offerRedis k z e.x e.f) []) ∧
    (evs.foldl (fun z e => offerRedis k z e.x e.f) []).Pairwise (fun a b => zLt a b = true) ∧
    ((evs.foldl (fun z e => offerRedis k z e.x e.f) []).map (·.1)).Nodup := by
  have r := reach_foldl id (fun z => z.Pairwise (fun a b => zLt a b = true))
    (fun z e => offerRedis k z e.x e.f) k
    (fun z e hs hn => have s := redis_refines_spec k z e.x e.f hs hn; ⟨s.1, s.2.1⟩)
    [] rfl List.Pairwise.nil evs
  exact ⟨r.1, r.2, reach_nodup r.1⟩

theorem C04_heapInv_def (h : Array HElem) :
    HeapInv h ↔ ∀ i (hi : i < h.size) (_ : 0 < i), (h[(i - 1) / 2]'(by omega)).2 ≤ h[i].2 :=
  Iff.rfl

theorem C04_goheap_push (h : Array HElem) (x : HElem) (hi : HeapInv h) :
    (GoHeap.push h x).toList.Perm (h.toList ++ [x]) ∧ HeapInv (GoHeap.push h x) := by
  rw [heapInv_iff] at *
  exact GoHeap.push_spec h x hi

theorem C04_goheap_pop (h : Array HElem) (hs : 0 < h.size) (hi : HeapInv h) :
    ((GoHeap.pop h).toList ++ [h[0]]).Perm h.toList ∧ (∀ e ∈ h.toList, h[0].2 ≤ e.2) ∧
      HeapInv (GoHeap.pop h) := by
  rw [heapInv_iff, Array.getElem_eq_getD ("", 0)] at *
  exact ⟨(GoHeap.pop_spec h hs hi).1, root_le hi, (GoHeap.pop_spec h hs hi).2⟩

theorem C04_goheap_remove (h : Array HElem) (i : Nat) (hlt : i < h.size) (hi : HeapInv h) :
    ((GoHeap.remove h i).toList ++ [h[i]]).Perm h.toList ∧ HeapInv (GoHeap.remove h i) := by
  rw [heapInv_iff, Array.getElem_eq_getD ("", 0)] at *
  exact GoHeap.remove_spec h i hlt hi

/-- The in-memory variant refines the specification: on a heap-ordered array without duplicate
    elements `offer` is a `Step` (for every `k`), and the result is again heap-ordered. -/
theorem C04_mem_refines_spec (k : Nat) (h : Array HElem) (x : String) (f : Nat)
    (hinv : HeapInv h) (hn : (h.toList.map (·.1)).Nodup) :
    Step k h.toList (x, f) (offer k h x f).toList ∧ HeapInv (offer k h x f) :=
  mem_refines_spec k h x f hinv hn

theorem C04_mem_reach (k : Nat) (evs : List (Event String)) :
    Reach k evs (evs.foldl (fun h e => offer k h e.x e.f) #[]).toList ∧
    HeapInv (evs.foldl (fun h e => offer k h e.x e.f) #[]) :=
  reach_foldl Array.toList HeapInv (fun h e => offer k h e.x e.f) k
    (fun h e hi hn => mem_refines_spec k h e.x e.f hi hn) #[] rfl (fun i hi _ => by simp at hi) evs

/-- End to end for the executable model: a run of `TopK.insert` (sketch update, estimate, heap
    part) from a state with an empty heap ends in a reachable heap of the specification for the
    history `sketchEvents` of the run; the heap order holds; and the estimates of one element
    never decrease — the monotonicity half of `EstOK`, discharged from the sketch. -/
theorem C04_insert_run (posOf : String → List Nat) (t : TopK) (ht : t.heap = #[])
    (ops : List (String × Nat)) :
    Reach t.k (sketchEvents posOf t.sketch ops) (runInserts posOf t ops).heap.toList ∧
    HeapInv (runInserts posOf t ops).heap ∧
    (sketchEvents posOf t.sketch ops).Pairwise (fun a b => a.x = b.x → a.f ≤ b.f) := by
  rw [runInserts_heap, ht]
  exact ⟨(C04_mem_reach t.k _).1, (C04_mem_reach t.k _).2, sketchEvents_mono posOf t.sketch ops⟩

/-- `EstOK` is the conjunction of the Count-Min bounds at every insert and that monotonicity. -/
theorem C04_estOK_of_bounds_mono (evs : List (Event String))
    (hb : ∀ i (h : i < evs.length),
      trueTotal (evs.take (i + 1)) evs[i].x ≤ evs[i].f ∧ evs[i].f ≤ total (evs.take (i + 1)))
    (hm : evs.Pairwise (fun a b => a.x = b.x → a.f ≤ b.f)) : EstOK evs :=
  estOK_of_bounds_mono evs hb hm

end Gostatix.TopK

namespace Gostatix.CMS

/-- Estimates never decrease: discharges the monotonicity part of `EstOK` from the sketch. -/
theorem C04_count_update_ge (s : CMS) (p q : List Nat) (c : Nat) :
    (s.update p c).count q ≥ s.count q := count_update_ge s p q c

end Gostatix.CMS

namespace Gostatix.TopK

/-- run with `k = 2` below: `c` ties with `b` at the boundary (both 1) and one of them is evicted;
    `b` returns. -/
def exampleHistory : List (Event String) :=
  [⟨"a", 2, 2⟩, ⟨"b", 1, 1⟩, ⟨"c", 1, 1⟩, ⟨"b", 1, 2⟩]

theorem exampleHistory_estOK : EstOK exampleHistory := by decide +kernel

example : EstOK exampleHistory := exampleHistory_estOK
example : Exact exampleHistory := by decide +kernel
example : CountsPos exampleHistory := by decide +kernel

/-- the tie is resolved against `b` (as the sorted set does: "b" < "c") -/
theorem exampleReach : Reach 2 exampleHistory [("b", 2), ("a", 2)] :=
  .snoc (.snoc (.snoc (.snoc .nil
    (heap' := [("a", 2)]) (by decide +kernel))
    (heap' := [("a", 2), ("b", 1)]) (by decide +kernel))
    (heap' := [("a", 2), ("c", 1)]) (by decide +kernel))
    (by decide +kernel)

/-- … or against `c`: both are reachable heaps of the same history -/
example : Reach 2 (exampleHistory.take 3) [("a", 2), ("b", 1)] :=
  .snoc (.snoc (.snoc .nil
    (heap' := [("a", 2)]) (by decide +kernel))
    (heap' := [("a", 2), ("b", 1)]) (by decide +kernel))
    (by decide +kernel)

example : ([("b", 2), ("a", 2)] : List HElem).length = min 2 (numDistinct exampleHistory) :=
  C04_size exampleReach exampleHistory_estOK
example : numDistinct exampleHistory = 3 := by decide +kernel
example : trueTotal exampleHistory "c" ≤ 2 :=
  C04_unreported_light exampleReach exampleHistory_estOK "c" (by decide +kernel)
    (by decide +kernel) ("a", 2) (by decide +kernel)
example : ∀ p ∈ ([("b", 2), ("a", 2)] : List HElem), p.2 = trueTotal exampleHistory p.1 :=
  (C04_exact_without_collisions exampleReach exampleHistory_estOK (by decide +kernel)).1
example : values [("b", 2), ("a", 2)] = [("a", 2), ("b", 2)] := by decide +kernel
example : exampleHistory.foldl (fun z e => offerRedis 2 z e.x e.f) [] = [("a", 2), ("b", 2)] := by
  decide +kernel
example : HeapInv #[("b", 2), ("a", 2)] := by decide +kernel
/-- the in-memory run of the example history is a reachable heap, so all of the above applies -/
example : (exampleHistory.foldl (fun h e => offer 2 h e.x e.f) #[]).size
    = min 2 (numDistinct exampleHistory) := by
  have := C04_size (C04_mem_reach 2 exampleHistory).1 exampleHistory_estOK
  simpa using this

end Gostatix.TopK
