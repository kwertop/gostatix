/-
  C19Import — the import clause of C19 instantiated on the string-keyed Redis store
  (`Redis.Store`, Model/Redis.lean), and the frames of `Equals` and of the constructors, which
  Props/C19.lean does not have.

  `C19_import_new_keys` (Props/C19.lean) is generic in the import and assumes `SupportedOn K imp`.
  Here that hypothesis is proved for the `Import(data, withNewKey = true)` of the four
  Redis-backed structures that have one (`cmsImportOp`, `hllImportOp` below, `topkImportOp`,
  `cuckooImportOp` in Proofs/C19Import.lean: everything after the JSON decoding, which does not
  touch Redis; Model/Json.lean and C10 treat it).  The conclusion is drawn for handles with distinct
  16-letter base keys (`IsBase`): after the import every key outside the new handle's key set, in
  particular every key of any other live structure, holds the value it held before, and every
  operation supported on that structure's keys answers as without the import (`…_untouched`);
  `…_fresh`: the same when only the freshly generated base keys are assumed different — the
  metadata key that `Import` keeps may be shared, e.g. when a structure imports its own export.

  LEVELS.  The five scripts involved are covered as EXTRACTED: the statements are about
  `Lua.run fuel Generated.LuaScripts.<script> KEYS ARGV`, and the Lua tie theorems, which hold for
  every store, transfer the frame of their closed forms to the interpreter run.  The commands the
  Go code sends directly (`HSET`, `RPUSH`, `INCRBY`, `SET`) exist only as hand models (`cmd…` of
  Model/Redis.lean, Model/RedisCuckoo.lean); `C19_frame_cuckoo_init_buckets`, `C19_frame_cms_equals`
  (hand model `cmsEquals`, tied to the extracted `compareMatrixScript` on canonical rows by
  `lua_compareMatrixScript_cmsEquals`) and `C19_frame_hll_equals` are at the level of the hand model.

  HYPOTHESES (each with a counterexample at the end, or a remark why it is only a proof device)
   * the document is consistent with the new handle: `len(matrix) ≤ rows`
     (`cmsImport_rows_needed`), `len(buckets) ≤ size` (`cuckooImport_size_needed`); a document with
     more rows/buckets than it declares makes the import write keys outside `keysOf`.
   * distinct `IsBase` base keys (`import_same_key_touches`, `import_not_IsBase_touches`).
   * the preconditions of the Lua ties: `1 ≤ columns ≤ 4800`, rectangular matrix, at most 4800
     registers, scores `≤ 2^53`, array sizes below 2^26, fuel.  They are NOT needed for the truth
     of the frame (outside them the interpreter answers `unsupported`, or `unpack` raises), only to
     identify the interpreter run with its closed form; `supported_hllImport_overflow` shows the
     frame for ≥ 5120 registers as well.

  NOT PROVED / not modelled: the JSON decoding; `Import(data, false)` (keys taken from the
  document: no freshness); that `util.GenerateRandomString` returns unused keys (an assumption,
  as in C19); Bloom's import (`BloomFilter.Import` of a Redis filter: not asked for; its bitset
  commands are framed by `C19_frame_bloom_*`); the panic of `setMatrix` on an empty matrix
  (`matrix[0]`); the order in which Go iterates the frequency map (any order `ps` is covered).
-/
import Gostatix.Proofs.C19Import
import Gostatix.Proofs.Json
import Gostatix.Props.C09Stable
namespace Gostatix.Redis
open Gostatix.Generated.LuaScripts


theorem supported_cmsSetMatrix (h : CMSHandle) (cols iters : Nat) (cells : List String) (fuel : Nat)
    (hfuel : iters + cols + 60 ≤ fuel) (hcols : 1 ≤ cols) (hcols' : cols ≤ Lua.unpackSafe)
    (hcells : cells.length = iters * cols) (hn : 2 + cells.length < Lua.maxArrayIndex)
    (hiters : iters ≤ h.rows) :
    SupportedOn h.keysOf
      (luaOp fuel count_min_sketch_redis_setMatrixScript [h.key] (decimal cols :: cells)) :=
  supported_luaSetMatrix _ _ cols iters cells fuel hfuel hcols hcols' hcells hn
    (fun _ hr => h.rowKey_mem (by omega))

/-- `CountMinSketchRedis.Import(data, true)` once `data` is decoded and the new key generated:
    `setMatrix(matrix)` — KEYS = `[key]`, ARGV = `len(matrix[0])`, then the flattened matrix. -/
def cmsImportOp (fuel : Nat) (key : String) (matrix : List (List Nat)) : Op Lua.Outcome :=
  luaOp fuel count_min_sketch_redis_setMatrixScript [key]
    (decimal (matrix.headD []).length :: matrix.flatten.map decimal)

def cmsWritten (key : String) (iters : Nat) : List KeyD := (List.range iters).map (KeyD.row key)

theorem cmsWritten_mem (key : String) {iters r : Nat} (hr : r < iters) :
    cmsRowKey key r ∈ (cmsWritten key iters).map KeyD.render :=
  List.mem_map.mpr ⟨KeyD.row key r, List.mem_map.mpr ⟨r, List.mem_range.mpr hr, rfl⟩, rfl⟩

theorem supported_cmsImport_on (K : List String) (key : String) (matrix : List (List Nat)) (fuel : Nat)
    (hrect : ∀ row ∈ matrix, row.length = (matrix.headD []).length)
    (hcols : 1 ≤ (matrix.headD []).length) (hcols' : (matrix.headD []).length ≤ Lua.unpackSafe)
    (hfuel : matrix.length + (matrix.headD []).length + 60 ≤ fuel)
    (hn : 2 + matrix.length * (matrix.headD []).length < Lua.maxArrayIndex)
    (hK : ∀ r, r < matrix.length → cmsRowKey key r ∈ K) :
    SupportedOn K (cmsImportOp fuel key matrix) := by
  have hl : (matrix.flatten.map decimal).length = matrix.length * (matrix.headD []).length := by
    rw [List.length_map, Json.flatten_length_const matrix _ hrect]
  exact supported_luaSetMatrix K key _ matrix.length _ fuel hfuel hcols hcols' hl (by rw [hl]; exact hn) hK

theorem supported_cmsImport (h : CMSHandle) (matrix : List (List Nat)) (fuel : Nat)
    (hrect : ∀ row ∈ matrix, row.length = (matrix.headD []).length)
    (hcols : 1 ≤ (matrix.headD []).length) (hcols' : (matrix.headD []).length ≤ Lua.unpackSafe)
    (hfuel : matrix.length + (matrix.headD []).length + 60 ≤ fuel)
    (hn : 2 + matrix.length * (matrix.headD []).length < Lua.maxArrayIndex)
    (hrows : matrix.length ≤ h.rows) :
    SupportedOn h.keysOf (cmsImportOp fuel h.key matrix) :=
  supported_cmsImport_on _ _ matrix fuel hrect hcols hcols' hfuel hn (fun _ hr => h.rowKey_mem (by omega))


/-- `HyperLogLogRedis.Import(data, true)` once decoded: `importRegisters(registers)` —
    KEYS = `[key]`, ARGV = the registers. -/
def hllImportOp (fuel : Nat) (key : String) (regs : List Nat) : Op Lua.Outcome :=
  luaOp fuel hyperloglog_redis_importRegistersScript [key] (regs.map decimal)

theorem supported_hllImport (h : HLLHandle) (regs : List Nat) (fuel : Nat)
    (hfuel : regs.length + 18 ≤ fuel) (hn : regs.length ≤ 4800) (hr : ∀ r ∈ regs, r ≤ 2 ^ 53) :
    SupportedOn h.keysOf (hllImportOp fuel h.key regs) :=
  supported_luaImportRegisters _ _ h.key_mem regs fuel hfuel hn hr

/-- 5120 registers or more: `unpack` raises before the `RPUSH`, nothing is read or written. -/
theorem supported_hllImport_overflow (K : List String) (key : String) (regs : List Nat) (fuel : Nat)
    (hfuel : regs.length + 18 ≤ fuel) (hbig : 5120 ≤ regs.length) (hmax : regs.length < 67108864)
    (hr : ∀ r ∈ regs, r ≤ 2 ^ 53) : SupportedOn K (hllImportOp fuel key regs) := by
  have e : hllImportOp fuel key regs = Op.ret (Lua.Outcome.error "registry overflow") :=
    funext fun st => LuaHLL.lua_importRegisters_overflow st key regs fuel hfuel hbig hmax hr
  rw [e]
  exact supported_ret K _


/-- the keys `TopKRedis.Import` writes: the new heap, the new sketch's metadata and rows (NOT the
    Top-K's own metadata key, which `Import` neither regenerates nor rewrites). -/
def topkWritten (t : TopKHandle) : List KeyD :=
  [KeyD.base t.heapKey, KeyD.base t.sketch.metadataKey] ++ cmsWritten t.sketch.key t.sketch.rows

theorem supported_topkImport (fuel : Nat) (t : TopKHandle) (ps : List (String × Nat))
    (cols iters : Nat) (cells : List String)
    (hf₁ : ps.length + 15 ≤ fuel) (hlen : 2 * ps.length < 67108864) (hsc : ∀ p ∈ ps, p.2 ≤ 2 ^ 53)
    (hf₂ : t.sketch.rows + t.sketch.cols + 45 ≤ fuel) (hc₂ : t.sketch.cols ≤ Lua.unpackSafe)
    (hr₂ : t.sketch.rows ≤ Lua.numLimit)
    (hf₃ : iters + cols + 60 ≤ fuel) (hcols : 1 ≤ cols) (hcols' : cols ≤ Lua.unpackSafe)
    (hcells : cells.length = iters * cols) (hn : 2 + cells.length < Lua.maxArrayIndex)
    (hiters : iters ≤ t.sketch.rows) :
    SupportedOn t.keysOf (topkImportOp fuel t ps cols cells) :=
  supported_topkImportOp _ fuel t ps cols iters cells t.heapKey_mem
    (t.sketch_mem t.sketch.metadataKey_mem) (fun _ hr => t.sketch_mem (t.sketch.rowKey_mem hr))
    hf₁ hlen hsc hf₂ hc₂ hr₂ hf₃ hcols hcols' hcells hn hiters


theorem supported_cuckooImport (fuel : Nat) (h : CuckooHandle) (length : Nat) (buckets : List (List String))
    (hfuel : h.n + 15 ≤ fuel) (hn : h.n + 1 < 67108864) (hb : buckets.length ≤ h.n) :
    SupportedOn h.keysOf (cuckooImportOp fuel h length buckets) :=
  supported_cuckooImportOp _ fuel h length buckets h.key_mem h.metadataKey_mem
    (fun _ hi => ⟨h.bucketKey_mem hi, h.lenKey_mem hi⟩) hfuel hn hb


theorem C19_import_untouched {ρ ρ' : Type} (new g : Handle) (imp : Op ρ)
    (hsup : SupportedOn new.keysOf imp)
    (hb₁ : ∀ b ∈ new.bases, IsBase b) (hb₂ : ∀ b ∈ g.bases, IsBase b)
    (hne : ∀ b₁ ∈ new.bases, ∀ b₂ ∈ g.bases, b₁ ≠ b₂) (s : Store) :
    (∀ k, k ∉ new.keysOf → (imp s).1 k = s k) ∧
    (∀ k ∈ g.keysOf, (imp s).1 k = s k) ∧
    (∀ op : Op ρ', SupportedOn g.keysOf op → (op (imp s).1).2 = (op s).2) :=
  C19_import_new_keys new.keysOf g.keysOf imp hsup
    (fun k hk hk' => C19_disjoint new g hb₁ hb₂ hne k hk' hk) s

theorem C19_import_fresh_keys {ρ ρ' : Type} (D : List KeyD) (g : Handle) (imp : Op ρ)
    (hsup : SupportedOn (D.map KeyD.render) imp)
    (hD : ∀ d ∈ D, IsBase d.baseOf ∧ d.baseOf ∉ g.bases) (hg : ∀ b ∈ g.bases, IsBase b) (s : Store) :
    (∀ k, k ∉ D.map KeyD.render → (imp s).1 k = s k) ∧
    (∀ k ∈ g.keysOf, (imp s).1 k = s k) ∧
    (∀ op : Op ρ', SupportedOn g.keysOf op → (op (imp s).1).2 = (op s).2) :=
  C19_import_new_keys (D.map KeyD.render) g.keysOf imp hsup (fresh_disjoint D g hg hD) s

theorem C19_import_cms_untouched {ρ' : Type} (new : CMSHandle) (g : Handle) (matrix : List (List Nat))
    (fuel : Nat)
    (hrect : ∀ row ∈ matrix, row.length = (matrix.headD []).length)
    (hcols : 1 ≤ (matrix.headD []).length) (hcols' : (matrix.headD []).length ≤ Lua.unpackSafe)
    (hfuel : matrix.length + (matrix.headD []).length + 60 ≤ fuel)
    (hn : 2 + matrix.length * (matrix.headD []).length < Lua.maxArrayIndex)
    (hrows : matrix.length ≤ new.rows)
    (hb₁ : ∀ b ∈ new.bases, IsBase b) (hb₂ : ∀ b ∈ g.bases, IsBase b)
    (hne : ∀ b₁ ∈ new.bases, ∀ b₂ ∈ g.bases, b₁ ≠ b₂) (s : Store) :
    (∀ k, k ∉ new.keysOf → (cmsImportOp fuel new.key matrix s).1 k = s k) ∧
    (∀ k ∈ g.keysOf, (cmsImportOp fuel new.key matrix s).1 k = s k) ∧
    (∀ op : Op ρ', SupportedOn g.keysOf op →
      (op (cmsImportOp fuel new.key matrix s).1).2 = (op s).2) :=
  C19_import_untouched (Handle.cms new) g _
    (supported_cmsImport new matrix fuel hrect hcols hcols' hfuel hn hrows) hb₁ hb₂ hne s

theorem C19_import_cms_fresh {ρ' : Type} (key : String) (g : Handle) (matrix : List (List Nat))
    (fuel : Nat)
    (hrect : ∀ row ∈ matrix, row.length = (matrix.headD []).length)
    (hcols : 1 ≤ (matrix.headD []).length) (hcols' : (matrix.headD []).length ≤ Lua.unpackSafe)
    (hfuel : matrix.length + (matrix.headD []).length + 60 ≤ fuel)
    (hn : 2 + matrix.length * (matrix.headD []).length < Lua.maxArrayIndex)
    (hkey : IsBase key) (hfresh : key ∉ g.bases) (hg : ∀ b ∈ g.bases, IsBase b) (s : Store) :
    (∀ k ∈ g.keysOf, (cmsImportOp fuel key matrix s).1 k = s k) ∧
    (∀ op : Op ρ', SupportedOn g.keysOf op → (op (cmsImportOp fuel key matrix s).1).2 = (op s).2) := by
  refine (C19_import_fresh_keys (cmsWritten key matrix.length) g _
    (supported_cmsImport_on _ key matrix fuel hrect hcols hcols' hfuel hn fun _ hr => cmsWritten_mem key hr)
    ?_ hg s).2
  intro d hd
  obtain ⟨r, _, rfl⟩ := List.mem_map.mp hd
  exact ⟨hkey, hfresh⟩

theorem C19_import_hll_untouched {ρ' : Type} (new : HLLHandle) (g : Handle) (regs : List Nat) (fuel : Nat)
    (hfuel : regs.length + 18 ≤ fuel) (hn : regs.length ≤ 4800) (hr : ∀ r ∈ regs, r ≤ 2 ^ 53)
    (hb₁ : ∀ b ∈ new.bases, IsBase b) (hb₂ : ∀ b ∈ g.bases, IsBase b)
    (hne : ∀ b₁ ∈ new.bases, ∀ b₂ ∈ g.bases, b₁ ≠ b₂) (s : Store) :
    (∀ k, k ∉ new.keysOf → (hllImportOp fuel new.key regs s).1 k = s k) ∧
    (∀ k ∈ g.keysOf, (hllImportOp fuel new.key regs s).1 k = s k) ∧
    (∀ op : Op ρ', SupportedOn g.keysOf op → (op (hllImportOp fuel new.key regs s).1).2 = (op s).2) :=
  C19_import_untouched (Handle.hll new) g _ (supported_hllImport new regs fuel hfuel hn hr) hb₁ hb₂ hne s

theorem C19_import_hll_fresh {ρ' : Type} (key : String) (g : Handle) (regs : List Nat) (fuel : Nat)
    (hfuel : regs.length + 18 ≤ fuel) (hn : regs.length ≤ 4800) (hr : ∀ r ∈ regs, r ≤ 2 ^ 53)
    (hkey : IsBase key) (hfresh : key ∉ g.bases) (hg : ∀ b ∈ g.bases, IsBase b) (s : Store) :
    (∀ k ∈ g.keysOf, (hllImportOp fuel key regs s).1 k = s k) ∧
    (∀ op : Op ρ', SupportedOn g.keysOf op → (op (hllImportOp fuel key regs s).1).2 = (op s).2) := by
  refine (C19_import_fresh_keys [KeyD.base key] g _
    (supported_luaImportRegisters _ _ List.mem_cons_self regs fuel hfuel hn hr) ?_ hg s).2
  intro d hd
  rw [List.mem_singleton.mp hd]
  exact ⟨hkey, hfresh⟩

theorem C19_import_cms_exporter_abs (new exp : CMSHandle) (matrix : List (List Nat)) (fuel : Nat)
    (hrect : ∀ row ∈ matrix, row.length = (matrix.headD []).length)
    (hcols : 1 ≤ (matrix.headD []).length) (hcols' : (matrix.headD []).length ≤ Lua.unpackSafe)
    (hfuel : matrix.length + (matrix.headD []).length + 60 ≤ fuel)
    (hn : 2 + matrix.length * (matrix.headD []).length < Lua.maxArrayIndex)
    (hkey : IsBase new.key) (hfresh : new.key ∉ exp.bases) (hg : ∀ b ∈ exp.bases, IsBase b) (s : Store) :
    absCMS (cmsImportOp fuel new.key matrix s).1 exp = absCMS s exp :=
  absCMS_of_agree exp _ _
    (C19_import_cms_fresh (ρ' := Unit) new.key (Handle.cms exp) matrix fuel hrect hcols hcols' hfuel hn
      hkey hfresh hg s).1

theorem C19_import_hll_exporter_abs (new exp : HLLHandle) (regs : List Nat) (fuel : Nat)
    (hfuel : regs.length + 18 ≤ fuel) (hn : regs.length ≤ 4800) (hr : ∀ r ∈ regs, r ≤ 2 ^ 53)
    (hkey : IsBase new.key) (hfresh : new.key ∉ exp.bases) (hg : ∀ b ∈ exp.bases, IsBase b) (s : Store) :
    absHLL (hllImportOp fuel new.key regs s).1 exp = absHLL s exp :=
  absHLL_of_agree exp _ _
    (C19_import_hll_fresh (ρ' := Unit) new.key (Handle.hll exp) regs fuel hfuel hn hr hkey hfresh hg s).1

theorem C19_import_topk_untouched {ρ' : Type} (new : TopKHandle) (g : Handle) (fuel : Nat)
    (ps : List (String × Nat)) (cols iters : Nat) (cells : List String)
    (hf₁ : ps.length + 15 ≤ fuel) (hlen : 2 * ps.length < 67108864) (hsc : ∀ p ∈ ps, p.2 ≤ 2 ^ 53)
    (hf₂ : new.sketch.rows + new.sketch.cols + 45 ≤ fuel) (hc₂ : new.sketch.cols ≤ Lua.unpackSafe)
    (hr₂ : new.sketch.rows ≤ Lua.numLimit)
    (hf₃ : iters + cols + 60 ≤ fuel) (hcols : 1 ≤ cols) (hcols' : cols ≤ Lua.unpackSafe)
    (hcells : cells.length = iters * cols) (hn : 2 + cells.length < Lua.maxArrayIndex)
    (hiters : iters ≤ new.sketch.rows)
    (hb₁ : ∀ b ∈ new.bases, IsBase b) (hb₂ : ∀ b ∈ g.bases, IsBase b)
    (hne : ∀ b₁ ∈ new.bases, ∀ b₂ ∈ g.bases, b₁ ≠ b₂) (s : Store) :
    (∀ k, k ∉ new.keysOf → (topkImportOp fuel new ps cols cells s).1 k = s k) ∧
    (∀ k ∈ g.keysOf, (topkImportOp fuel new ps cols cells s).1 k = s k) ∧
    (∀ op : Op ρ', SupportedOn g.keysOf op →
      (op (topkImportOp fuel new ps cols cells s).1).2 = (op s).2) :=
  C19_import_untouched (Handle.topk new) g _
    (supported_topkImport fuel new ps cols iters cells hf₁ hlen hsc hf₂ hc₂ hr₂ hf₃ hcols hcols' hcells hn
      hiters) hb₁ hb₂ hne s

theorem C19_import_topk_fresh {ρ' : Type} (new : TopKHandle) (g : Handle) (fuel : Nat)
    (ps : List (String × Nat)) (cols iters : Nat) (cells : List String)
    (hf₁ : ps.length + 15 ≤ fuel) (hlen : 2 * ps.length < 67108864) (hsc : ∀ p ∈ ps, p.2 ≤ 2 ^ 53)
    (hf₂ : new.sketch.rows + new.sketch.cols + 45 ≤ fuel) (hc₂ : new.sketch.cols ≤ Lua.unpackSafe)
    (hr₂ : new.sketch.rows ≤ Lua.numLimit)
    (hf₃ : iters + cols + 60 ≤ fuel) (hcols : 1 ≤ cols) (hcols' : cols ≤ Lua.unpackSafe)
    (hcells : cells.length = iters * cols) (hn : 2 + cells.length < Lua.maxArrayIndex)
    (hiters : iters ≤ new.sketch.rows)
    (hfresh : ∀ b ∈ [new.heapKey, new.sketch.key, new.sketch.metadataKey], IsBase b ∧ b ∉ g.bases)
    (hg : ∀ b ∈ g.bases, IsBase b) (s : Store) :
    (∀ k ∈ g.keysOf, (topkImportOp fuel new ps cols cells s).1 k = s k) ∧
    (∀ op : Op ρ', SupportedOn g.keysOf op →
      (op (topkImportOp fuel new ps cols cells s).1).2 = (op s).2) := by
  have hmem : ∀ d ∈ topkWritten new, d.render ∈ (topkWritten new).map KeyD.render :=
    fun d hd => List.mem_map.mpr ⟨d, hd, rfl⟩
  refine (C19_import_fresh_keys (topkWritten new) g _
    (supported_topkImportOp _ fuel new ps cols iters cells (hmem (.base new.heapKey) (by simp [topkWritten]))
      (hmem (.base new.sketch.metadataKey) (by simp [topkWritten]))
      (fun r hr => hmem (.row new.sketch.key r) (List.mem_append_right _ (List.mem_map.mpr ⟨r, List.mem_range.mpr hr, rfl⟩)))
      hf₁ hlen hsc hf₂ hc₂ hr₂ hf₃ hcols hcols' hcells hn hiters) ?_ hg s).2
  intro d hd
  unfold topkWritten at hd
  rcases List.mem_append.mp hd with hd | hd
  · simp only [List.mem_cons, List.not_mem_nil, or_false] at hd
    rcases hd with rfl | rfl
    · exact hfresh _ (by simp [KeyD.baseOf])
    · exact hfresh _ (by simp [KeyD.baseOf])
  · obtain ⟨r, _, rfl⟩ := List.mem_map.mp hd
    exact hfresh _ (by simp [KeyD.baseOf])

theorem C19_import_cuckoo_untouched {ρ' : Type} (new : CuckooHandle) (g : Handle) (fuel : Nat)
    (length : Nat) (buckets : List (List String))
    (hfuel : new.n + 15 ≤ fuel) (hn : new.n + 1 < 67108864) (hb : buckets.length ≤ new.n)
    (hb₁ : ∀ b ∈ new.bases, IsBase b) (hb₂ : ∀ b ∈ g.bases, IsBase b)
    (hne : ∀ b₁ ∈ new.bases, ∀ b₂ ∈ g.bases, b₁ ≠ b₂) (s : Store) :
    (∀ k, k ∉ new.keysOf → (cuckooImportOp fuel new length buckets s).1 k = s k) ∧
    (∀ k ∈ g.keysOf, (cuckooImportOp fuel new length buckets s).1 k = s k) ∧
    (∀ op : Op ρ', SupportedOn g.keysOf op →
      (op (cuckooImportOp fuel new length buckets s).1).2 = (op s).2) :=
  C19_import_untouched (Handle.cuckoo new) g _
    (supported_cuckooImport fuel new length buckets hfuel hn hb) hb₁ hb₂ hne s


theorem C19_frame_hll_equals (h g : HLLHandle) : SupportedOn (h.keysOf ++ g.keysOf) (hllEquals h g) :=
  C09_frame_hll_equals_all h g

/-- `CountMinSketchRedis.Equals` (`compareMatrix`; hand model `cmsEquals`, Proofs/C19Import.lean)
    reads the rows of both. -/
theorem C19_frame_cms_equals (h g : CMSHandle) : SupportedOn (h.keysOf ++ g.keysOf) (cmsEquals h g) :=
  supported_cmsEquals h g

theorem cmsEquals_canon (st : Store) (h g : CMSHandle) (m₁ m₂ : List (List Nat))
    (h₁ : LuaCMS.CanonRows st h.key h.rows m₁) (h₂ : LuaCMS.CanonRows st g.key h.rows m₂) :
    cmsEquals h g st =
      (st, Equals.CMSRedis.equals ⟨h.rows, h.cols, m₁⟩ ⟨g.rows, g.cols, m₂⟩) := by
  unfold cmsEquals Equals.CMSRedis.equals
  by_cases hd : h.rows ≠ g.rows ∨ h.cols ≠ g.cols
  · rw [if_pos hd, if_pos hd]; rfl
  · rw [if_neg hd, if_neg hd]
    exact cmsCompareLoop_canon st h.key g.key h.cols m₁ m₂ h.rows 0
      (fun i _ hi => h₁ i (by omega)) (fun i _ hi => h₂ i (by omega))

/-- … hence the EXTRACTED `compareMatrixScript`, called as `Equals` calls it after its dimension
    guard, computes `cmsEquals`: same (unchanged) store, reply `1` for `true`, nil otherwise. -/
theorem lua_compareMatrixScript_cmsEquals (st : Store) (h g : CMSHandle) (m₁ m₂ : List (List Nat))
    (hr : h.rows = g.rows) (hc : h.cols = g.cols)
    (fuel : Nat) (hfuel : h.rows + h.cols + 60 ≤ fuel)
    (hcols : h.cols + 1 < Lua.maxArrayIndex) (hrows : h.rows ≤ Lua.numLimit)
    (h₁ : LuaCMS.CanonRows st h.key h.rows m₁) (h₂ : LuaCMS.CanonRows st g.key h.rows m₂) :
    Lua.run fuel count_min_sketch_redis_compareMatrixScript [h.key, g.key]
        [decimal h.rows, decimal h.cols] st =
      ((cmsEquals h g st).1, match (cmsEquals h g st).2 with
        | some true => .reply (.int 1)
        | _ => .reply .nil) := by
  rw [cmsEquals_canon st h g m₁ m₂ h₁ h₂]
  exact LuaCMS.lua_count_min_sketch_redis_compareMatrixScript_eq st h.key g.key
    ⟨h.rows, h.cols, m₁⟩ ⟨g.rows, g.cols, m₂⟩ hr hc fuel hfuel hcols hrows h₁ h₂

theorem C19_frame_bloom_init (h : BloomHandle) : SupportedOn h.keysOf (bloomInit h) :=
  supported_bloomInit h

theorem C19_frame_bloom_create (h : BloomHandle) : SupportedOn h.keysOf (bloomCreate h) :=
  supported_bloomCreate h

theorem C19_frame_hll_create (h : HLLHandle) : SupportedOn h.keysOf (hllCreate h) :=
  supported_hllCreate h

/-- `NewCuckooFilterRedisWithRetries`: `setMetadata(0)` … -/
theorem C19_frame_cuckoo_create (h : CuckooHandle) : SupportedOn h.keysOf (cuckooCreate h) :=
  supported_cuckooSetMetadata h 0

theorem C19_frame_cuckoo_set_metadata (h : CuckooHandle) (length : Nat) :
    SupportedOn h.keysOf (cuckooSetMetadata h length) := supported_cuckooSetMetadata h length

/-- … and `initBuckets()`: hand model (`cuckooInitScript` + `bucketNew` per bucket) … -/
theorem C19_frame_cuckoo_init_buckets (h : CuckooHandle) : SupportedOn h.keysOf (cuckooInitBuckets h) :=
  supported_cuckooInitBuckets _ h h.key_mem (fun _ hi => h.lenKey_mem hi)

/-- … and with the extracted script. -/
theorem C19_frame_cuckoo_init_buckets_lua (fuel : Nat) (h : CuckooHandle)
    (hfuel : h.n + 15 ≤ fuel) (hn : h.n + 1 < 67108864) :
    SupportedOn h.keysOf (cuckooInitBucketsOp fuel h) :=
  supported_cuckooInitBucketsOp _ fuel h h.key_mem (fun _ hi => h.lenKey_mem hi) hfuel hn

/-- `NewTopKRedis`: the nested sketch's metadata, then its own. -/
theorem C19_frame_topk_create (t : TopKHandle) : SupportedOn t.keysOf (topkCreate t) :=
  supported_topkCreate t

/-! ## non-vacuity and counterexamples -/

section examples

/-- an exporter with two updates (`exS₂` of Props/C08.lean: sketch `exH`, rows `[0,7,0]`, `[2,0,5]`),
    and the importer's handle after `Import(export, true)`. -/
def impNew : CMSHandle := { rows := 2, cols := 3, key := "dddddddddddddddd", metadataKey := "ddddddddddddddde" }
def impMatrix : List (List Nat) := [[0, 7, 0], [2, 0, 5]]
def impS : Store := (cmsImportOp 100 impNew.key impMatrix exS₂).1

theorem exH_isBase : ∀ b ∈ (Handle.cms exH).bases, IsBase b := by decide +kernel

theorem impS_eval :
    (impS "dddddddddddddddd0" = some (.list ["0", "7", "0"]) ∧
      impS "dddddddddddddddd1" = some (.list ["2", "0", "5"])) ∧
    absCMS impS impNew = some { rows := 2, cols := 3, m := impMatrix } ∧
    (cmsEquals exH impNew impS).2 = some true ∧
    ((Lua.run 100 count_min_sketch_redis_compareMatrixScript [exH.key, impNew.key]
      [decimal 2, decimal 3] impS).2).cmsIsInt 1 = true := by decide +kernel

example : impS "dddddddddddddddd0" = some (.list ["0", "7", "0"]) ∧
    impS "dddddddddddddddd1" = some (.list ["2", "0", "5"]) := impS_eval.1
example : absCMS impS impNew = some { rows := 2, cols := 3, m := impMatrix } := impS_eval.2.1
example : exS₂ "dddddddddddddddd0" = none := by decide +kernel

theorem imp_cms_example :
    (∀ k ∈ (Handle.cms exH).keysOf, impS k = exS₂ k) ∧
    (∀ op : Op (Option Nat), SupportedOn (Handle.cms exH).keysOf op → (op impS).2 = (op exS₂).2) := by
  -- by the definition's equation: the kernel would run the import to see that `impS` is its body
  rw [impS]
  exact (C19_import_cms_untouched impNew (Handle.cms exH) impMatrix 100 (by decide) (by decide) (by decide)
    (by decide) (by decide) (by decide) (by decide +kernel) exH_isBase (by decide +kernel) exS₂).2

example : (cmsCount exH [1, 2] impS).2 = some 5 := by
  rw [imp_cms_example.2 _ (C19_frame_cms_count exH [1, 2] (by decide))]
  decide

example : absCMS impS exH = some { rows := 2, cols := 3, m := impMatrix } := by
  rw [impS, C19_import_cms_exporter_abs impNew exH impMatrix 100 (by decide) (by decide) (by decide) (by decide)
    (by decide) (by decide +kernel) (by decide +kernel) exH_isBase exS₂]
  decide

/-- the sharper form: the importer is the exporter's own object (same metadata key). -/
example : ∀ k ∈ (Handle.cms exH).keysOf, (cmsImportOp 100 "dddddddddddddddd" impMatrix exS₂).1 k = exS₂ k :=
  (C19_import_cms_fresh (ρ' := Unit) "dddddddddddddddd" (Handle.cms exH) impMatrix 100 (by decide)
    (by decide) (by decide) (by decide) (by decide) (by decide +kernel) (by decide +kernel) exH_isBase exS₂).1

/-- hypothesis `len(matrix) ≤ rows`: a document with more rows than the handle makes the import
    write a key outside `keysOf` — the script derives the row count from ARGV. -/
def impBadCMS : CMSHandle := { rows := 1, cols := 1, key := "k", metadataKey := "m" }

theorem cmsImport_rows_written :
    (cmsImportOp 100 impBadCMS.key [[1], [2]] Store.empty).1 "k1" = some (.list ["2"]) := by decide +kernel

theorem cmsImport_rows_needed :
    "k1" ∉ impBadCMS.keysOf ∧ ¬ SupportedOn impBadCMS.keysOf (cmsImportOp 100 impBadCMS.key [[1], [2]]) := by
  refine ⟨by decide, fun hs => ?_⟩
  have h1 := hs.1 Store.empty "k1" (by decide)
  rw [cmsImport_rows_written] at h1
  exact nomatch h1

/-- hypothesis "different base keys": `Import(data, false)` takes the exporter's key from the
    document; for a HyperLogLog the registers are then pushed behind the exporter's own. -/
def impHll : HLLHandle := { m := 4, key := "bbbbbbbbbbbbbbbb", metadataKey := "bbbbbbbbbbbbbbbc" }
def impHS : Store := (hllInit impHll Store.empty).1

theorem import_same_key_touches :
    impHS impHll.key = some (.list ["0", "0", "0", "0"]) ∧
    (hllImportOp 100 impHll.key [0, 0, 0, 0] impHS).1 impHll.key =
      some (.list ["0", "0", "0", "0", "0", "0", "0", "0"]) := by decide +kernel

/-- with a new key the exporter's registers stay, and the importer gets its own. -/
def impHllNew : HLLHandle := { m := 4, key := "eeeeeeeeeeeeeeee", metadataKey := "eeeeeeeeeeeeeeef" }

example : (hllImportOp 100 impHllNew.key [3, 0, 7, 1] impHS).1 impHllNew.key =
    some (.list ["3", "0", "7", "1"]) := by decide +kernel

example : ∀ k ∈ (Handle.hll impHll).keysOf, (hllImportOp 100 impHllNew.key [3, 0, 7, 1] impHS).1 k = impHS k :=
  (C19_import_hll_untouched (ρ' := Unit) impHllNew (Handle.hll impHll) [3, 0, 7, 1] 100 (by decide)
    (by decide) (by decide) (by decide +kernel) (by decide +kernel) (by decide +kernel) impHS).2.1

/-- hypothesis `IsBase`: keys that are not 16 letters can collide although they differ — importing
    under the key `"x1"` rewrites row 10 of the sketch with key `"x"` (no separator in row keys). -/
theorem import_not_IsBase_touches :
    let g : CMSHandle := { rows := 11, cols := 1, key := "x", metadataKey := "m" }
    "x" ≠ "x1" ∧ cmsRowKey "x" 10 ∈ g.keysOf ∧
    (cmsImportOp 100 "x1" [[9]] (cmsInit g Store.empty).1).1 (cmsRowKey "x" 10) = some (.list ["9"]) ∧
    (cmsInit g Store.empty).1 (cmsRowKey "x" 10) = some (.list ["0"]) := by decide +kernel

/-- Top-K: a new handle, the import on a store that holds the Count-Min exporter of above. -/
def impTopK : TopKHandle :=
  { k := 2, errorRate := "0.5", accuracy := "0.5", heapKey := "ffffffffffffffff",
    metadataKey := "fffffffffffffffg",
    sketch := { rows := 2, cols := 3, key := "gggggggggggggggg", metadataKey := "gggggggggggggggh" } }
def impPairs : List (String × Nat) := [("x", 7), ("y", 5)]
def impTS : Store := (topkImportOp 100 impTopK impPairs 3 (impMatrix.flatten.map decimal) exS₂).1

theorem impTS_eval :
    (topkImportOp 100 impTopK impPairs 3 (impMatrix.flatten.map decimal) exS₂).2 = true ∧
    impTS "ffffffffffffffff" = some (.zset [("y", 5), ("x", 7)]) ∧
    impTS "gggggggggggggggg1" = some (.list ["2", "0", "5"]) ∧
    (cmsAttach impTS "gggggggggggggggh") = some impTopK.sketch := by decide +kernel

example : (topkImportOp 100 impTopK impPairs 3 (impMatrix.flatten.map decimal) exS₂).2 = true :=
  impTS_eval.1
example : impTS "ffffffffffffffff" = some (.zset [("y", 5), ("x", 7)]) := impTS_eval.2.1
example : impTS "gggggggggggggggg1" = some (.list ["2", "0", "5"]) := impTS_eval.2.2.1
example : (cmsAttach impTS "gggggggggggggggh") = some impTopK.sketch := impTS_eval.2.2.2

example : ∀ k ∈ (Handle.cms exH).keysOf, impTS k = exS₂ k := by
  rw [impTS]
  exact (C19_import_topk_untouched (ρ' := Unit) impTopK (Handle.cms exH) 100 impPairs 3 2
    (impMatrix.flatten.map decimal) (by decide) (by decide) (by decide) (by decide) (by decide) (by decide)
    (by decide) (by decide) (by decide) (by decide) (by decide) (by decide) (by decide +kernel) exH_isBase
    (by decide +kernel) exS₂).2.1

/-- cuckoo filter: a new handle with 3 buckets, a document with two non-empty buckets. -/
def impCuckoo : CuckooHandle :=
  { n := 3, bsize := 2, fpl := 1, retries := 500, key := "hhhhhhhhhhhhhhhh", metadataKey := "hhhhhhhhhhhhhhhi" }
def impBuckets : List (List String) := [["a", ""], [], ["b", "c"]]
def impCS : Store := (cuckooImportOp 100 impCuckoo 3 impBuckets exS₂).1

theorem impCS_eval :
    impCS "hhhhhhhhhhhhhhhh" =
      some (.list ["cuckoo_hhhhhhhhhhhhhhhh_bucket_2", "cuckoo_hhhhhhhhhhhhhhhh_bucket_1",
        "cuckoo_hhhhhhhhhhhhhhhh_bucket_0"]) ∧
    impCS "cuckoo_hhhhhhhhhhhhhhhh_bucket_0" = some (.list ["a", ""]) ∧
    absBucket impCS (cuckooBucketKey impCuckoo.key 0) 2 = some ⟨2, ["a", ""], 1⟩ ∧
    absBucket impCS (cuckooBucketKey impCuckoo.key 2) 2 = some ⟨2, ["b", "c"], 2⟩ ∧
    absCuckooLength impCS impCuckoo = some 3 ∧
    cuckooAttach impCS impCuckoo.metadataKey = some impCuckoo := by decide +kernel

example : impCS "hhhhhhhhhhhhhhhh" =
    some (.list ["cuckoo_hhhhhhhhhhhhhhhh_bucket_2", "cuckoo_hhhhhhhhhhhhhhhh_bucket_1",
      "cuckoo_hhhhhhhhhhhhhhhh_bucket_0"]) := impCS_eval.1
example : impCS "cuckoo_hhhhhhhhhhhhhhhh_bucket_0" = some (.list ["a", ""]) := impCS_eval.2.1
example : absBucket impCS (cuckooBucketKey impCuckoo.key 0) 2 = some ⟨2, ["a", ""], 1⟩ := impCS_eval.2.2.1
example : absBucket impCS (cuckooBucketKey impCuckoo.key 2) 2 = some ⟨2, ["b", "c"], 2⟩ := impCS_eval.2.2.2.1
example : absCuckooLength impCS impCuckoo = some 3 := impCS_eval.2.2.2.2.1
example : cuckooAttach impCS impCuckoo.metadataKey = some impCuckoo := impCS_eval.2.2.2.2.2

example : ∀ k ∈ (Handle.cms exH).keysOf, impCS k = exS₂ k := by
  rw [impCS]
  exact (C19_import_cuckoo_untouched (ρ' := Unit) impCuckoo (Handle.cms exH) 100 3 impBuckets (by decide)
    (by decide) (by decide) (by decide +kernel) exH_isBase (by decide +kernel) exS₂).2.1

/-- hypothesis `len(buckets) ≤ size`: a document with more buckets than its `size` field makes
    `Import` write the keys of bucket `size`, which are not keys of the handle. -/
def impBadCuckoo : CuckooHandle :=
  { n := 1, bsize := 2, fpl := 1, retries := 500, key := "k", metadataKey := "m" }

theorem cuckooImport_size_written :
    (cuckooImportOp 100 impBadCuckoo 0 [["a"], ["b"]] Store.empty).1 "cuckoo_k_bucket_1" =
      some (.list ["b"]) := by decide +kernel

theorem cuckooImport_size_needed :
    "cuckoo_k_bucket_1" ∉ impBadCuckoo.keysOf ∧
    ¬ SupportedOn impBadCuckoo.keysOf (cuckooImportOp 100 impBadCuckoo 0 [["a"], ["b"]]) := by
  refine ⟨by decide, fun hs => ?_⟩
  have h1 := hs.1 Store.empty "cuckoo_k_bucket_1" (by decide)
  rw [cuckooImport_size_written] at h1
  exact nomatch h1

theorem exS₂_equals_eval :
    (cmsEquals exH exH exS₂).2 = some true ∧ (cmsEquals exH impNew exS₂).2 = some false ∧
    ((Lua.run 100 count_min_sketch_redis_compareMatrixScript [exH.key, impNew.key]
      [decimal 2, decimal 3] exS₂).2).cmsIsNil = true := by decide +kernel

example : (cmsEquals exH exH exS₂).2 = some true := exS₂_equals_eval.1
example : (cmsEquals exH impNew impS).2 = some true := impS_eval.2.2.1
example : (cmsEquals exH impNew exS₂).2 = some false := exS₂_equals_eval.2.1
example : ((Lua.run 100 count_min_sketch_redis_compareMatrixScript [exH.key, impNew.key]
    [decimal 2, decimal 3] impS).2).cmsIsInt 1 = true := impS_eval.2.2.2
example : ((Lua.run 100 count_min_sketch_redis_compareMatrixScript [exH.key, impNew.key]
    [decimal 2, decimal 3] exS₂).2).cmsIsNil = true := exS₂_equals_eval.2.2

end examples

end Gostatix.Redis
