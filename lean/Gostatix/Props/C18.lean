/-
  C18 — a truncated persisted image is rejected.

  Every strict prefix of a well-formed image makes the decoder fail (`Dec.run … = none`, i.e.
  ReadFrom returns an error) instead of producing some state.  Each theorem is
  `Dec.truncated_rejected` (Proofs/Codec.lean) applied to the exact round trip of C11; behind it is
  the generic `Dec.prefix_rejected`: a decoder of the free monad `Dec` that consumed `n` bytes of
  an input fails on every prefix of that input shorter than `n`.
-/
import Gostatix.Props.C11
namespace Gostatix.Codec
open Dec

theorem C18_truncated_bloom (s : BloomImg) (h : s.WF) :
    ∀ p, p <+: encBloom s → p ≠ encBloom s → Dec.run decBloom p = none :=
  Dec.truncated_rejected (C11_roundtrip_bloom s h)

theorem C18_truncated_cms (s : CMSImg) (h : s.WF) :
    ∀ p, p <+: encCMS s → p ≠ encCMS s → Dec.run decCMS p = none :=
  Dec.truncated_rejected (C11_roundtrip_cms s h)

theorem C18_truncated_hll (s : HLLImg) (h : s.WF) :
    ∀ p, p <+: encHLL s → p ≠ encHLL s → Dec.run decHLL p = none :=
  Dec.truncated_rejected (C11_roundtrip_hll s h)

theorem C18_truncated_cuckoo (s : CuckooImg) (h : s.WF) :
    ∀ p, p <+: encCuckoo s → p ≠ encCuckoo s → Dec.run decCuckoo p = none :=
  Dec.truncated_rejected (C11_roundtrip_cuckoo s h)

theorem C18_truncated_topk (s : TopKImg) (h : s.WF) :
    ∀ p, p <+: encTopK s → p ≠ encTopK s → Dec.run decTopK p = none :=
  Dec.truncated_rejected (C11_roundtrip_topk s h)

/-! ### non-vacuity: the well-formed example images of C11 have strict prefixes, and cutting
    them anywhere (in a header, inside a string, one byte before the end) is rejected -/

example : Dec.run decBloom ((encBloom exBloom).take 47) = none :=
  Dec.take_rejected (C11_roundtrip_bloom exBloom (by decide))
    (by rw [C11_count_bloom exBloom (by decide)]; decide)

/-- CMS image cut in the middle of the matrix -/
example : Dec.run decCMS ((encCMS exCMS).take 40) = none :=
  Dec.take_rejected (C11_roundtrip_cms exCMS (by decide))
    (by rw [C11_count_cms exCMS (by decide)]; decide)

example : Dec.run decHLL ((encHLL exHLL).take 27) = none :=
  Dec.take_rejected (C11_roundtrip_hll exHLL (by decide))
    (by rw [C11_count_hll exHLL (by decide)]; decide)

/-- cuckoo image cut inside the first bucket (after the length prefix of its first string) -/
example : Dec.run decCuckoo ((encCuckoo exCuckoo).take 64) = none :=
  Dec.take_rejected (C11_roundtrip_cuckoo exCuckoo (by decide))
    (by rw [C11_count_cuckoo exCuckoo (by decide)]; decide)

/-- top-k image cut before the last heap entry's frequency -/
example : Dec.run decTopK ((encTopK exTopK).take 98) = none :=
  Dec.take_rejected (C11_roundtrip_topk exTopK (by decide))
    (by rw [C11_count_topk exTopK (by decide)]; decide)

/-- the empty input is rejected by every decoder of a well-formed image (all images are
    non-empty: they start with a uint64 header) -/
example : Dec.run decTopK [] = none :=
  Dec.take_rejected (k := 0) (C11_roundtrip_topk exTopK (by decide))
    (by rw [C11_count_topk exTopK (by decide)]; decide)

end Gostatix.Codec
