/-
  Gostatix.Proofs.TopKSort — the insertion sort of the model (`insertSorted`, `sortBy`),
  the `Values` order and the sorted-set order `zLt`.
-/
import Gostatix.Model.TopK
namespace Gostatix.TopK

variable (lt : HElem → HElem → Bool) (x : HElem) (l : List HElem) (a b c : HElem)

theorem insertSorted_perm :
    (insertSorted lt x l).Perm (x :: l) := by
  induction l with
  | nil => exact List.Perm.refl _
  | cons y ys ih =>
    simp only [insertSorted]
    split
    · exact List.Perm.refl _
    · exact (List.Perm.cons y ih).trans (List.Perm.swap x y ys)

theorem sortBy_perm : (sortBy lt l).Perm l := by
  induction l with
  | nil => exact List.Perm.refl _
  | cons x xs ih =>
    simp only [sortBy, List.foldr_cons] at *
    exact (insertSorted_perm lt x _).trans (List.Perm.cons x ih)

theorem insertSorted_pairwise (lt : HElem → HElem → Bool) (R : HElem → HElem → Prop)
    (htrans : ∀ a b c, R a b → R b c → R a c) (x : HElem) (l : List HElem)
    (hlt : ∀ y ∈ l, lt x y = true → R x y) (hnlt : ∀ y ∈ l, lt x y = false → R y x)
    (hs : l.Pairwise R) : (insertSorted lt x l).Pairwise R := by
  induction l with
  | nil => simp [insertSorted]
  | cons y ys ih =>
    rw [List.pairwise_cons] at hs
    simp only [insertSorted]
    split
    · next h =>
      have hxy := hlt y List.mem_cons_self h
      exact List.pairwise_cons.2 ⟨List.forall_mem_cons.2
        ⟨hxy, fun z hz => htrans _ _ _ hxy (hs.1 z hz)⟩, List.pairwise_cons.2 hs⟩
    · next h =>
      refine List.pairwise_cons.2 ⟨fun z hz => ?_,
        ih (fun z hz => hlt z (List.mem_cons_of_mem _ hz))
          (fun z hz => hnlt z (List.mem_cons_of_mem _ hz)) hs.2⟩
      rcases List.mem_cons.1 ((insertSorted_perm lt x ys).mem_iff.1 hz) with rfl | hz
      · exact hnlt y List.mem_cons_self (Bool.eq_false_iff.2 h)
      · exact hs.1 z hz

/-- count descending, then element ascending -/
def ValueLe (a b : HElem) : Prop := a.2 > b.2 ∨ (a.2 = b.2 ∧ a.1 ≤ b.1)

theorem valueLt_iff :
    valueLt a b = true ↔ a.2 > b.2 ∨ (a.2 = b.2 ∧ a.1 < b.1) := by
  simp only [valueLt, Bool.or_eq_true, Bool.and_eq_true, decide_eq_true_eq, beq_iff_eq]

theorem valueLe_trans (h1 : ValueLe a b) (h2 : ValueLe b c) : ValueLe a c := by
  rcases h1 with h1 | ⟨h1, h1'⟩ <;> rcases h2 with h2 | ⟨h2, h2'⟩
  · exact Or.inl (Nat.lt_trans h2 h1)
  · exact Or.inl (h2 ▸ h1)
  · exact Or.inl (h1 ▸ h2)
  · exact Or.inr ⟨h1.trans h2, String.le_trans h1' h2'⟩

theorem valueLe_antisymm (h1 : ValueLe a b) (h2 : ValueLe b a) : a = b := by
  rcases h1 with h1 | ⟨h1, h1'⟩ <;> rcases h2 with h2 | ⟨h2, h2'⟩
  · exact absurd h1 (Nat.lt_asymm h2)
  · exact absurd h2 (Nat.ne_of_lt h1)
  · exact absurd h1 (Nat.ne_of_lt h2)
  · exact Prod.ext (String.le_antisymm h1' h2') h1

theorem valueLe_of_valueLt (h : valueLt a b = true) : ValueLe a b :=
  ((valueLt_iff a b).1 h).imp_right fun h => ⟨h.1, Std.le_of_lt h.2⟩

theorem valueLe_of_not_valueLt (h : valueLt a b = false) : ValueLe b a := by
  have h := mt (valueLt_iff a b).2 (Bool.eq_false_iff.1 h)
  by_cases he : a.2 = b.2
  · exact Or.inr ⟨he.symm, String.not_lt.1 fun hlt => h (Or.inr ⟨he, hlt⟩)⟩
  · exact Or.inl (Nat.lt_of_le_of_ne (Nat.le_of_not_lt fun hlt => h (Or.inl hlt)) he)

theorem values_perm (h : List HElem) : (values h).Perm h := sortBy_perm _ h

theorem values_sorted (h : List HElem) : (values h).Pairwise ValueLe := by
  induction h with
  | nil => exact List.Pairwise.nil
  | cons x xs ih =>
    exact insertSorted_pairwise valueLt ValueLe valueLe_trans x _
      (fun y _ => valueLe_of_valueLt x y) (fun y _ => valueLe_of_not_valueLt x y) ih

/-- `Values` sorts by a total order on entries: permuted heaps give EQUAL lists -/
theorem values_eq_of_perm {l1 l2 : List HElem} (hp : l1.Perm l2) : values l1 = values l2 :=
  List.Perm.eq_of_pairwise (fun a b _ _ => valueLe_antisymm a b) (values_sorted l1)
    (values_sorted l2) (((values_perm l1).trans hp).trans (values_perm l2).symm)

theorem zLt_iff : zLt a b = true ↔ a.2 < b.2 ∨ (a.2 = b.2 ∧ a.1 < b.1) := by
  simp only [zLt, Bool.or_eq_true, Bool.and_eq_true, decide_eq_true_eq, beq_iff_eq]

theorem zLt_trans (h1 : zLt a b = true) (h2 : zLt b c = true) :
    zLt a c = true := by
  rw [zLt_iff] at *
  rcases h1 with h1 | ⟨h1, h1'⟩ <;> rcases h2 with h2 | ⟨h2, h2'⟩
  · exact Or.inl (Nat.lt_trans h1 h2)
  · exact Or.inl (h2 ▸ h1)
  · exact Or.inl (h1 ▸ h2)
  · exact Or.inr ⟨h1.trans h2, String.lt_trans h1' h2'⟩

theorem zLt_of_not_zLt (hne : a.1 ≠ b.1) (h : zLt a b = false) :
    zLt b a = true := by
  have h := mt (zLt_iff a b).2 (Bool.eq_false_iff.1 h)
  rw [zLt_iff]
  by_cases he : a.2 = b.2
  · exact Or.inr ⟨he.symm, Std.lt_of_le_of_ne (String.not_lt.1 fun hlt => h (Or.inr ⟨he, hlt⟩))
      fun h => hne h.symm⟩
  · exact Or.inl (Nat.lt_of_le_of_ne (Nat.le_of_not_lt fun hlt => h (Or.inl hlt)) (Ne.symm he))

theorem zLt_freq_le (h : zLt a b = true) : a.2 ≤ b.2 :=
  ((zLt_iff a b).1 h).elim Nat.le_of_lt fun h => Nat.le_of_eq h.1

end Gostatix.TopK
