/-
  Helpers of Props/LoopTieHLL.lean: the register-wise maximum on zero-extended `uint8` registers,
  and the generated loop `hllMerge_loop1` of Generated/Loops.lean, proved with the loop rule
  `forN_sweep` of Proofs/LoopTieCMS.lean (the body is never spelled out).
-/
import Gostatix.Proofs.LoopTieCMS
import Gostatix.Model.HLL

namespace Gostatix.LoopTie
open Gostatix GoLoop Gostatix.Generated.LoopsHLL

/-- `util.Max(a, b)` as its body reads: `if a > b { return a }; return b` -/
def maxU (a b : UInt64) : UInt64 := if b < a then a else b

theorem maxU_toNat (a b : UInt64) : (maxU a b).toNat = max a.toNat b.toNat := by
  unfold maxU
  by_cases h : b < a
  · have := UInt64.lt_iff_toNat_lt.1 h
    simp [h, Nat.max_def]; omega
  · have : ¬ b.toNat < a.toNat := fun h' => h (UInt64.lt_iff_toNat_lt.2 h')
    simp [h, Nat.max_def]; omega

theorem maxU_lt (a b : UInt64) (ha : a < 256) (hb : b < 256) : maxU a b < 256 := by
  unfold maxU; split <;> assumption

theorem trunc8_of_lt (x : UInt64) (h : x < 256) : GoArith.trunc8 x = x := by
  have h' := UInt64.lt_iff_toNat_lt.1 h
  apply UInt64.toNat_inj.1
  simp [GoArith.trunc8, UInt64.toNat_mod]
  exact h'

theorem trunc8_lt (x : UInt64) : GoArith.trunc8 x < 256 := by
  apply UInt64.lt_iff_toNat_lt.2
  simp [GoArith.trunc8, UInt64.toNat_mod]
  exact Nat.mod_lt _ (by decide)

/-- `HLL.mergeRegs` keeps the surplus of its LEFT operand: hence the `a.drop b.length`, which is
    empty for the equal lengths `Merge` checks. -/
theorem mergeRegs_map (a b : List UInt64) :
    HLL.mergeRegs (a.map UInt64.toNat) (b.map UInt64.toNat) = (List.zipWith maxU a b ++ a.drop b.length).map UInt64.toNat := by
  induction a generalizing b with
  | nil => cases b <;> simp [HLL.mergeRegs]
  | cons x a ih =>
    cases b with
    | nil => simp [HLL.mergeRegs]
    | cons y b => simp [HLL.mergeRegs, ih b, maxU_toNat]

/-- `util.Max` as the translator inlines it, a panic-free computation of `maxU` -/
theorem max_inlined (a b : UInt64) :
    (if decide (b < a) = true then some a else some b) = some (maxU a b) := by
  unfold maxU
  by_cases h : b < a
  · rw [if_pos h, if_pos (decide_eq_true h)]
  · rw [if_neg h, if_neg (by rw [decide_eq_false h]; exact Bool.false_ne_true)]

theorem hll_merge_loop (h : HllState) (other : List UInt64)
    (hlen : other.length = h.registers.length) (hw : h.registers.length = h.numRegisters.toNat)
    (hA : ∀ r ∈ h.registers, r < 256) (hB : ∀ r ∈ other, r < 256) :
    hllMerge_loop1 h other = some { h with registers := List.zipWith maxU h.registers other } := by
  have hn : h.registers.length < 2 ^ 64 := hw ▸ h.numRegisters.toNat_lt
  rw [zipWith_eq_mapIdx maxU _ _ 0 (Nat.le_of_eq hlen.symm), hllMerge_loop1, hlen]
  refine forN_sweep (fun r => { h with registers := r }) h.registers _ _ fun i hi l hl hli => ?_
  have hio : i < other.length := hlen ▸ hi
  have ht := trunc8_of_lt _
    (maxU_lt _ _ (hA _ (List.getElem_mem hi)) (hB _ (List.getElem_mem hio)))
  simp only [toNat_ofNat_lt (Nat.lt_trans hi hn), idx_of_lt (hl ▸ hi), hli, idx_of_lt hio,
    max_inlined, ht, set1_of_lt _ (hl ▸ hi), Option.bind_some, List.getD_eq_getElem?_getD,
    List.getElem?_eq_getElem hio, Option.getD_some]

end Gostatix.LoopTie
