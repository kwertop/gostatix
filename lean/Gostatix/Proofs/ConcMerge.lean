/-
  Gostatix.Proofs.ConcMerge — the step alphabets with whole-`Merge` steps (`CMSStep`, `HLLStep`):
  for C16 (Props/C16Merge.lean) and as the instance data `cmsTP` / `hllTP` of Props/C07Merge.lean.
  The steps commute pairwise in EVERY state, whatever the shapes of the target, of the position
  lists and of the merge sources are: out-of-range updates are no-ops (`modAt`), `List.zipWith`
  truncates a row to the shorter operand, and a cell that a short source truncates away is lost in
  both orders.  Core Lean only.
-/
import Gostatix.Proofs.Conc
import Gostatix.Proofs.CMS
import Gostatix.Proofs.HLL
namespace Gostatix
open Conc

universe u v

namespace Conc

theorem exec_invariant {σ : Type u} {α : Type v} {f : σ → α → σ} (I : σ → Prop) (w : List α)
    (hp : ∀ s, I s → ∀ a ∈ w, I (f s a)) (s : σ) (hs : I s) : I (exec f s w) := by
  induction w generalizing s with
  | nil => exact hs
  | cons a w ih =>
    exact ih (fun s hs b hb => hp s hs b (List.mem_cons_of_mem _ hb)) _
      (hp s hs a List.mem_cons_self)

theorem exec_perm_of_commute_inv {σ : Type u} {α : Type v} {f : σ → α → σ} (I : σ → Prop)
    {l₁ l₂ : List α} (p : l₁.Perm l₂)
    (hp : ∀ s, I s → ∀ a ∈ l₁, I (f s a))
    (hc : ∀ s, I s → ∀ a ∈ l₁, ∀ b ∈ l₁, f (f s a) b = f (f s b) a)
    (s : σ) (hs : I s) : exec f s l₁ = exec f s l₂ :=
  foldl_perm_of_commute_inv I p hp hc s hs

end Conc

theorem sumL_perm {l₁ l₂ : List Nat} (p : l₁.Perm l₂) : sumL l₁ = sumL l₂ := by
  induction p with
  | nil => rfl
  | cons a _ ih => rw [sumL_cons, sumL_cons, ih]
  | swap a b l => exact Nat.add_left_comm b a (sumL l)
  | trans _ _ ih1 ih2 => rw [ih1, ih2]

namespace CMS

theorem addRows_updRows (m src : List (List Nat)) (pos : List Nat) (c : Nat) :
    addRows (updRows m pos c) src = updRows (addRows m src) pos c := by
  rw [updRows_eq, updRows_eq, addRows_eq, addRows_eq]
  exact Rows.zipRows_updWith _ _ (fun x y => Nat.add_right_comm x c y) m src pos

theorem addRows_right_comm (m a b : List (List Nat)) :
    addRows (addRows m a) b = addRows (addRows m b) a := by
  rw [addRows_eq, addRows_eq, addRows_eq, addRows_eq]
  exact Rows.zipRows_right_comm _ Nat.add_right_comm m a b

end CMS

/-- one atomic step on the shared Count-Min sketch: a whole `Update` script, or a whole `Merge`
    script whose source matrix is a VALUE (the source sketch is not written concurrently). -/
inductive CMSStep where
  | update (pos : List Nat) (c : Nat)
  | mergeFrom (src : List (List Nat))
  deriving Repr, DecidableEq

def cmsStepM (s : CMS) : CMSStep → CMS
  | .update pos c => s.update pos c
  | .mergeFrom src => { s with m := CMS.addRows s.m src }

theorem cmsStepM_commute : Commute cmsStepM := by
  intro s a b
  cases a with
  | update p c =>
    cases b with
    | update q d => exact congrArg (CMS.mk s.rows s.cols) (CMS.updRows_comm s.m p q c d)
    | mergeFrom src => exact congrArg (CMS.mk s.rows s.cols) (CMS.addRows_updRows s.m src p c)
  | mergeFrom src =>
    cases b with
    | update q d => exact congrArg (CMS.mk s.rows s.cols) (CMS.addRows_updRows s.m src q d).symm
    | mergeFrom src' => exact congrArg (CMS.mk s.rows s.cols) (CMS.addRows_right_comm s.m src src')

/-- a merge step is what `CMS.merge` does once the dimension check (done in Go, before the script)
    has passed -/
theorem cmsStepM_mergeFrom_eq_merge (a b : CMS) (hr : a.rows = b.rows) (hc : a.cols = b.cols) :
    CMS.merge a b = .ok (cmsStepM a (.mergeFrom b.m)) := by
  simp [CMS.merge, cmsStepM, hr, hc]

theorem cmsStepM_rows_cols (s : CMS) (a : CMSStep) :
    (cmsStepM s a).rows = s.rows ∧ (cmsStepM s a).cols = s.cols := by
  cases a <;> exact ⟨rfl, rfl⟩

/-- a step is well formed for a `rows × cols` sketch when a merge source has that shape
    (guaranteed by the dimension check of `Merge` for sketches that satisfy `CMS.WF`).  Updates
    need nothing. -/
def CMSStep.SrcOK (rows cols : Nat) : CMSStep → Prop
  | .update _ _ => True
  | .mergeFrom src => CMS.Shape src rows cols

theorem cmsStepM_shape (s : CMS) (a : CMSStep) (rows cols : Nat) (hs : CMS.Shape s.m rows cols)
    (ha : a.SrcOK rows cols) : CMS.Shape (cmsStepM s a).m rows cols := by
  cases a with
  | update p c => exact CMS.updRows_shape s.m p c rows cols hs
  | mergeFrom src => exact CMS.addRows_shape s.m src rows cols hs ha

def CMSStep.updHit (r col : Nat) : CMSStep → Nat
  | .update pos c => if pos[r]? = some col then c else 0
  | .mergeFrom _ => 0

def CMSStep.srcCell (r col : Nat) : CMSStep → Nat
  | .update _ _ => 0
  | .mergeFrom src => CMS.cell src r col

theorem cmsStepM_cell (s : CMS) (a : CMSStep) (rows cols : Nat) (hs : CMS.Shape s.m rows cols)
    (ha : a.SrcOK rows cols) (r col : Nat) (hr : r < rows) (hc : col < cols) :
    CMS.cell (cmsStepM s a).m r col = CMS.cell s.m r col + a.updHit r col + a.srcCell r col := by
  cases a with
  | update p c =>
    show CMS.cell (CMS.updRows s.m p c) r col = _
    rw [CMS.updRows_cell_general, hs.row_length r hr]
    simp [CMSStep.updHit, CMSStep.srcCell, hc]
  | mergeFrom src =>
    show CMS.cell (CMS.addRows s.m src) r col = _
    rw [CMS.addRows_cell s.m src rows cols hs ha]
    simp [CMSStep.updHit, CMSStep.srcCell]

theorem exec_cmsStepM_cell (rows cols : Nat) (w : List CMSStep) (s : CMS)
    (hs : CMS.Shape s.m rows cols) (hw : ∀ a ∈ w, a.SrcOK rows cols)
    (r col : Nat) (hr : r < rows) (hc : col < cols) :
    CMS.cell (exec cmsStepM s w).m r col
      = CMS.cell s.m r col + sumL (w.map (CMSStep.updHit r col))
        + sumL (w.map (CMSStep.srcCell r col)) := by
  induction w generalizing s with
  | nil => simp [exec]
  | cons a w ih =>
    have ha := hw a List.mem_cons_self
    have : exec cmsStepM s (a :: w) = exec cmsStepM (cmsStepM s a) w := rfl
    rw [this, ih _ (cmsStepM_shape s a rows cols hs ha)
      (fun b hb => hw b (List.mem_cons_of_mem _ hb)),
      cmsStepM_cell s a rows cols hs ha r col hr hc]
    simp only [List.map_cons, sumL_cons]
    omega

theorem exec_cmsStepM_shape (rows cols : Nat) (w : List CMSStep) (s : CMS)
    (hs : CMS.Shape s.m rows cols) (hw : ∀ a ∈ w, a.SrcOK rows cols) :
    CMS.Shape (exec cmsStepM s w).m rows cols :=
  exec_invariant (f := cmsStepM) (fun s => CMS.Shape s.m rows cols) w
    (fun s hs a ha => cmsStepM_shape s a rows cols hs (hw a ha)) s hs

namespace HLL

/-- two merges into the same register file commute, for sources of any length (`mergeRegs` keeps
    the length of the target: a short source only touches a prefix, the surplus of a long one is
    ignored). -/
theorem mergeRegs_right_comm (r a b : List Nat) :
    mergeRegs (mergeRegs r a) b = mergeRegs (mergeRegs r b) a := by
  induction r generalizing a b with
  | nil => cases a <;> cases b <;> rfl
  | cons x r ih =>
    cases a with
    | nil => cases b <;> rfl
    | cons y a =>
      cases b with
      | nil => rfl
      | cons z b => simp only [mergeRegs, ih, Nat.max_right_comm x y z]

end HLL

/-- one atomic step on the shared register list: a whole `Update` script or a whole `Merge`
    script whose source register file is a VALUE. -/
inductive HLLStep where
  | update (idx val : Nat)
  | mergeFrom (src : List Nat)
  deriving Repr, DecidableEq

def hllStepM (regs : List Nat) : HLLStep → List Nat
  | .update idx val => HLL.upd regs (idx, val)
  | .mergeFrom src => HLL.mergeRegs regs src

theorem hllStepM_commute : Commute hllStepM := by
  intro s a b
  cases a with
  | update i v =>
    cases b with
    | update j u => exact HLL.upd_commute s (i, v) (j, u)
    | mergeFrom src => exact HLL.mergeRegs_upd_left s src (i, v)
  | mergeFrom src =>
    cases b with
    | update j u => exact (HLL.mergeRegs_upd_left s src (j, u)).symm
    | mergeFrom src' => exact HLL.mergeRegs_right_comm s src src'

theorem hllStepM_length (regs : List Nat) (a : HLLStep) : (hllStepM regs a).length = regs.length := by
  cases a with
  | update i v => exact HLL.upd_length regs (i, v)
  | mergeFrom src => exact HLL.mergeRegs_length regs src

/-- a merge step is what `HLL.merge` does once the size check has passed -/
theorem hllStepM_mergeFrom_eq_merge (a b : HLL) (hm : a.m = b.m) :
    HLL.merge a b = .ok { a with regs := hllStepM a.regs (.mergeFrom b.regs) } := by
  simp [HLL.merge, hllStepM, hm]

end Gostatix
