/-
  Gostatix.Proofs.LuaCoreHLL — what the HyperLogLog and Top-K ties need beyond Proofs/LuaCore.lean (namespace
  `Gostatix.LuaHLL`): core lemmas under the names of this namespace, the sorted-set commands `ZADD` and
  `ZRANGE k 0 -1 [WITHSCORES]`, `forBody`, and the tactic `lua_simp_hll`.  For `ZADD` with a decimal score: miniredis
  upper-cases the score argument to look for the options `NX`, `XX`, …; a decimal numeral is none of them
  (`upperAscii_decimal`) and `parseScore` reads it as the number (`parseScore_decimal`).
-/
import Gostatix.Generated.LuaScripts
import Gostatix.Proofs.RedisKeys
import Gostatix.Proofs.RedisCMS
import Gostatix.Proofs.LuaCore
namespace Gostatix.LuaHLL
open Gostatix Gostatix.Lua Gostatix.Redis Gostatix.LuaCMS

theorem renderInt_natCast (n : Nat) : renderInt (n : Int) = decimal n := LuaCMS.renderInt_ofNat n
theorem renderInt_zero : renderInt 0 = "0" := rfl

theorem bind_apply {α β} (m : M α) (f : α → M β) (s : State) :
    (m >>= f) s = (match m s with
      | .ok a s' => f a s'
      | .error e s' => .error e s'
      | .unsupported w s' => .unsupported w s'
      | .outOfFuel s' => .outOfFuel s') := LuaCMS.bind_apply m f s

theorem pure_apply {α} (a : α) (s : State) : (pure a : M α) s = .ok a s := LuaCMS.pure_apply a s

theorem Table.get_one (t : Table) : t.get (.num 1) = t.arr.getD 0 .nil := LuaCMS.Table.get_one t
theorem Table.get_two (t : Table) : t.get (.num 2) = t.arr.getD 1 .nil := LuaCMS.Table.get_two t

theorem numForLoop_return (f : Nat) (x : String) (i limit : Int) (body : List Stmt) (s s' : State)
    (vs : List Value) (h : i ≤ limit)
    (hb : inScope (do declare x (.num i); execBlock f body) s = .ok (some vs) s') :
    numForLoop (f + 1) x i limit 1 body s = .ok (some vs) s' :=
  numForLoop_exit f x i limit 1 body s _ Int.one_pos h hb (fun _ h => by cases h)

theorem redisCommand_ZADD_eq (k score member : String) (st : Store) :
    redisCommand "ZADD" [k, score, member] st =
    (if ["NX", "XX", "GT", "LT", "CH", "INCR"].contains (upperAscii score) then .error msgSyntax else
    (match parseScore score with
     | .nat f => liftCmd (cmdZADD k member f) (fun n => .int n) msgWrongType st
     | .invalid => .error "ERR value is not a valid float"
     | .unsupported => .unsupported "ZADD with a score that is not a natural number")) := rfl

theorem redisCommand_ZRANGE_eq (k mn mx : String) (opts : List String) (st : Store) :
    redisCommand "ZRANGE" (k :: mn :: mx :: opts) st =
    (let opts := opts.map lowerAscii
    if opts.any (fun o => ["byscore", "bylex", "rev", "limit"].contains o) then .unsupported "ZRANGE with options"
    else if opts.any (fun o => o ≠ "withscores") then .error msgSyntax
    else
      intArg mn fun mn => intArg mx fun mx =>
        match zsetAt st k with
        | none => .error msgWrongType
        | some _ =>
          if mn = 0 ∧ mx = -1 then
            liftCmd (cmdZRANGEALL k)
              (fun z => .list (if opts.isEmpty then z.map (·.1) else withScores z)) msgWrongType st
          else .unsupported "ZRANGE other than 0 -1") := rfl

theorem toUpper_of_isDigit {c : Char} (h : c.isDigit = true) : c.toUpper = c := by
  have hr := (isDigit_iff c).mp h
  unfold Char.toUpper
  rw [dif_neg]
  intro hc
  have : 'a'.val.toNat ≤ c.val.toNat := UInt32.le_iff_toNat_le.mp hc.1
  have e : 'a'.val.toNat = 97 := rfl
  have e2 : c.val.toNat = c.toNat := rfl
  omega

theorem map_toUpper_digits (cs : List Char) (h : ∀ c ∈ cs, c.isDigit = true) : cs.map Char.toUpper = cs := by
  induction cs with
  | nil => rfl
  | cons c cs ih =>
    rw [List.map_cons, toUpper_of_isDigit (h c List.mem_cons_self),
      ih (fun d hd => h d (List.mem_cons_of_mem _ hd))]

theorem upperAscii_decimal (n : Nat) : upperAscii (decimal n) = decimal n := by
  unfold upperAscii
  rw [map_toUpper_digits _ (decimal_digits n)]
  exact String.ofList_toList

theorem parseScore_decimal {n : Nat} (hn : n ≤ numLimit) : parseScore (decimal n) = .nat n := by
  obtain ⟨h1, h2, h3⟩ := parseDecimal_some (parseDecimal_decimal n)
  have hne : (decimal n).toList.isEmpty = false := by
    cases h : (decimal n).toList with
    | nil => exact absurd h h1
    | cons a l => rfl
  have hall : (decimal n).toList.all Char.isDigit = true := List.all_eq_true.mpr h2
  have key : ∀ ds : List Char, ds = (decimal n).toList →
      (if (!ds.isEmpty && ds.all Char.isDigit) = true then
        match parseDigits 10 ds 0 with
        | some n => if n > numLimit then ScoreParse.unsupported else ScoreParse.nat n
        | none => ScoreParse.invalid
      else
        if ((decimal n).toList.isEmpty || (decimal n).toList.any fun c => !floatAlphabet.contains c) = true
        then ScoreParse.invalid else ScoreParse.unsupported) = ScoreParse.nat n := by
    intro ds hds
    rw [hds, hne, hall]
    simp only [Bool.not_false, Bool.and_self, if_true]
    rw [LuaCMS.parseDigits_digits _ 0 h2, h3]
    simp only
    rw [if_neg (by omega)]
  unfold parseScore
  refine key _ ?_
  split
  · rename_i r heq
    have := h2 '+' (by rw [heq]; simp)
    exact absurd this (by decide)
  · rfl

theorem redisCommand_ZADD_nat (k member : String) (f : Nat) (hf : f ≤ numLimit) (st : Store) :
    redisCommand "ZADD" [k, decimal f, member] st =
      (match cmdZADD k member f st with
       | (st', some n) => .ok st' (.int (n : Int))
       | (_, none) => .error msgWrongType) := by
  rw [redisCommand_ZADD_eq, upperAscii_decimal, parseScore_decimal hf]
  have hnot : ["NX", "XX", "GT", "LT", "CH", "INCR"].contains (decimal f) = false := by
    rw [Bool.eq_false_iff]
    intro hc
    have hmem := List.contains_iff_mem.mp hc
    have hp := parseDecimal_decimal f
    simp only [List.mem_cons, List.not_mem_nil, or_false] at hmem
    have hno : ∀ s ∈ ["NX", "XX", "GT", "LT", "CH", "INCR"], parseDecimal s = none := by decide
    rcases hmem with h | h | h | h | h | h <;>
      (rw [h, hno _ (by simp)] at hp; cases hp)
  rw [hnot]
  simp only [Bool.false_eq_true, if_false, liftCmd]
  cases cmdZADD k member f st with
  | mk st' r => cases r <;> rfl

theorem redisCommand_ZRANGE_full (k : String) (opts : List String) (st : Store)
    (h1 : (opts.map lowerAscii).any (fun o => ["byscore", "bylex", "rev", "limit"].contains o) = false)
    (h2 : (opts.map lowerAscii).any (fun o => o ≠ "withscores") = false) :
    redisCommand "ZRANGE" (k :: "0" :: "-1" :: opts) st =
      (match zsetAt st k with
       | none => .error msgWrongType
       | some z => .ok st (.list (if (opts.map lowerAscii).isEmpty then z.map (·.1) else withScores z))) := by
  have h0 : goAtoi "0" = .num 0 := by decide
  have hm : goAtoi "-1" = .num (-1) := by decide
  rw [redisCommand_ZRANGE_eq]
  simp only [h1, h2, Bool.false_eq_true, if_false]
  unfold intArg
  rw [h0]; simp only
  rw [hm]; simp only
  cases h : zsetAt st k with
  | none => rfl
  | some z => simp [liftCmd, cmdZRANGEALL, h]

theorem redisCommand_ZRANGE_all (k : String) (st : Store) :
    redisCommand "ZRANGE" [k, "0", "-1"] st =
      (match zsetAt st k with
       | none => .error msgWrongType
       | some z => .ok st (.list (z.map (·.1)))) :=
  redisCommand_ZRANGE_full k [] st rfl rfl

theorem redisCommand_ZRANGE_withscores (k : String) (st : Store) :
    redisCommand "ZRANGE" [k, "0", "-1", "WITHSCORES"] st =
      (match zsetAt st k with
       | none => .error msgWrongType
       | some z => .ok st (.list (withScores z))) :=
  redisCommand_ZRANGE_full k ["WITHSCORES"] st (by decide) (by decide)

/-- `LuaCMS.loopBody b i` of the core is this for statement `i` of a block `b`. -/
def forBody : Stmt → List Stmt
  | .numFor _ _ _ _ b => b
  | _ => []

/-! The lemmas tagged here are added to `lua_eval` for every module that imports this one, not only for the calls of
  `lua_simp_hll`. -/

attribute [lua_eval] LuaCMS.setIndex_table initState callFn_unpack_values
  binop_gt_num_num binop_gt_num_nil binop_lt_num_nil binop_lt_nil_nil compareErr_num_nil compareErr_nil_num
  compareErr_nil_nil LuaCMS.unop_len_table redisCall_str_key renderInt_natCast renderInt_zero renderInt_neg_one
  cmdResult_ok cmdResult_error_call cmdResult_error_pcall List.set_cons_zero
  List.set_cons_succ

syntax "lua_simp_hll" (" [" Lean.Parser.Tactic.simpLemma,* "]")? : tactic
macro_rules
  | `(tactic| lua_simp_hll) => `(tactic| luab_simp [])
  | `(tactic| lua_simp_hll [$ls,*]) => `(tactic| luab_simp [$ls,*])

theorem finish_ret_true (f : Nat) (s : State) :
    finish (execBlock (f + 5) [.ret [.litTrue]] s) = (s.store, .reply (.int 1)) := by
  lua_simp_hll [finish_true]

end Gostatix.LuaHLL
