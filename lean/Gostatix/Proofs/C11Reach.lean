/-
  From REACHABLE model states to well-formed binary images.  Per in-memory structure: the image
  function `imgOf…` (what `WriteTo` encodes; fields the model state does not carry are arguments),
  the histories (a constructor, then any operations), and the invariant along them from which
  `BloomImg.WF`, `CMSImg.WF`, `HLLImg.WF`, `CuckooImg.WF`, `TopKImg.WF` (Props/C11.lean) follow.
  What is and what is not proved: header of Props/C11Reach.lean.
-/
import Gostatix.Props.C18
import Gostatix.Proofs.Bloom
import Gostatix.Proofs.CMS
import Gostatix.Proofs.HLL
import Gostatix.Proofs.CuckooMem
import Gostatix.Proofs.C02Concrete
import Gostatix.Proofs.TopKRun
import Gostatix.Proofs.TopKInv
set_option linter.unusedSectionVars false
namespace Gostatix.Reach
open Gostatix.Codec

theorem forall_getD {α : Type} {Q : α → Prop} {l : List α} (h : ∀ x ∈ l, Q x) {d : α} (hd : Q d)
    (i : Nat) : Q (l.getD i d) := by
  by_cases hi : i < l.length
  · exact h _ (CMS.getD_mem l i d hi)
  · rw [CMS.getD_of_ge l i d (Nat.le_of_not_lt hi)]; exact hd

/-! ## Bloom filter: `bitset.BitSet` words of a bit vector -/

/-- value of a little-endian bit list: bit `j` of the list is bit `j` of the word
    (`bitset.BitSet`: bit `i` lives in `set[i>>6]` at position `i&63`) -/
def wordVal : List Bool → Nat
  | [] => 0
  | b :: bs => (if b then 1 else 0) + 2 * wordVal bs

theorem wordVal_lt (l : List Bool) : wordVal l < 2 ^ l.length := by
  induction l with
  | nil => exact Nat.one_pos
  | cons b bs ih =>
    have h : (if b then 1 else 0) < 2 := by cases b <;> decide
    rw [wordVal, List.length_cons, Nat.pow_succ]
    omega

theorem wordVal_testBit (l : List Bool) : ∀ j, (wordVal l).testBit j = l.getD j false := by
  induction l with
  | nil => exact Nat.zero_testBit
  | cons b bs ih =>
    intro j
    cases j with
    | zero =>
      rw [Nat.testBit_zero, wordVal, Nat.add_mul_mod_self_left]
      cases b <;> rfl
    | succ j =>
      have h : wordVal (b :: bs) / 2 = wordVal bs := by
        rw [wordVal, Nat.add_mul_div_left _ _ Nat.two_pos]
        cases b <;> exact Nat.zero_add _
      rw [Nat.testBit_succ, h, ih j, List.getD_cons_succ]

def packN : Nat → List Bool → List Nat
  | 0, _ => []
  | n+1, bs => wordVal (bs.take 64) :: packN n (bs.drop 64)

/-- the word slice of `bitset.New(len(bits))` holding `bits` -/
def packWords (bits : List Bool) : List Nat := packN (wordsNeeded bits.length) bits

theorem packN_length (n : Nat) (bs : List Bool) : (packN n bs).length = n := by
  induction n generalizing bs with
  | zero => rfl
  | succ n ih => simp [packN, ih]

theorem packN_lt (n : Nat) (bs : List Bool) : ∀ w ∈ packN n bs, w < 2 ^ 64 := by
  induction n generalizing bs with
  | zero => intro w hw; cases hw
  | succ n ih =>
    intro w hw
    rcases List.mem_cons.1 hw with rfl | hw
    · exact Nat.lt_of_lt_of_le (wordVal_lt _)
        (Nat.pow_le_pow_right Nat.two_pos (List.length_take_le 64 bs))
    · exact ih _ w hw

/-- word `q` holds the bits `64 q, …, 64 q + 63` -/
theorem packN_getD (n : Nat) : ∀ (bs : List Bool) (q : Nat), q < n →
    (packN n bs).getD q 0 = wordVal ((bs.drop (64 * q)).take 64) := by
  induction n with
  | zero => intro _ _ h; cases h
  | succ n ih =>
    intro bs q h
    cases q with
    | zero => rfl
    | succ q =>
      rw [packN, List.getD_cons_succ, ih _ q (Nat.lt_of_succ_lt_succ h), List.drop_drop,
        Nat.mul_succ, Nat.add_comm]

theorem packN_testBit (n : Nat) (bs : List Bool) (i : Nat) (hi : i / 64 < n) :
    ((packN n bs).getD (i / 64) 0).testBit (i % 64) = bs.getD i false := by
  rw [packN_getD n bs _ hi, wordVal_testBit, List.getD_eq_getElem?_getD, List.getElem?_take,
    if_pos (Nat.mod_lt i (by decide)), List.getElem?_drop, Nat.div_add_mod,
    List.getD_eq_getElem?_getD]

/-- what `BloomFilter.WriteTo` encodes for a model state: `size`, `numHashes`, `BitSetMem.size`,
    `bitset.length`, the words.  For every filter the constructors build from a non-empty
    bitset, `BitSetMem.size = bitset.length = len(bits)`. -/
def imgOfBloom (b : Bloom) : BloomImg :=
  ⟨b.size, b.k, b.bits.length, b.bits.length, packWords b.bits⟩

theorem bloom_run_params {E : Type} (probes : E → List Nat) (b : Bloom) (ops : List (BloomOp E)) :
    (Bloom.run probes b ops).size = b.size ∧ (Bloom.run probes b ops).k = b.k := by
  induction ops generalizing b with
  | nil => exact ⟨rfl, rfl⟩
  | cons op ops ih => cases op <;> exact ih _

theorem bloom_reach {E : Type} (probes : E → List Nat) (size k : Nat) (ops : List (BloomOp E)) :
    (Bloom.run probes (Bloom.new size k) ops).size = max size 1 ∧
    (Bloom.run probes (Bloom.new size k) ops).k = max k 1 ∧
    (Bloom.run probes (Bloom.new size k) ops).bits.length = max size 1 :=
  ⟨(bloom_run_params probes _ ops).1, (bloom_run_params probes _ ops).2,
    (Bloom.run_length probes _ ops).trans List.length_replicate⟩

theorem imgOfBloom_wf (b : Bloom) (h1 : b.size < 2 ^ 64) (h2 : b.k < 2 ^ 64)
    (h3 : b.bits.length < 2 ^ 64) : (imgOfBloom b).WF :=
  ⟨h1, h2, h3, h3, packN_length _ _, packN_lt _ _⟩

def Bounded (m : List (List Nat)) (T : Nat) : Prop := ∀ row ∈ m, ∀ v ∈ row, v ≤ T

theorem Bounded.mono {m : List (List Nat)} {T T' : Nat} (h : Bounded m T) (hle : T ≤ T') :
    Bounded m T' := fun row hr v hv => Nat.le_trans (h row hr v hv) hle

theorem bounded_new (rows cols : Nat) : Bounded (CMS.new rows cols).m 0 := by
  intro row hr v hv
  rw [List.eq_of_mem_replicate hr] at hv
  exact Nat.le_of_eq (List.eq_of_mem_replicate hv)

theorem bounded_updRows (m : List (List Nat)) (pos : List Nat) (c T : Nat) (h : Bounded m T) :
    Bounded (CMS.updRows m pos c) (T + c) := by
  induction m generalizing pos with
  | nil => cases pos <;> exact fun row hr => by cases hr
  | cons row m ih =>
    cases pos with
    | nil => exact h.mono (Nat.le_add_right _ _)
    | cons p pos =>
      obtain ⟨hr, hm⟩ := List.forall_mem_cons.1 h
      exact List.forall_mem_cons.2 ⟨forall_mem_modAt row p (· + c) 0 (· ≤ T + c)
        (fun v hv => Nat.le_trans (hr v hv) (Nat.le_add_right _ _))
        (fun hp => Nat.add_le_add_right (hr _ (CMS.getD_mem row p 0 hp)) c), ih pos hm⟩

theorem bounded_addRows (m₁ m₂ : List (List Nat)) (T₁ T₂ : Nat) (h₁ : Bounded m₁ T₁)
    (h₂ : Bounded m₂ T₂) : Bounded (CMS.addRows m₁ m₂) (T₁ + T₂) := by
  induction m₁ generalizing m₂ with
  | nil => cases m₂ <;> exact fun row hr => by cases hr
  | cons r₁ m₁ ih =>
    cases m₂ with
    | nil => exact h₁.mono (Nat.le_add_right _ _)
    | cons r₂ m₂ =>
      obtain ⟨hr₁, hm₁⟩ := List.forall_mem_cons.1 h₁
      obtain ⟨hr₂, hm₂⟩ := List.forall_mem_cons.1 h₂
      refine List.forall_mem_cons.2 ⟨fun v hv => ?_, ih m₂ hm₁ hm₂⟩
      obtain ⟨i, hi, rfl⟩ := List.mem_iff_getElem.1 hv
      rw [List.getElem_zipWith]
      exact Nat.add_le_add (hr₁ _ (List.getElem_mem _)) (hr₂ _ (List.getElem_mem _))

theorem mem_cells_le (m : List (List Nat)) (pos : List Nat) (T : Nat) (h : Bounded m T) :
    ∀ v ∈ CMS.cells m pos, v ≤ T := by
  induction m generalizing pos with
  | nil => intro v hm; cases pos <;> cases hm
  | cons row m ih =>
    cases pos with
    | nil => intro v hm; cases hm
    | cons p pos =>
      obtain ⟨hr, hm⟩ := List.forall_mem_cons.1 h
      exact List.forall_mem_cons.2 ⟨forall_getD hr (Nat.zero_le _) p, ih pos hm⟩

theorem count_le_of_bounded (s : CMS) (pos : List Nat) (T : Nat) (h : Bounded s.m T) :
    s.count pos ≤ T := by
  unfold CMS.count
  by_cases hne : CMS.cells s.m pos = []
  · rw [hne]; exact Nat.zero_le _
  · exact mem_cells_le s.m pos T h _ (CMS.minInit_mem _ hne)

/-- what `CountMinSketch.WriteTo` encodes: `rows`, `columns`, `allSum` (not part of the model
    state: an argument), the matrix row by row -/
def imgOfCMS (s : CMS) (allSum : Nat) : CMSImg := ⟨s.rows, s.cols, allSum, s.m⟩

theorem imgOfCMS_wf (s : CMS) (allSum T : Nat) {rows cols : Nat} (h1 : s.rows = rows)
    (h2 : s.cols = cols) (hs : CMS.Shape s.m rows cols) (hb : Bounded s.m T) (hr : rows < 2 ^ 64)
    (hc : cols < 2 ^ 64) (ha : allSum < 2 ^ 64) (hT : T < 2 ^ 64) : (imgOfCMS s allSum).WF := by
  subst h1 h2
  exact ⟨hr, hc, ha, hs.1, hs.2, fun r hr' c hc' => Nat.lt_of_le_of_lt (hb r hr' c hc') hT⟩

/-- A history of a Count-Min sketch: `NewCountMinSketch(rows, cols)`, then any number of
    `Update(pos, c)` and `Merge(other)`, where `other` is itself any such history. -/
inductive CMSHist where
  | new (rows cols : Nat)
  | update (h : CMSHist) (pos : List Nat) (c : Nat)
  | merge (h g : CMSHist)

namespace CMSHist

/-- the state the history produces (`Merge` returning an error leaves the receiver alone) -/
def state : CMSHist → CMS
  | new r c => CMS.new r c
  | update h pos c => CMS.update (state h) pos c
  | merge h g => match CMS.merge (state h) (state g) with
    | .ok s => s
    | .err => state h

def rows : CMSHist → Nat
  | new r _ => r
  | update h _ _ => h.rows
  | merge h _ => h.rows
def cols : CMSHist → Nat
  | new _ c => c
  | update h _ _ => h.cols
  | merge h _ => h.cols

/-- total of all counts that went into the matrix: own updates plus the totals of the sketches
    merged successfully -/
def total : CMSHist → Nat
  | new _ _ => 0
  | update h _ c => h.total + c
  | merge h g => h.total + (if h.rows = g.rows ∧ h.cols = g.cols then g.total else 0)

/-- the `allSum` field as the Go code maintains it: `Update` adds the count, `Merge` does not
    touch it (before wrap-around) -/
def ownSum : CMSHist → Nat
  | new _ _ => 0
  | update h _ c => h.ownSum + c
  | merge h _ => h.ownSum

theorem ownSum_le_total : ∀ h : CMSHist, h.ownSum ≤ h.total
  | new _ _ => Nat.le_refl _
  | update h _ c => Nat.add_le_add_right (ownSum_le_total h) c
  | merge h _ => Nat.le_trans (ownSum_le_total h) (Nat.le_add_right _ _)

theorem inv : ∀ h : CMSHist, h.state.rows = h.rows ∧ h.state.cols = h.cols ∧
    CMS.Shape h.state.m h.rows h.cols ∧ Bounded h.state.m h.total
  | new r c => ⟨rfl, rfl, CMS.new_shape r c, bounded_new r c⟩
  | update h pos c => by
    obtain ⟨h1, h2, h3, h4⟩ := inv h
    exact ⟨h1, h2, CMS.updRows_shape _ pos c _ _ h3, bounded_updRows _ pos c _ h4⟩
  | merge h g => by
    obtain ⟨h1, h2, h3, h4⟩ := inv h
    obtain ⟨g1, g2, g3, g4⟩ := inv g
    by_cases hd : h.rows = g.rows ∧ h.cols = g.cols
    · have hm := CMS.merge_ok h.state g.state (by rw [h1, g1, hd.1]) (by rw [h2, g2, hd.2])
      simp only [state, total, hm, if_pos hd]
      exact ⟨h1, h2, CMS.addRows_shape _ _ _ _ h3 (hd.1 ▸ hd.2 ▸ g3), bounded_addRows _ _ _ _ h4 g4⟩
    · have hm := CMS.merge_err h.state g.state
        (by rw [h1, g1, h2, g2]; exact Decidable.not_and_iff_not_or_not.1 hd)
      simp only [state, total, hm, if_neg hd, Nat.add_zero]
      exact ⟨h1, h2, h3, h4⟩

end CMSHist

/-- what `HyperLogLog.WriteTo` encodes: `numRegisters`, `numBytesPerHash` and the bit pattern
    of `correctionBias` (both fixed by the constructor, not part of the model state: arguments),
    one byte per register -/
def imgOfHLL (s : HLL) (nbp bias : Nat) : HLLImg := ⟨s.m, nbp, bias, s.regs.map UInt8.ofNat⟩

theorem map_toNat_ofNat (l : List Nat) (h : ∀ v ∈ l, v < 256) :
    (l.map UInt8.ofNat).map UInt8.toNat = l := by
  rw [List.map_map]
  exact (List.map_congr_left fun v hv => UInt8.toNat_ofNat_of_lt' (h v hv)).trans (List.map_id l)

/-- `NewHyperLogLog(m)`, then any number of `Update` (register index and value of the element)
    and `Merge(other)` with `other` any such history -/
inductive HLLHist where
  | new (m : Nat)
  | update (h : HLLHist) (idx val : Nat)
  | merge (h g : HLLHist)

namespace HLLHist

/-- the state the history produces: an `Update` that panics (index out of range, finding D4) and a
    `Merge` that returns an error leave the receiver alone -/
def state : HLLHist → HLL
  | new m => HLL.new m
  | update h idx val => match HLL.update (state h) idx val with
    | .ok s => s
    | _ => state h
  | merge h g => match HLL.merge (state h) (state g) with
    | .ok s => s
    | _ => state h

def m : HLLHist → Nat
  | new m => m
  | update h _ _ => h.m
  | merge h _ => h.m

/-- every register value offered by an `Update` is a byte (`uint8(count)` in the Go code;
    `HLL.valueOf` is `… % 256`) -/
def ValsOK : HLLHist → Prop
  | new _ => True
  | update h _ val => h.ValsOK ∧ val < 256
  | merge h g => h.ValsOK ∧ g.ValsOK

instance instDecidableValsOK : (h : HLLHist) → Decidable h.ValsOK
  | new _ => isTrue trivial
  | update h _ val =>
    have := instDecidableValsOK h
    inferInstanceAs (Decidable (h.ValsOK ∧ val < 256))
  | merge h g =>
    have := instDecidableValsOK h
    have := instDecidableValsOK g
    inferInstanceAs (Decidable (h.ValsOK ∧ g.ValsOK))

theorem mem_mergeRegs : ∀ (a b : List Nat) (v : Nat), v ∈ HLL.mergeRegs a b → v ∈ a ∨ v ∈ b
  | [], b, v, hv => by cases b <;> cases hv
  | x :: a, [], v, hv => Or.inl hv
  | x :: a, y :: b, v, hv => by
    rcases List.mem_cons.1 hv with rfl | hv
    · rcases Nat.le_total x y with h | h
      · rw [Nat.max_eq_right h]; exact Or.inr List.mem_cons_self
      · rw [Nat.max_eq_left h]; exact Or.inl List.mem_cons_self
    · exact (mem_mergeRegs a b v hv).imp (List.mem_cons_of_mem _) (List.mem_cons_of_mem _)

theorem state_update (h : HLLHist) (idx val : Nat) : (update h idx val).state =
    if idx < h.state.regs.length
    then { h.state with regs := modAt h.state.regs idx (fun o => max o val) } else h.state := by
  rw [state, HLL.update]
  by_cases hi : idx < h.state.regs.length
  · rw [if_pos hi, if_pos hi]
  · rw [if_neg hi, if_neg hi]

theorem state_merge (h g : HLLHist) : (merge h g).state =
    if h.state.m ≠ g.state.m then h.state
    else { h.state with regs := HLL.mergeRegs h.state.regs g.state.regs } := by
  rw [state, HLL.merge]
  by_cases hm : h.state.m ≠ g.state.m
  · rw [if_pos hm, if_pos hm]
  · rw [if_neg hm, if_neg hm]

theorem inv : ∀ h : HLLHist, h.state.m = h.m ∧ h.state.regs.length = h.m
  | new _ => ⟨rfl, List.length_replicate⟩
  | update h idx val => by
    rw [state_update]
    split
    · exact ⟨(inv h).1, (modAt_length _ _ _).trans (inv h).2⟩
    · exact inv h
  | merge h g => by
    rw [state_merge]
    split
    · exact inv h
    · exact ⟨(inv h).1, (HLL.mergeRegs_length _ _).trans (inv h).2⟩

theorem regs_lt : ∀ h : HLLHist, h.ValsOK → ∀ v ∈ h.state.regs, v < 256
  | new _, _ => fun v hv => by rw [List.eq_of_mem_replicate hv]; decide
  | update h idx val, hv => by
    have ih := regs_lt h hv.1
    rw [state_update]
    split
    · exact forall_mem_modAt _ idx _ 0 (· < 256) ih fun hi =>
        Nat.max_lt.2 ⟨ih _ (CMS.getD_mem _ idx 0 hi), hv.2⟩
    · exact ih
  | merge h g, hv => by
    rw [state_merge]
    split
    · exact regs_lt h hv.1
    · exact fun v hv' => (mem_mergeRegs _ _ v hv').elim (regs_lt h hv.1 v) (regs_lt g hv.2 v)

end HLLHist

/-! ## Cuckoo filter (in memory: `BucketMem`) -/

section cuckoo
open Gostatix.Cuckoo
variable {F : Type} [DecidableEq F] [Inhabited (BucketMem F)]

/-- what `BucketMem.writeTo` encodes: `size`, the cached `length`, every slot as a string -/
def imgOfBucket (enc : F → Bytes) (b : BucketMem F) : BucketImg :=
  ⟨b.size, b.length, b.elements.map enc⟩

/-- what `CuckooFilter.WriteTo` encodes: the five numbers, then every bucket -/
def imgOfCuckoo (enc : F → Bytes) (c : Cuckoo (BucketMem F)) : CuckooImg :=
  ⟨c.n, c.bsize, c.fpl, c.length, c.retries, c.buckets.map (imgOfBucket enc)⟩

/-- bucket invariant that needs NO validity assumption on the operations: `s` slots, the cached
    length never exceeds `s`, every slot satisfies `P`.  `length ≤ s` (not `= occupied slots`) is
    all `BucketImg.WF` asks (`length < 2^64`, from `bsize < 2^64`) and all that survives D3, where
    an eviction writes the empty fingerprint over a slot and leaves the cached length alone. -/
def BOK (P : F → Prop) (s : Nat) (b : BucketMem F) : Prop :=
  b.size = s ∧ b.elements.length = s ∧ b.length ≤ s ∧ ∀ e ∈ b.elements, P e

def BsOK (P : F → Prop) (s n : Nat) (bs : List (BucketMem F)) : Prop :=
  bs.length = n ∧ ∀ b ∈ bs, BOK P s b

variable {P : F → Prop} {s n : Nat}

theorem bok_new (emp : F) (hemp : P emp) : BOK P s (BucketMem.new emp s) :=
  ⟨rfl, List.length_replicate, Nat.zero_le _, fun _ he => List.eq_of_mem_replicate he ▸ hemp⟩

/-- every bucket operation writes at most one slot and keeps the cached length within `s` -/
theorem bok_write {b : BucketMem F} (hb : BOK P s b) (i : Nat) (e : F) (he : P e) (l : Nat)
    (hl : l ≤ s) : BOK P s ⟨b.size, b.elements.set i e, l⟩ :=
  ⟨hb.1, List.length_set.trans hb.2.1, hl, fun _ hx =>
    (List.mem_or_eq_of_mem_set hx).elim (hb.2.2.2 _) (· ▸ he)⟩

theorem bok_set {b : BucketMem F} (hb : BOK P s b) (i : Nat) (e : F) (he : P e) :
    BOK P s (BucketMem.set b i e) :=
  bok_write hb i e he _ hb.2.2.1

theorem bok_add (emp : F) {b : BucketMem F} (hb : BOK P s b) (e : F) (he : P e) :
    BOK P s (BucketMem.add emp b e) := by
  unfold BucketMem.add
  split
  · exact hb
  · next hc =>
    refine bok_write hb _ e he _ (hb.1 ▸ ?_)
    exact of_decide_eq_true (Decidable.not_not.1 (not_or.1 hc).2)

theorem bok_remove (emp : F) (hemp : P emp) {b : BucketMem F} (hb : BOK P s b) (e : F) :
    BOK P s (BucketMem.remove emp b e) := by
  unfold BucketMem.remove
  split
  · exact bok_write hb _ emp hemp _ (Nat.le_trans (Nat.sub_le _ _) hb.2.2.1)
  · exact hb

theorem bucketAt_slots (hdef : ∀ e ∈ (default : BucketMem F).elements, P e)
    {bs : List (BucketMem F)} (h : BsOK P s n bs) (i : Nat) :
    ∀ e ∈ (bucketAt bs i).elements, P e :=
  forall_getD (Q := fun b => ∀ e ∈ b.elements, P e) (fun b hb => (h.2 b hb).2.2.2) hdef i

theorem bsok_modAt {bs : List (BucketMem F)} (h : BsOK P s n bs) (i : Nat)
    (f : BucketMem F → BucketMem F) (hf : ∀ b, BOK P s b → BOK P s (f b)) :
    BsOK P s n (modAt bs i f) :=
  ⟨(modAt_length _ _ _).trans h.1, forall_mem_modAt bs i f default (BOK P s) h.2
    (fun hi => hf _ (h.2 _ (CMS.getD_mem bs i default hi)))⟩

theorem kick_ok (emp : F) (hemp : P emp) (hdef : ∀ e ∈ (default : BucketMem F).elements, P e)
    (alt : Nat → F → Nat) (r : Nat) (bs : List (BucketMem F)) (idx : Nat) (cur : F)
    (slots : List Nat) (log : List (F × Nat × Nat)) (h : BsOK P s n bs) (hcur : P cur)
    (hl : ∀ it ∈ log, P it.1) :
    BsOK P s n (kick (BucketMem.ops emp) alt r bs idx cur slots log).1 ∧
    ∀ it ∈ (kick (BucketMem.ops emp) alt r bs idx cur slots log).2.1, P it.1 := by
  induction r generalizing bs idx cur slots log with
  | zero => exact ⟨h, hl⟩
  | succ r ih =>
    have hprev : P ((BucketMem.ops emp).get (bucketAt bs idx) (slots.headD 0)) :=
      forall_getD (bucketAt_slots hdef h idx) hemp _
    have h1 := bsok_modAt h idx (fun b => (BucketMem.ops emp).set b (slots.headD 0) cur)
      (fun b hb => bok_set hb _ _ hcur)
    have hl' : ∀ it ∈ (_, idx, slots.headD 0) :: log, P it.1 := List.forall_mem_cons.2 ⟨hprev, hl⟩
    rw [kick_succ]
    split
    · exact ⟨bsok_modAt h1 _ _ (fun b hb => bok_add emp hb _ hprev), hl'⟩
    · exact ih _ _ _ slots.tail _ h1 hprev hl'

theorem rollback_ok (emp : F) (log : List (F × Nat × Nat)) (bs : List (BucketMem F))
    (h : BsOK P s n bs) (hl : ∀ it ∈ log, P it.1) :
    BsOK P s n (rollback (BucketMem.ops emp) bs log) := by
  induction log generalizing bs with
  | nil => exact h
  | cons it log ih =>
    rw [rollback_cons]
    exact ih _ (bsok_modAt h it.2.1 _ (fun b hb => bok_set hb _ _ (hl it List.mem_cons_self)))
      (fun it' hit => hl it' (List.mem_cons_of_mem _ hit))

def COK (P : F → Prop) (c : Cuckoo (BucketMem F)) : Prop := BsOK P c.bsize c.n c.buckets

/-- any positions, mode, random choices, either outcome -/
theorem insert_ok (emp : F) (hemp : P emp) (hdef : ∀ e ∈ (default : BucketMem F).elements, P e)
    (alt : Nat → F → Nat) (c : Cuckoo (BucketMem F)) (fp : F) (i1 i2 : Nat) (d side : Bool)
    (slots : List Nat) (hc : COK P c) (hfp : P fp) :
    COK P (insert (BucketMem.ops emp) alt c fp i1 i2 d side slots).val ∧
    (insert (BucketMem.ops emp) alt c fp i1 i2 d side slots).val.length ≤ c.length + 1 := by
  have hadd := fun i => bsok_modAt hc i (fun b => (BucketMem.ops emp).add b fp)
    (fun b hb => bok_add emp hb _ hfp)
  rcases insert_cases (o := BucketMem.ops emp) alt c fp i1 i2 d side slots with
    ⟨_, e⟩ | ⟨_, _, e⟩ | ⟨_, _, bs, log, found, hk, e⟩
  · rw [e]; exact ⟨hadd i1, Nat.le_refl _⟩
  · rw [e]; exact ⟨hadd i2, Nat.le_refl _⟩
  · obtain ⟨k1, k2⟩ := kick_ok emp hemp hdef alt c.retries c.buckets (if side then i1 else i2) fp
      slots [] hc hfp (fun _ h => nomatch h)
    rw [hk] at k1 k2
    rw [e]
    cases found with
    | true => exact ⟨k1, Nat.le_refl _⟩
    | false =>
      cases d with
      | true => exact ⟨k1, Nat.le_succ _⟩
      | false => exact ⟨rollback_ok emp log bs k1 k2, Nat.le_succ _⟩

theorem remove_ok (emp : F) (hemp : P emp) (c : Cuckoo (BucketMem F)) (fp : F) (i1 i2 : Nat)
    (hc : COK P c) :
    COK P (remove (BucketMem.ops emp) c fp i1 i2).1 ∧
    (remove (BucketMem.ops emp) c fp i1 i2).1.length ≤ c.length := by
  have hrem := fun i => bsok_modAt hc i (fun b => (BucketMem.ops emp).remove b fp)
    (fun b hb => bok_remove emp hemp hb _)
  unfold remove
  split
  · exact ⟨hrem i1, Nat.sub_le _ _⟩
  · split
    · exact ⟨hrem i2, Nat.sub_le _ _⟩
    · exact ⟨hc, Nat.le_refl _⟩

def COp.fp : COp F → F
  | .insert fp _ _ _ _ => fp
  | .remove fp _ => fp
  | .lookup fp _ => fp

/-- number of `Insert` calls of a history (successful or not) -/
def numInserts : List (COp F) → Nat
  | [] => 0
  | .insert _ _ _ _ _ :: h => numInserts h + 1
  | _ :: h => numInserts h

theorem numInserts_cons (op : COp F) (h : List (COp F)) :
    numInserts (op :: h) = numInserts [op] + numInserts h := by
  cases op
  · exact Nat.add_comm _ _
  all_goals exact (Nat.zero_add _).symm

/-- any positions, in range or not; the empty fingerprint included; failing inserts of both kinds -/
theorem run_ok (emp : F) (hemp : P emp) (hdef : ∀ e ∈ (default : BucketMem F).elements, P e)
    (alt : Nat → F → Nat) (c : Cuckoo (BucketMem F)) (h : List (COp F)) (hc : COK P c)
    (hfp : ∀ op ∈ h, P (COp.fp op)) :
    COK P (run (BucketMem.ops emp) alt c h) ∧
    (run (BucketMem.ops emp) alt c h).length ≤ c.length + numInserts h := by
  induction h generalizing c with
  | nil => exact ⟨hc, Nat.le_refl _⟩
  | cons op h ih =>
    have hp := hfp op List.mem_cons_self
    have hstep : COK P (step (BucketMem.ops emp) alt c op).1 ∧
        (step (BucketMem.ops emp) alt c op).1.length ≤ c.length + numInserts [op] := by
      cases op with
      | insert fp i1 d side slots => exact insert_ok emp hemp hdef alt c fp i1 _ d side slots hc hp
      | remove fp i1 => exact remove_ok emp hemp c fp i1 _ hc
      | lookup fp i1 => exact ⟨hc, Nat.le_refl _⟩
    obtain ⟨a, b⟩ := hstep
    obtain ⟨a', b'⟩ := ih _ a (fun op' hop => hfp op' (List.mem_cons_of_mem _ hop))
    refine ⟨a', ?_⟩
    rw [run_cons, numInserts_cons, ← Nat.add_assoc]
    exact Nat.le_trans b' (Nat.add_le_add_right b _)

theorem empty_ok (emp : F) (hemp : P emp) (n bsize fpl retries : Nat) :
    COK P (Mem.empty emp n bsize fpl retries) :=
  ⟨List.length_replicate, fun _ hb => List.eq_of_mem_replicate hb ▸ bok_new emp hemp⟩

/-- `c₀`: the filter the history started from; `k`: how much `length` may have grown -/
theorem imgOfCuckoo_wf (enc : F → Bytes) {c₀ c : Cuckoo (BucketMem F)} (k : Nat)
    (hp : SameParams c₀ c)
    (hc : COK (fun e => (enc e).length < 2 ^ 64) c ∧ c.length ≤ c₀.length + k)
    (h1 : c₀.n < 2 ^ 64) (h2 : c₀.bsize < 2 ^ 64) (h3 : c₀.fpl < 2 ^ 64)
    (h4 : c₀.length + k < 2 ^ 64) (h5 : c₀.retries < 2 ^ 64) : (imgOfCuckoo enc c).WF := by
  obtain ⟨p1, p2, p3, p5⟩ := hp
  have h2' := Nat.lt_of_le_of_lt (Nat.le_of_eq p2) h2
  refine ⟨Nat.lt_of_le_of_lt (Nat.le_of_eq p1) h1, h2', Nat.lt_of_le_of_lt (Nat.le_of_eq p3) h3,
    Nat.lt_of_le_of_lt hc.2 h4, Nat.lt_of_le_of_lt (Nat.le_of_eq p5) h5,
    (List.length_map _).trans hc.1.1, List.forall_mem_map.2 fun b hb => ?_⟩
  obtain ⟨k1, k2, k3, k4⟩ := hc.1.2 b hb
  exact ⟨Nat.lt_of_le_of_lt (Nat.le_of_eq k1) h2', Nat.lt_of_le_of_lt k3 h2',
    (List.length_map _).trans (k2.trans k1.symm), List.forall_mem_map.2 k4⟩

end cuckoo

/-! ### byte-level histories of the in-memory filter (`getPositions` on the element bytes) -/

section cuckooBytes
open Gostatix.Cuckoo

/-- the bytes `[]byte(str)` of a fingerprint / element name -/
def strBytes (s : String) : Bytes := s.toUTF8.data.toList

theorem strBytes_ofList_le (l : List Char) : (strBytes (String.ofList l)).length ≤ 4 * l.length := by
  unfold strBytes
  rw [String.toUTF8_eq_toByteArray, String.toByteArray_ofList, List.utf8Encode]
  simp only [List.data_toByteArray, List.length_flatMap, String.length_utf8EncodeChar]
  induction l with
  | nil => simp
  | cons c l ih =>
    simp only [List.map_cons, List.sum_cons, List.length_cons]
    have := Char.utf8Size_le_four c
    omega

theorem strBytes_empty : strBytes "" = [] := by decide +kernel

/-- every fingerprint `getPositions` can return — a prefix of the decimal string of a 64-bit
    hash, or the empty string of finding D3 — has at most 80 bytes (in fact at most 20) -/
theorem strBytes_positions_le (n fpl : Nat) (data : List UInt8) :
    (strBytes (positions n fpl data).1).length ≤ 80 := by
  unfold positions
  simp only
  split
  · rw [strBytes_empty]; exact Nat.zero_le _
  · exact Nat.le_trans (strBytes_ofList_le _) (Nat.mul_le_mul_left 4
      (Nat.le_trans (List.length_take_le' _ _)
        (Nat.le_trans (Nat.le_of_eq String.length_toList) (digits_getHash_le data))))

def numInsertsB : List BOp → Nat
  | [] => 0
  | .insert _ _ _ _ :: h => numInsertsB h + 1
  | _ :: h => numInsertsB h

theorem numInsertsB_cons (op : BOp) (h : List BOp) :
    numInsertsB (op :: h) = numInsertsB [op] + numInsertsB h := by
  cases op
  · exact Nat.add_comm _ _
  all_goals exact (Nat.zero_add _).symm

theorem runB_ok {P : String → Prop} (hemp : P "")
    (hpos : ∀ n fpl data, P (positions n fpl data).1) (c : Cuckoo (BucketMem String))
    (h : List BOp) (hc : COK P c) :
    COK P (runB (BucketMem.ops "") c h) ∧
    (runB (BucketMem.ops "") c h).length ≤ c.length + numInsertsB h := by
  have hdef : ∀ e ∈ (default : BucketMem String).elements, P e := fun e he => nomatch he
  induction h generalizing c with
  | nil => exact ⟨hc, Nat.le_refl _⟩
  | cons op h ih =>
    have hstep : COK P (stepB (BucketMem.ops "") c op).1 ∧
        (stepB (BucketMem.ops "") c op).1.length ≤ c.length + numInsertsB [op] := by
      cases op with
      | insert data d side slots =>
        exact insert_ok "" hemp hdef _ c _ _ _ d side slots hc (hpos c.n c.fpl data)
      | remove data =>
        exact remove_ok "" hemp c (positions c.n c.fpl data).1 (positions c.n c.fpl data).2.1
          (positions c.n c.fpl data).2.2 hc
      | lookup data => exact ⟨hc, Nat.le_refl _⟩
    obtain ⟨a', b'⟩ := ih _ hstep.1
    refine ⟨a', ?_⟩
    rw [runB_cons, numInsertsB_cons, ← Nat.add_assoc]
    exact Nat.le_trans b' (Nat.add_le_add_right hstep.2 _)

end cuckooBytes

/-! ## Top-K (in memory: Count-Min sketch + `container/heap`) -/

section topk
open Gostatix.TopK

/-- what `TopK.WriteTo` encodes: `k`, the bit patterns of `errorRate` and `accuracy` (arguments),
    the sketch (with its `allSum`: argument), the heap slice in slice order -/
def imgOfTopK (enc : String → Bytes) (t : TopK) (er acc allSum : Nat) : TopKImg :=
  ⟨t.k, er, acc, imgOfCMS t.sketch allSum, t.heap.toList.map (fun e => (enc e.1, e.2))⟩

/-- one `Insert(x, c)`: element, its sketch positions (one per row), count -/
abbrev TKOp := String × List Nat × Nat

def tkStep (t : TopK) (o : TKOp) : TopK := t.insert o.1 o.2.1 o.2.2
def tkRun (t : TopK) (ops : List TKOp) : TopK := ops.foldl tkStep t
/-- `NewTopK`: an empty heap over a fresh sketch -/
def tkInit (k rows cols : Nat) : TopK := ⟨k, CMS.new rows cols, #[]⟩
def tkTotal (ops : List TKOp) : Nat := sumL (ops.map (·.2.2))

theorem runInserts_eq_tkRun (posOf : String → List Nat) (t : TopK) (ops : List (String × Nat)) :
    runInserts posOf t ops = tkRun t (ops.map (fun o => (o.1, posOf o.1, o.2))) := by
  induction ops generalizing t with
  | nil => rfl
  | cons o ops ih => exact ih _

/-- holds however ties are broken -/
theorem step_sub {k : Nat} {heap heap' : List (String × Nat)} {xf : String × Nat}
    (hs : Step k heap xf heap') (hle : heap.length ≤ k) :
    heap'.length ≤ k ∧ ∀ p ∈ heap', p ∈ heap ∨ p = xf := by
  obtain ⟨hadm, hrej⟩ := hs
  have hup : ∀ p ∈ upsert heap xf.1 xf.2, p ∈ heap ∨ p = xf := fun p hp =>
    ((mem_upsert heap xf.1 xf.2 p).1 hp).imp_left And.left
  by_cases hA : Admit k heap xf.2
  · obtain ⟨hev, hkeep⟩ := hadm hA
    by_cases hgt : k < (upsert heap xf.1 xf.2).length
    · obtain ⟨v, hv, _, hperm⟩ := hev hgt
      refine ⟨?_, fun p hp => hup p (List.mem_of_mem_erase (hperm.mem_iff.1 hp))⟩
      rw [hperm.length_eq, List.length_erase_of_mem hv]
      exact Nat.sub_le_of_le_add
        (Nat.le_trans (upsert_length_le heap xf.1 xf.2) (Nat.add_le_add_right hle 1))
    · exact ⟨(hkeep hgt).length_eq ▸ Nat.le_of_not_lt hgt,
        fun p hp => hup p ((hkeep hgt).mem_iff.1 hp)⟩
  · exact ⟨(hrej hA).length_eq ▸ hle, fun p hp => Or.inl ((hrej hA).mem_iff.1 hp)⟩

/-- `T`: the sum of the inserted counts.  Heap order and distinct names are what the heap code
    needs to behave as specified. -/
structure TKInv (Q : String → Prop) (rows cols T : Nat) (t : TopK) : Prop where
  srows : t.sketch.rows = rows
  scols : t.sketch.cols = cols
  shape : CMS.Shape t.sketch.m rows cols
  bound : Bounded t.sketch.m T
  heap : HeapInv t.heap
  nodup : (t.heap.toList.map (·.1)).Nodup
  size : t.heap.size ≤ t.k
  entries : ∀ e ∈ t.heap.toList, Q e.1 ∧ e.2 ≤ T

theorem tkInit_inv (Q : String → Prop) (k rows cols : Nat) :
    TKInv Q rows cols 0 (tkInit k rows cols) where
  srows := rfl
  scols := rfl
  shape := CMS.new_shape rows cols
  bound := bounded_new rows cols
  heap := fun _ hi => nomatch hi
  nodup := List.nodup_nil
  size := Nat.zero_le _
  entries := fun _ he => nomatch he

theorem tkStep_inv (Q : String → Prop) (rows cols T : Nat) (t : TopK) (o : TKOp)
    (h : TKInv Q rows cols T t) (hq : Q o.1) :
    TKInv Q rows cols (T + o.2.2) (tkStep t o) ∧ (tkStep t o).k = t.k := by
  obtain ⟨x, pos, c⟩ := o
  have hb : Bounded (t.sketch.update pos c).m (T + c) := bounded_updRows _ pos c T h.bound
  have hf : (t.sketch.update pos c).count pos ≤ T + c := count_le_of_bounded _ pos _ hb
  obtain ⟨hstep, hinv⟩ := mem_refines_spec t.k t.heap x ((t.sketch.update pos c).count pos)
    h.heap h.nodup
  obtain ⟨hlen, hmem⟩ := step_sub hstep (by simpa using h.size)
  refine ⟨⟨h.srows, h.scols, CMS.updRows_shape _ pos c _ _ h.shape, hb, hinv,
    step_nodup hstep h.nodup, ?_, ?_⟩, rfl⟩
  · simpa [tkStep, TopK.insert] using hlen
  · intro e he
    rcases hmem e he with h' | rfl
    · exact ⟨(h.entries e h').1, Nat.le_trans (h.entries e h').2 (Nat.le_add_right _ _)⟩
    · exact ⟨hq, hf⟩

theorem tkRun_inv (Q : String → Prop) (rows cols T : Nat) (t : TopK) (ops : List TKOp)
    (h : TKInv Q rows cols T t) (hq : ∀ o ∈ ops, Q o.1) :
    TKInv Q rows cols (T + tkTotal ops) (tkRun t ops) ∧ (tkRun t ops).k = t.k := by
  induction ops generalizing t T with
  | nil => exact ⟨h, rfl⟩
  | cons o ops ih =>
    obtain ⟨a, b⟩ := tkStep_inv Q rows cols T t o h (hq o List.mem_cons_self)
    obtain ⟨a', b'⟩ := ih _ _ a (fun o' ho => hq o' (List.mem_cons_of_mem _ ho))
    rw [show T + tkTotal (o :: ops) = T + o.2.2 + tkTotal ops from (Nat.add_assoc _ _ _).symm]
    exact ⟨a', b'.trans b⟩

theorem imgOfTopK_wf (enc : String → Bytes) (t : TopK) (er acc allSum rows cols T : Nat)
    (h : TKInv (fun x => (enc x).length < 2 ^ 64) rows cols T t)
    (hk : t.k < 2 ^ 64) (hr : rows < 2 ^ 64) (hc : cols < 2 ^ 64) (hT : T < 2 ^ 64)
    (her : er < 2 ^ 64) (hacc : acc < 2 ^ 64) (ha : allSum < 2 ^ 64) :
    (imgOfTopK enc t er acc allSum).WF := by
  refine ⟨hk, her, hacc, ?_, ?_, ?_⟩
  · exact imgOfCMS_wf t.sketch allSum T h.srows h.scols h.shape h.bound hr hc ha hT
  · exact Nat.lt_of_le_of_lt
      (Nat.le_trans (Nat.le_of_eq ((List.length_map _).trans Array.length_toList)) h.size) hk
  · exact List.forall_mem_map.2 fun e he =>
      ⟨(h.entries e he).1, Nat.lt_of_le_of_lt (h.entries e he).2 hT⟩

end topk

end Gostatix.Reach
