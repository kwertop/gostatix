/-
  Gostatix.Proofs.RedisBloom — `SETBIT`/`GETBIT` on a Redis string (byte `n/8`, bit `7 - n%8`)
  against `List.set`/`getD` on the bits, what `absBloom` means, and the insert and lookup loops
  of bitset_redis.go (the simulation theorems: Props/C08.lean).
-/
import Gostatix.Proofs.RedisFrame
namespace Gostatix.Redis

theorem setBitByte_testBit (b : UInt8) (j i : Nat) (hj : j < 8) (hi : i < 8) :
    (setBitByte b j).toNat.testBit (7 - i) = (decide (i = j) || b.toNat.testBit (7 - i)) := by
  unfold setBitByte
  rw [UInt8.toNat_ofNat', Nat.testBit_mod_two_pow, Nat.testBit_or, Nat.testBit_two_pow]
  have h7 : decide (7 - i < 8) = true := by simp; omega
  rw [h7, Bool.true_and, Bool.or_comm]
  congr 1
  by_cases e : i = j
  · subst e; simp
  · have : 7 - j ≠ 7 - i := by omega
    simp [e, this]

theorem setBit_pad (bytes : List UInt8) (n : Nat) (hn : n < 8 * bytes.length) :
    n / 8 + 1 - bytes.length = 0 :=
  Nat.sub_eq_zero_of_le (Nat.div_lt_of_lt_mul hn)

theorem setBit_length (bytes : List UInt8) (n : Nat) (hn : n < 8 * bytes.length) :
    (setBit bytes n).length = bytes.length := by
  unfold setBit
  simp only [setBit_pad bytes n hn, List.replicate_zero, List.append_nil, modAt_length]

theorem getBit_setBit (bytes : List UInt8) (n p : Nat) (hn : n < 8 * bytes.length) :
    getBit (setBit bytes n) p = (decide (p = n) || getBit bytes p) := by
  unfold setBit getBit
  simp only [setBit_pad bytes n hn, List.replicate_zero, List.append_nil]
  rw [modAt_getD _ _ _ _ _ (Nat.div_lt_of_lt_mul hn)]
  have h8 : 0 < 8 := by decide
  by_cases e : p / 8 = n / 8
  · rw [if_pos e, setBitByte_testBit _ _ _ (Nat.mod_lt _ h8) (Nat.mod_lt _ h8), e]
    -- same byte: the same bit exactly when the positions are equal
    refine congrArg (· || _) (decide_eq_decide.mpr
      ⟨fun e' => by rw [← Nat.div_add_mod p 8, ← Nat.div_add_mod n 8, e, e'], fun h => by rw [h]⟩)
  · rw [if_neg e, decide_eq_false fun h => e (by rw [h]), Bool.false_or]

theorem bitsOf_length (bytes : List UInt8) : (bitsOf bytes).length = 8 * bytes.length := by
  simp [bitsOf]

theorem bitsOf_getD (bytes : List UInt8) (p : Nat) (hp : p < 8 * bytes.length) :
    (bitsOf bytes).getD p false = getBit bytes p := by
  simp [bitsOf, List.getD_eq_getElem?_getD, List.getElem?_map, List.getElem?_range hp]

theorem bitsOf_setBit (bytes : List UInt8) (n : Nat) (hn : n < 8 * bytes.length) :
    bitsOf (setBit bytes n) = (bitsOf bytes).set n true := by
  apply List.ext_getElem?
  intro p
  simp only [bitsOf, List.getElem?_map, List.getElem?_set, setBit_length bytes n hn,
    List.length_map, List.length_range]
  by_cases hp : p < 8 * bytes.length
  · rw [List.getElem?_range hp]
    simp only [Option.map_some, getBit_setBit bytes n p hn]
    by_cases e : n = p
    · subst e; simp [hn]
    · have : p ≠ n := Ne.symm e
      simp [e, this]
  · have : (List.range (8 * bytes.length))[p]? = none := by
      rw [List.getElem?_eq_none]; simpa using hp
    have e : n ≠ p := by omega
    simp [this, e]

theorem setBits_take (bits : List Bool) (ps : List Nat) (n : Nat) :
    (Bloom.setBits bits ps).take n = Bloom.setBits (bits.take n) ps := by
  unfold Bloom.setBits
  induction ps generalizing bits with
  | nil => rfl
  | cons p ps ih => simp only [List.foldl_cons]; rw [ih, List.take_set]

theorem setBits_length' (bits : List Bool) (ps : List Nat) :
    (Bloom.setBits bits ps).length = bits.length := by
  unfold Bloom.setBits
  induction ps generalizing bits with
  | nil => rfl
  | cons p ps ih => simp only [List.foldl_cons]; rw [ih]; simp

theorem absBloom_eq_some_iff (s : Store) (h : BloomHandle) (b : Bloom) :
    absBloom s h = some b ↔ ∃ bytes, s h.bitsetKey = some (.str bytes) ∧ h.size ≤ 8 * bytes.length ∧
      b = { size := h.size, k := h.k, bits := (bitsOf bytes).take h.size } := by
  unfold absBloom
  constructor
  · intro hh
    split at hh
    · rename_i bytes hb
      split at hh
      · rename_i hle
        exact ⟨bytes, hb, hle, (Option.some.inj hh).symm⟩
      · cases hh
    · cases hh
  · rintro ⟨bytes, hb, hle, rfl⟩
    rw [hb]; simp only [hle, if_true]

theorem bloomInsertLoop_spec (key : String) :
    ∀ (ps : List Nat) (s : Store) (bytes : List UInt8),
      s key = some (.str bytes) → (∀ p ∈ ps, p < 8 * bytes.length) →
      ∃ s' bytes', bloomInsertLoop key ps s = (s', some ()) ∧ s' key = some (.str bytes') ∧
        bytes'.length = bytes.length ∧ bitsOf bytes' = Bloom.setBits (bitsOf bytes) ps ∧
        ∀ k, k ≠ key → s' k = s k := by
  intro ps
  induction ps with
  | nil => intro s bytes hs _; exact ⟨s, bytes, rfl, hs, rfl, rfl, fun _ _ => rfl⟩
  | cons p ps ih =>
    intro s bytes hs hps
    have hp : p < 8 * bytes.length := hps p List.mem_cons_self
    have hlen := setBit_length bytes p hp
    obtain ⟨s', bytes', hrun, hs', hlen', hbits, hframe⟩ :=
      ih (s.set key (.str (setBit bytes p))) (setBit bytes p) (Store.set_self _ _ _)
        (fun q hq => by rw [hlen]; exact hps q (List.mem_cons_of_mem _ hq))
    refine ⟨s', bytes', ?_, hs', by omega, ?_, ?_⟩
    · unfold bloomInsertLoop
      rw [Script.bind_ok (cmdSETBIT_str hs p)]
      exact hrun
    · rw [hbits, bitsOf_setBit bytes p hp]; rfl
    · intro k hk
      rw [hframe k hk]; exact Store.set_ne _ _ hk

theorem bloomLookupLoop_spec (key : String) (s : Store) (bytes : List UInt8)
    (hs : s key = some (.str bytes)) :
    ∀ (ps : List Nat), bloomLookupLoop key ps s = (s, some (ps.all (fun p => getBit bytes p))) := by
  intro ps
  induction ps with
  | nil => rfl
  | cons p ps ih =>
    unfold bloomLookupLoop
    have t : Script.try_ (cmdGETBIT key p) s = (s, some (some (getBit bytes p))) := by
      unfold Script.try_; rw [cmdGETBIT_str hs]
    rw [Script.bind_ok t]
    simp only [Option.getD_some, List.all_cons]
    cases hb : getBit bytes p
    · simp only [Bool.false_eq_true, if_false, Bool.false_and]; rfl
    · simp only [if_true, Bool.true_and]; exact ih

theorem all_congr_mem {α} (l : List α) (f g : α → Bool) (h : ∀ a ∈ l, f a = g a) :
    l.all f = l.all g := by
  induction l with
  | nil => rfl
  | cons a l ih =>
    simp only [List.all_cons]
    rw [h a List.mem_cons_self, ih (fun x hx => h x (List.mem_cons_of_mem _ hx))]

theorem getBit_zeros (n p : Nat) : getBit (List.replicate n (0 : UInt8)) p = false := by
  unfold getBit
  have : (List.replicate n (0 : UInt8)).getD (p / 8) 0 = 0 := by
    rw [List.getD_eq_getElem?_getD, List.getElem?_replicate]
    split <;> rfl
  rw [this]; simp

theorem bitsOf_zeros (n : Nat) : bitsOf (List.replicate n (0 : UInt8)) = List.replicate (8 * n) false := by
  unfold bitsOf
  rw [List.length_replicate, funext (getBit_zeros n), List.map_const', List.length_range]

end Gostatix.Redis
