/-
  Gostatix.Proofs.RedisKeys — decimal strings and the Redis key names.

  * `parseDecimal (decimal n) = some n`, `decimal` injective, `atoi`/`parseUint32` of a decimal;
  * `KeyD.render` is injective on descriptors whose base key is a 16-letter string (`IsBase`);
  * the descriptors of a handle are pairwise different and built over its base keys — with the
    injectivity, what `C19_keys_nodup` and `C19_disjoint` need.
-/
import Gostatix.Model.Redis
namespace Gostatix.Redis

theorem decimal_eq_toString (n : Nat) : decimal n = toString n := rfl

@[simp] theorem decimal_toList (n : Nat) : (decimal n).toList = Nat.toDigits 10 n := by
  simp [decimal]

theorem decimal_digits (n : Nat) : ∀ c ∈ (decimal n).toList, c.isDigit = true := by
  intro c hc
  rw [decimal_toList] at hc
  exact Nat.isDigit_of_mem_toDigits (by decide) (by decide) hc

theorem decimal_toList_ne_nil (n : Nat) : (decimal n).toList ≠ [] := by
  rw [decimal_toList]; exact Nat.toDigits_ne_nil

theorem parseDecimal_decimal (n : Nat) : parseDecimal (decimal n) = some n := by
  unfold parseDecimal
  have h1 : (decimal n).toList ≠ [] := decimal_toList_ne_nil n
  have h2 : (decimal n).toList.all Char.isDigit = true := by
    rw [List.all_eq_true]; exact decimal_digits n
  simp only [h1, h2, ne_eq, not_false_eq_true, and_self, if_true]
  rw [decimal_toList, Nat.ofDigitChars_ten_toDigits]

theorem decimal_inj {a b : Nat} (h : decimal a = decimal b) : a = b := by
  have := parseDecimal_decimal a
  rw [h, parseDecimal_decimal] at this
  exact (Option.some.inj this).symm

theorem atoi_decimal (n : Nat) (h : n < 2 ^ 63) : atoi (decimal n) = n := by
  unfold atoi; rw [parseDecimal_decimal]; simp only; omega

theorem parseUint32_decimal (n : Nat) (h : n < 2 ^ 32) : parseUint32 (decimal n) = n := by
  unfold parseUint32; rw [parseDecimal_decimal]; simp only; omega

theorem underscore_not_in_decimal (n : Nat) : '_' ∉ (decimal n).toList := by
  rw [decimal_toList]; exact Nat.underscore_not_in_toDigits

def cuckooP : List Char := ['c', 'u', 'c', 'k', 'o', 'o', '_']
def bucketP : List Char := ['_', 'b', 'u', 'c', 'k', 'e', 't', '_']
def lenP : List Char := ['_', 'l', 'e', 'n']

/-- a rendered key is `pre ++ base ++ suf`: nothing or `cuckoo_` before the base key … -/
def KeyD.pre : KeyD → List Char
  | .base _ | .row _ _ => []
  | .bucket _ _ | .blen _ _ => cuckooP

/-- … and nothing, a number, `_bucket_<i>` or `_bucket_<i>_len` after it. -/
def KeyD.suf : KeyD → List Char
  | .base _ => []
  | .row _ r => (decimal r).toList
  | .bucket _ i => bucketP ++ (decimal i).toList
  | .blen _ i => bucketP ++ ((decimal i).toList ++ lenP)

theorem KeyD.pre_cases (d : KeyD) : d.pre = [] ∨ d.pre = cuckooP := by
  cases d <;> first | exact Or.inl rfl | exact Or.inr rfl

theorem toList_cuckoo : "cuckoo_".toList = cuckooP := by decide +kernel
theorem toList_bucket : "_bucket_".toList = bucketP := by decide +kernel
theorem toList_len : "_len".toList = lenP := by decide +kernel

theorem KeyD.render_toList (d : KeyD) : d.render.toList = d.pre ++ (d.baseOf.toList ++ d.suf) := by
  cases d <;>
    simp only [KeyD.render, KeyD.pre, KeyD.baseOf, KeyD.suf, String.toList_append, toList_cuckoo,
      toList_bucket, toList_len, List.append_assoc, List.nil_append, List.append_nil]

theorem IsBase.len {b : String} (h : IsBase b) : b.toList.length = 16 := by
  rw [String.length_toList]; exact h.1

theorem IsBase.alpha {b : String} (h : IsBase b) : ∀ c ∈ b.toList, c.isAlpha = true := h.2

/-- position 6 of a 16-letter base key followed by anything is a letter, while position 6 of a
    cuckoo key is `'_'`. -/
theorem base_ne_cuckoo {b : String} (h : IsBase b) (t u : List Char) :
    b.toList ++ t ≠ cuckooP ++ u := by
  intro e
  have h6 : 6 < b.toList.length := by rw [h.len]; decide
  have := congrArg (·[6]?) e
  simp only [List.getElem?_append_left h6, List.getElem?_eq_getElem h6] at this
  have ha := h.alpha _ (List.getElem_mem h6)
  rw [Option.some.inj this] at ha
  exact absurd ha (by decide)

theorem KeyD.eq_of_parts {d₁ d₂ : KeyD} (hp : d₁.pre = d₂.pre) (hb : d₁.baseOf = d₂.baseOf)
    (hs : d₁.suf = d₂.suf) : d₁ = d₂ := by
  -- `cases hp` discards the pairs with different prefixes
  cases d₁ <;> cases d₂ <;> cases hp <;> cases (show _ = _ from hb)
  case base.base => rfl
  case base.row => exact absurd hs.symm (decimal_toList_ne_nil _)
  case row.base => exact absurd hs (decimal_toList_ne_nil _)
  case row.row => rw [decimal_inj (String.toList_inj.mp hs)]
  case bucket.bucket => rw [decimal_inj (String.toList_inj.mp (List.append_cancel_left hs))]
  case blen.blen =>
    rw [decimal_inj (String.toList_inj.mp (List.append_cancel_right (List.append_cancel_left hs)))]
  case bucket.blen =>
    exact absurd (List.append_cancel_left hs ▸ List.mem_append_right _ List.mem_cons_self)
      (underscore_not_in_decimal _)
  case blen.bucket =>
    exact absurd (List.append_cancel_left hs.symm ▸ List.mem_append_right _ List.mem_cons_self)
      (underscore_not_in_decimal _)

/-- `KeyD.render` is injective on descriptors over 16-letter base keys: the prefixes agree
    (`base_ne_cuckoo`), the base keys have the same length, so all three parts agree. -/
theorem KeyD.render_inj {d₁ d₂ : KeyD} (h₁ : IsBase d₁.baseOf) (h₂ : IsBase d₂.baseOf)
    (e : d₁.render = d₂.render) : d₁ = d₂ := by
  have e := congrArg String.toList e
  rw [KeyD.render_toList, KeyD.render_toList] at e
  have hp : d₁.pre = d₂.pre := by
    rcases d₁.pre_cases with p₁ | p₁ <;> rcases d₂.pre_cases with p₂ | p₂ <;> rw [p₁, p₂] at e ⊢
    · exact absurd e (base_ne_cuckoo h₁ _ _)
    · exact absurd e.symm (base_ne_cuckoo h₂ _ _)
  rw [hp] at e
  obtain ⟨hb, hs⟩ := List.append_inj (List.append_cancel_left e) (h₁.len.trans h₂.len.symm)
  exact KeyD.eq_of_parts hp (String.toList_inj.mp hb) hs

theorem KeyD.render_ne_base {d : KeyD} {mk : String} (hd : IsBase d.baseOf) (hmk : IsBase mk)
    (hne : ∀ b, d ≠ .base b) : d.render ≠ mk :=
  fun e => hne mk (KeyD.render_inj (d₂ := .base mk) hd hmk e)

theorem nodup_map_of_inj_on {α β} (f : α → β) (l : List α)
    (hinj : ∀ a ∈ l, ∀ b ∈ l, f a = f b → a = b) (hn : l.Nodup) : (l.map f).Nodup := by
  rw [List.Nodup, List.pairwise_map]
  exact hn.imp_of_mem fun ha hb hne e => hne (hinj _ ha _ hb e)

theorem nodup_map_range {β} (f : Nat → β) (n : Nat) (hinj : ∀ a b, f a = f b → a = b) :
    ((List.range n).map f).Nodup :=
  nodup_map_of_inj_on f _ (fun a _ b _ => hinj a b) List.nodup_range

theorem CMSHandle.descr_base (h : CMSHandle) : ∀ d ∈ h.descr, d.baseOf ∈ h.bases := by
  intro d hd
  simp only [CMSHandle.descr, List.mem_cons, List.mem_map, List.mem_range] at hd
  rcases hd with rfl | ⟨r, _, rfl⟩ <;> simp [KeyD.baseOf, CMSHandle.bases]

theorem CMSHandle.descr_nodup (h : CMSHandle) : h.descr.Nodup := by
  unfold CMSHandle.descr
  rw [List.nodup_cons]
  refine ⟨?_, nodup_map_range _ _ (fun a b e => KeyD.row.inj e |>.2)⟩
  intro hm
  obtain ⟨r, _, e⟩ := List.mem_map.mp hm
  cases e

theorem BloomHandle.descr_base (h : BloomHandle) : ∀ d ∈ h.descr, d.baseOf ∈ h.bases := by
  intro d hd
  simp only [BloomHandle.descr, List.mem_cons, List.not_mem_nil, or_false] at hd
  rcases hd with rfl | rfl <;> simp [KeyD.baseOf, BloomHandle.bases]

theorem BloomHandle.descr_nodup (h : BloomHandle) (hn : h.bases.Nodup) : h.descr.Nodup := by
  simp only [BloomHandle.bases, BloomHandle.descr, List.nodup_cons, List.mem_cons,
    List.not_mem_nil, or_false, not_false_eq_true, List.nodup_nil, and_true] at *
  intro e; exact hn (KeyD.base.inj e)

theorem HLLHandle.descr_base (h : HLLHandle) : ∀ d ∈ h.descr, d.baseOf ∈ h.bases := by
  intro d hd
  simp only [HLLHandle.descr, List.mem_cons, List.not_mem_nil, or_false] at hd
  rcases hd with rfl | rfl <;> simp [KeyD.baseOf, HLLHandle.bases]

theorem HLLHandle.descr_nodup (h : HLLHandle) (hn : h.bases.Nodup) : h.descr.Nodup := by
  simp only [HLLHandle.bases, HLLHandle.descr, List.nodup_cons, List.mem_cons,
    List.not_mem_nil, or_false, not_false_eq_true, List.nodup_nil, and_true] at *
  intro e; exact hn (KeyD.base.inj e)

theorem CuckooHandle.descr_base (h : CuckooHandle) : ∀ d ∈ h.descr, d.baseOf ∈ h.bases := by
  intro d hd
  simp only [CuckooHandle.descr, List.mem_append, List.mem_cons, List.not_mem_nil, or_false,
    List.mem_map, List.mem_range] at hd
  rcases hd with (rfl | rfl) | ⟨i, _, rfl⟩ | ⟨i, _, rfl⟩ <;> simp [KeyD.baseOf, CuckooHandle.bases]

theorem CuckooHandle.descr_nodup (h : CuckooHandle) (hn : h.bases.Nodup) : h.descr.Nodup := by
  simp [CuckooHandle.descr, CuckooHandle.bases, List.nodup_append, List.nodup_cons,
    nodup_map_range] at hn ⊢
  exact hn

theorem TopKHandle.descr_base (h : TopKHandle) : ∀ d ∈ h.descr, d.baseOf ∈ h.bases := by
  intro d hd
  simp only [TopKHandle.descr, List.mem_append, List.mem_cons, List.not_mem_nil, or_false] at hd
  rcases hd with (rfl | rfl) | hs
  · simp [KeyD.baseOf, TopKHandle.bases]
  · simp [KeyD.baseOf, TopKHandle.bases]
  · have := h.sketch.descr_base d hs
    simp only [TopKHandle.bases, List.mem_append]
    exact Or.inr this

theorem TopKHandle.descr_nodup (h : TopKHandle) (hn : h.bases.Nodup) : h.descr.Nodup := by
  simp [TopKHandle.descr, TopKHandle.bases, CMSHandle.descr, CMSHandle.bases, List.nodup_cons,
    nodup_map_range] at hn ⊢
  exact ⟨⟨hn.1.1, hn.1.2.2⟩, hn.2.1.2⟩

theorem Handle.descr_base (h : Handle) : ∀ d ∈ h.descr, d.baseOf ∈ h.bases := by
  cases h with
  | bloom h => exact h.descr_base
  | cuckoo h => exact h.descr_base
  | cms h => exact h.descr_base
  | hll h => exact h.descr_base
  | topk h => exact h.descr_base

theorem Handle.descr_nodup (h : Handle) (hn : h.bases.Nodup) : h.descr.Nodup := by
  cases h with
  | bloom h => exact h.descr_nodup hn
  | cuckoo h => exact h.descr_nodup hn
  | cms h => exact h.descr_nodup
  | hll h => exact h.descr_nodup hn
  | topk h => exact h.descr_nodup hn

end Gostatix.Redis
