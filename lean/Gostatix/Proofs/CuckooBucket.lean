/-
  Gostatix.Proofs.CuckooBucket — the abstract bucket laws (`LawfulBucket`) that the cuckoo-filter
  proofs rely on, and the proofs that `BucketMem.ops` (bucket_mem.go) and `BucketRedis.ops`
  (bucket_redis.go) satisfy them.
-/
import Gostatix.Proofs.CuckooList
set_option linter.unusedSectionVars false
namespace Gostatix

/-- What the filter-level proofs need to know about a bucket implementation.
    `slots b` is the slot list of `b`; `wfb s b` says `b` is a well-formed bucket of size `s`.
    `count_add` / `count_remove` speak of `g ≠ emp` only: in memory an add overwrites an empty
    slot, on Redis it may `LPUSH`, so the count of `emp` moves differently in the two kinds. -/
structure LawfulBucket {B F : Type} [DecidableEq F] (o : BucketOps B F) (emp : F) where
  slots : B → List F
  wfb : Nat → B → Prop
  len_le : ∀ s b, wfb s b → (slots b).length ≤ s
  isFree_iff : ∀ s b, wfb s b → (o.isFree b = true ↔ occ emp (slots b) < s)
  lookup_eq : ∀ b e, o.lookup b e = (slots b).contains e
  get_eq : ∀ b i, o.get b i = (slots b).getD i emp
  slots_set : ∀ b i e, slots (o.set b i e) = (slots b).set i e
  wfb_set : ∀ s b i e, wfb s b → occ emp ((slots b).set i e) = occ emp (slots b) → wfb s (o.set b i e)
  set_set_get : ∀ b i e, o.set (o.set b i e) i (o.get b i) = b
  wfb_add : ∀ s b e, wfb s b → o.isFree b = true → e ≠ emp → wfb s (o.add b e)
  occ_add : ∀ s b e, wfb s b → o.isFree b = true → e ≠ emp →
    occ emp (slots (o.add b e)) = occ emp (slots b) + 1
  count_add : ∀ s b e g, wfb s b → o.isFree b = true → e ≠ emp → g ≠ emp →
    (slots (o.add b e)).count g = (slots b).count g + ind (e = g)
  wfb_remove : ∀ s b e, wfb s b → e ≠ emp → e ∈ slots b → wfb s (o.remove b e)
  occ_remove : ∀ s b e, wfb s b → e ≠ emp → e ∈ slots b →
    occ emp (slots (o.remove b e)) + 1 = occ emp (slots b)
  count_remove : ∀ s b e g, wfb s b → e ≠ emp → e ∈ slots b → g ≠ emp →
    (slots (o.remove b e)).count g + ind (e = g) = (slots b).count g
  remove_not_mem : ∀ b e, e ∉ slots b → o.remove b e = b

/-! ### bucket_mem.go -/

namespace BucketMem
variable {F : Type} [DecidableEq F]

/-- well-formed in-memory bucket of size `s`: `s` slots, cached length = occupied slots -/
def WFB (emp : F) (s : Nat) (b : BucketMem F) : Prop :=
  b.size = s ∧ b.elements.length = s ∧ b.length = occ emp b.elements

theorem wfb_add (emp : F) (s : Nat) (b : BucketMem F) (e : F) (h : WFB emp s b)
    (hfree : isFree b = true) (he : e ≠ emp) :
    WFB emp s (add emp b e) ∧ occ emp (add emp b e).elements = occ emp b.elements + 1 ∧
    ∀ g, g ≠ emp → (add emp b e).elements.count g = b.elements.count g + ind (e = g) := by
  obtain ⟨h1, h2, h3⟩ := h
  have hlt : occ emp b.elements < b.elements.length := by
    simp only [isFree, decide_eq_true_eq] at hfree; omega
  obtain ⟨ho, hc⟩ := set_idxOf_emp emp b.elements e he (mem_emp_of_occ_lt_length emp _ hlt)
  have hadd : add emp b e =
      { b with elements := b.elements.set (b.elements.idxOf emp) e, length := b.length + 1 } := by
    unfold add; rw [if_neg]; simp [he, hfree]
  rw [hadd]
  exact ⟨⟨h1, by simpa using h2, by simp only; omega⟩, ho, hc⟩

theorem wfb_remove (emp : F) (s : Nat) (b : BucketMem F) (e : F) (h : WFB emp s b)
    (he : e ≠ emp) (hmem : e ∈ b.elements) :
    WFB emp s (remove emp b e) ∧ occ emp (remove emp b e).elements + 1 = occ emp b.elements ∧
    ∀ g, g ≠ emp → (remove emp b e).elements.count g + ind (e = g) = b.elements.count g := by
  obtain ⟨h1, h2, h3⟩ := h
  obtain ⟨ho, hc⟩ := set_idxOf_clear emp b.elements e he hmem
  have hrem : remove emp b e =
      { b with elements := b.elements.set (b.elements.idxOf e) emp, length := b.length - 1 } := by
    unfold remove; rw [if_pos]; simpa using hmem
  rw [hrem]
  exact ⟨⟨h1, by simpa using h2, by simp only; omega⟩, ho, hc⟩

/-- bucket_mem.go satisfies the bucket laws -/
def lawful (emp : F) : LawfulBucket (BucketMem.ops emp) emp where
  slots := BucketMem.elements
  wfb := WFB emp
  len_le := fun s b h => by rw [h.2.1]; exact Nat.le_refl _
  isFree_iff := fun s b h => by
    obtain ⟨h1, h2, h3⟩ := h
    simp only [ops, isFree, decide_eq_true_eq]; omega
  lookup_eq := fun b e => rfl
  get_eq := fun b i => rfl
  slots_set := fun b i e => rfl
  wfb_set := fun s b i e h ho => by
    obtain ⟨h1, h2, h3⟩ := h
    refine ⟨h1, ?_, ?_⟩
    · simpa [ops, set] using h2
    · simp only [ops, set] at ho ⊢; omega
  set_set_get := fun b i e => by
    simp only [ops, set, get, set_set_getD]
  wfb_add := fun s b e h hf he => (wfb_add emp s b e h hf he).1
  occ_add := fun s b e h hf he => (wfb_add emp s b e h hf he).2.1
  count_add := fun s b e g h hf he hg => (wfb_add emp s b e h hf he).2.2 g hg
  wfb_remove := fun s b e h he hm => (wfb_remove emp s b e h he hm).1
  occ_remove := fun s b e h he hm => (wfb_remove emp s b e h he hm).2.1
  count_remove := fun s b e g h he hm hg => (wfb_remove emp s b e h he hm).2.2 g hg
  remove_not_mem := fun b e hm => by
    simp only [ops, remove]; rw [if_neg]; simpa using hm

end BucketMem

/-! ### bucket_redis.go -/

namespace BucketRedis
variable {F : Type} [DecidableEq F]

/-- well-formed Redis bucket of size `s`: at most `s` list entries, counter = non-empty entries -/
def WFB (emp : F) (s : Nat) (b : BucketRedis F) : Prop :=
  b.size = s ∧ b.list.length ≤ s ∧ b.len = occ emp b.list

theorem wfb_add (emp : F) (s : Nat) (b : BucketRedis F) (e : F) (h : WFB emp s b)
    (hfree : isFree b = true) (he : e ≠ emp) :
    WFB emp s (add emp b e) ∧ occ emp (add emp b e).list = occ emp b.list + 1 ∧
    ∀ g, g ≠ emp → (add emp b e).list.count g = b.list.count g + ind (e = g) := by
  obtain ⟨h1, h2, h3⟩ := h
  have hlt : occ emp b.list < s := by
    simp only [isFree, decide_eq_true_eq] at hfree; omega
  by_cases hmem : emp ∈ b.list
  · obtain ⟨ho, hc⟩ := set_idxOf_emp emp b.list e he hmem
    have hadd : add emp b e =
        { b with list := b.list.set (b.list.idxOf emp) e, len := b.len + 1 } := by
      unfold add; rw [if_neg (by simp [he, hfree]), if_pos (by simpa using hmem)]
    rw [hadd]
    exact ⟨⟨h1, by simpa using h2, by simp only; omega⟩, ho, hc⟩
  · have hadd : add emp b e = { b with list := e :: b.list, len := b.len + 1 } := by
      unfold add; rw [if_neg (by simp [he, hfree]), if_neg (by simpa using hmem)]
    have hoc := occ_add_count emp b.list
    have hc0 : b.list.count emp = 0 := List.count_eq_zero.mpr hmem
    rw [hadd]
    refine ⟨⟨h1, ?_, ?_⟩, ?_, ?_⟩
    · simp only [List.length_cons]; omega
    · simp only [occ_cons, ind, ne_eq, he, not_false_eq_true, if_true]; omega
    · simp only [occ_cons, ind, ne_eq, he, not_false_eq_true, if_true]
    · intro g hg
      simp only [List.count_cons, ind, beq_iff_eq]

theorem wfb_remove (emp : F) (s : Nat) (b : BucketRedis F) (e : F) (h : WFB emp s b)
    (he : e ≠ emp) (hmem : e ∈ b.list) :
    WFB emp s (remove emp b e) ∧ occ emp (remove emp b e).list + 1 = occ emp b.list ∧
    ∀ g, g ≠ emp → (remove emp b e).list.count g + ind (e = g) = b.list.count g := by
  obtain ⟨h1, h2, h3⟩ := h
  obtain ⟨ho, hc⟩ := set_idxOf_clear emp b.list e he hmem
  have hrem : remove emp b e =
      { b with list := b.list.set (b.list.idxOf e) emp, len := b.len - 1 } := by
    unfold remove; rw [if_pos]; simpa using hmem
  rw [hrem]
  exact ⟨⟨h1, by simpa using h2, by simp only; omega⟩, ho, hc⟩

/-- bucket_redis.go satisfies the bucket laws -/
def lawful (emp : F) : LawfulBucket (BucketRedis.ops emp) emp where
  slots := BucketRedis.list
  wfb := WFB emp
  len_le := fun s b h => h.2.1
  isFree_iff := fun s b h => by
    obtain ⟨h1, h2, h3⟩ := h
    simp only [ops, isFree, decide_eq_true_eq]; omega
  lookup_eq := fun b e => rfl
  get_eq := fun b i => rfl
  slots_set := fun b i e => rfl
  wfb_set := fun s b i e h ho => by
    obtain ⟨h1, h2, h3⟩ := h
    refine ⟨h1, ?_, ?_⟩
    · simpa [ops, set] using h2
    · simp only [ops, set] at ho ⊢; omega
  set_set_get := fun b i e => by
    simp only [ops, set, get, set_set_getD]
  wfb_add := fun s b e h hf he => (wfb_add emp s b e h hf he).1
  occ_add := fun s b e h hf he => (wfb_add emp s b e h hf he).2.1
  count_add := fun s b e g h hf he hg => (wfb_add emp s b e h hf he).2.2 g hg
  wfb_remove := fun s b e h he hm => (wfb_remove emp s b e h he hm).1
  occ_remove := fun s b e h he hm => (wfb_remove emp s b e h he hm).2.1
  count_remove := fun s b e g h he hm hg => (wfb_remove emp s b e h he hm).2.2 g hg
  remove_not_mem := fun b e hm => by
    simp only [ops, remove]; rw [if_neg]; simpa using hm

end BucketRedis

end Gostatix
