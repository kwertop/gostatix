/-
  Gostatix.Proofs.BloomProb — finite counting lemmas behind the Bloom false-positive bound under
  IDEAL hashing (`Props/C15Bloom.lean`).  No measure theory: "probability" is a fraction of the
  finite family of all functions `g : E → Fin k → Fin m`.  First the model side (exactly which
  bits a history sets, `run_getD_iff`), then the set `bitSet g h` of set bits under a member `g`
  of the family: it is the union of the probe images of the inserted elements, hence independent
  of the probes of a never-inserted element and of size at most `k` per distinct insert.
-/
import Gostatix.Proofs.Counting
import Gostatix.Proofs.Bloom
namespace Gostatix.Bloom
open Finset

/-- the elements inserted by a history, in order (lookups dropped). -/
def insertsOf {E : Type} : List (BloomOp E) → List E
  | [] => []
  | .insert e :: h => e :: insertsOf h
  | .lookup _ :: h => insertsOf h

@[simp] theorem insertsOf_map_insert {E : Type} (S : List E) :
    insertsOf (S.map BloomOp.insert) = S := by
  induction S with
  | nil => rfl
  | cons x S ih => simp [insertsOf, ih]

theorem length_insertsOf_le {E : Type} (h : List (BloomOp E)) :
    (insertsOf h).length ≤ h.length := by
  induction h with
  | nil => simp [insertsOf]
  | cons op h ih => cases op <;> simp [insertsOf] <;> omega

theorem run_eq_run_inserts {E : Type} (probes : E → List Nat) (b : Bloom)
    (h : List (BloomOp E)) :
    run probes b h = run probes b ((insertsOf h).map BloomOp.insert) := by
  induction h generalizing b with
  | nil => rfl
  | cons op h ih =>
    cases op with
    | insert e => simpa [run, insertsOf, step] using ih (b.insert (probes e))
    | lookup e => simpa [run, insertsOf, step] using ih b

theorem run_getD_iff {E : Type} (probes : E → List Nat) (b : Bloom) (h : List (BloomOp E))
    (q : Nat) :
    (run probes b h).bits.getD q false = true
      ↔ b.bits.getD q false = true
        ∨ (q < b.bits.length ∧ ∃ x ∈ insertsOf h, q ∈ probes x) := by
  induction h generalizing b with
  | nil => exact ⟨Or.inl, fun h => h.elim id fun ⟨_, _, hx, _⟩ => absurd hx List.not_mem_nil⟩
  | cons op h ih =>
    show (run probes (step probes b op) h).bits.getD q false = true ↔ _
    rw [ih, step_length]
    cases op with
    | lookup y => exact Iff.rfl
    | insert y =>
      show (setBits b.bits (probes y)).getD q false = true ∨ _
        ↔ _ ∨ (_ ∧ ∃ x ∈ y :: insertsOf h, _)
      simp only [List.mem_cons, exists_eq_or_imp]
      rw [setBits_getD_iff, and_or_left, or_assoc]

theorem new_getD (m k q : Nat) : (Bloom.new m k).bits.getD q false = false := by
  simp only [new, List.getD_eq_getElem?_getD, List.getElem?_replicate]
  split <;> rfl

theorem new_length (m k : Nat) : (Bloom.new m k).bits.length = max m 1 := by simp [new]

section ideal
variable {E : Type} {m k : ℕ}

def idealProbes (g : E → Fin k → Fin m) (x : E) : List Nat := List.ofFn (fun i => (g x i : Nat))

theorem idealProbes_length (g : E → Fin k → Fin m) (x : E) : (idealProbes g x).length = k := by
  simp [idealProbes]

theorem mem_idealProbes (g : E → Fin k → Fin m) (x : E) (q : Nat) :
    q ∈ idealProbes g x ↔ ∃ i, (g x i : Nat) = q := by
  simp [idealProbes, List.mem_ofFn]

/-- the hypothesis of `C01_no_false_negative`. -/
theorem idealProbes_in_range (g : E → Fin k → Fin m) (x : E) :
    ∀ p ∈ idealProbes g x, p < (Bloom.new m k).bits.length := by
  intro p hp
  obtain ⟨i, rfl⟩ := (mem_idealProbes g x p).mp hp
  rw [new_length]
  exact lt_of_lt_of_le (g x i).isLt (Nat.le_max_left _ _)

/-- the set of bits that are set after running `h` on the empty filter, with the probes of `g`. -/
def bitSet (g : E → Fin k → Fin m) (h : List (BloomOp E)) : Finset (Fin m) :=
  univ.filter (fun q : Fin m =>
    (run (idealProbes g) (Bloom.new m k) h).bits.getD (q : Nat) false = true)

theorem mem_bitSet (g : E → Fin k → Fin m) (h : List (BloomOp E)) (q : Fin m) :
    q ∈ bitSet g h ↔ ∃ x ∈ insertsOf h, ∃ i, g x i = q := by
  have hq : (q : Nat) < max m 1 := lt_of_lt_of_le q.isLt (Nat.le_max_left _ _)
  simp only [bitSet, mem_filter, mem_univ, true_and, run_getD_iff, new_getD, new_length,
    mem_idealProbes, Fin.val_inj, Bool.false_eq_true, false_or, hq]

theorem lookup_iff_forall_mem (g : E → Fin k → Fin m) (h : List (BloomOp E)) (y : E) :
    (run (idealProbes g) (Bloom.new m k) h).lookup (idealProbes g y) = true
      ↔ ∀ i, g y i ∈ bitSet g h := by
  simp only [lookup, idealProbes, List.all_eq_true, List.mem_ofFn, bitSet, mem_filter, mem_univ,
    true_and]
  constructor
  · intro hall i; exact hall _ ⟨i, rfl⟩
  · rintro hall _ ⟨i, rfl⟩; exact hall i

variable [DecidableEq E]

theorem bitSet_eq_biUnion (g : E → Fin k → Fin m) (h : List (BloomOp E)) :
    bitSet g h = (insertsOf h).toFinset.biUnion (fun x => univ.image (g x)) := by
  ext q
  simp only [mem_bitSet, mem_biUnion, List.mem_toFinset, mem_image, mem_univ, true_and]

theorem bitSet_update (g : E → Fin k → Fin m) (h : List (BloomOp E)) (y : E)
    (hy : y ∉ insertsOf h) (v : Fin k → Fin m) :
    bitSet (Function.update g y v) h = bitSet g h := by
  rw [bitSet_eq_biUnion, bitSet_eq_biUnion]
  apply Finset.biUnion_congr rfl
  intro x hx
  have hne : x ≠ y := by
    rintro rfl; exact hy (List.mem_toFinset.mp hx)
  rw [Function.update_of_ne hne]

theorem card_bitSet_le (g : E → Fin k → Fin m) (h : List (BloomOp E)) :
    (bitSet g h).card ≤ (insertsOf h).toFinset.card * k := by
  rw [bitSet_eq_biUnion]
  apply Finset.card_biUnion_le_card_mul
  intro x _
  exact le_trans Finset.card_image_le (by simp)

theorem card_bitSet_le_length (g : E → Fin k → Fin m) (h : List (BloomOp E)) :
    (bitSet g h).card ≤ k * (insertsOf h).length := by
  rw [Nat.mul_comm]
  exact le_trans (card_bitSet_le g h) (Nat.mul_le_mul_right _ (List.toFinset_card_le _))

omit [DecidableEq E] in
theorem card_bitSet_le_m (g : E → Fin k → Fin m) (h : List (BloomOp E)) :
    (bitSet g h).card ≤ m := by
  simpa using Finset.card_le_univ (bitSet g h)

end ideal

end Gostatix.Bloom
