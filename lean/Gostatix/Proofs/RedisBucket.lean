/-
  Gostatix.Proofs.RedisBucket — for the simulation theorems of Props/C08Bucket.lean (which start
  from `C08_bucket_abs_iff`): signed decimals and bytes, the commands of bucket_redis.go on a
  list key that may be absent and on the decimal counter, the filter's `length` field; and the
  frames: the commands of Model/RedisCuckoo.lean, and every bucket operation on the two keys of
  the bucket.
-/
import Gostatix.Model.RedisCuckoo
import Gostatix.Proofs.RedisCMS
import Gostatix.Proofs.RedisFrame
namespace Gostatix.Redis

theorem latin1_asciiBytes (s : String) (h : ∀ c ∈ s.toList, c.toNat < 256) :
    latin1 (asciiBytes s) = s := by
  unfold latin1 asciiBytes
  rw [List.map_map]
  have : s.toList.map ((fun x : UInt8 => Char.ofNat x.toNat) ∘ fun c => UInt8.ofNat c.toNat) = s.toList := by
    conv => rhs; rw [← List.map_id s.toList]
    apply List.map_congr_left
    intro c hc
    have := h c hc
    simp only [Function.comp, id]
    rw [UInt8.toNat_ofNat']
    rw [Nat.mod_eq_of_lt (by simpa using this)]
    exact Char.ofNat_toNat c
  rw [this]
  exact String.ofList_toList

theorem isDigit_toNat_lt {c : Char} (h : c.isDigit = true) : c.toNat < 256 := by
  simp only [Char.isDigit, Bool.and_eq_true, decide_eq_true_eq] at h
  have := h.2
  have h2 : c.val.toNat ≤ (57 : UInt32).toNat := UInt32.le_iff_toNat_le.mp this
  have h3 : c.toNat = c.val.toNat := rfl
  simp at h2; omega

theorem isDigit_ne_minus {c : Char} (h : c.isDigit = true) : c ≠ '-' := by
  rintro rfl; revert h; decide

theorem parseInt_decimal (n : Nat) : parseInt (decimal n) = some (n : Int) := by
  unfold parseInt
  have hd := decimal_digits n
  have hne := decimal_toList_ne_nil n
  cases h : (decimal n).toList with
  | nil => exact absurd h hne
  | cons a l =>
    have ha : a ≠ '-' := isDigit_ne_minus (hd a (by rw [h]; exact List.mem_cons_self))
    split
    · rename_i cs heq
      simp only [List.cons.injEq] at heq
      exact absurd heq.1 ha
    · rw [parseDecimal_decimal]; rfl

theorem renderInt_natCast (n : Nat) : renderInt (n : Int) = decimal n := rfl

theorem parseIntStrict_decimal (n : Nat) : parseIntStrict (decimal n) = some (n : Int) := by
  unfold parseIntStrict
  rw [parseInt_decimal]
  simp only [renderInt_natCast, if_true]

theorem renderInt_succ (n : Nat) : renderInt ((n : Int) + 1) = decimal (n + 1) := rfl

theorem renderInt_pred {n : Nat} (h : 0 < n) : renderInt ((n : Int) + (-1)) = decimal (n - 1) := by
  obtain ⟨m, rfl⟩ : ∃ m, n = m + 1 := ⟨n - 1, by omega⟩
  have : ((m + 1 : Nat) : Int) + (-1) = (m : Int) := by omega
  rw [this]; rfl

theorem latin1_ascii_decimal (n : Nat) : latin1 (asciiBytes (decimal n)) = decimal n :=
  latin1_asciiBytes _ (fun c hc => isDigit_toNat_lt (decimal_digits n c hc))

/-- the counter key as the statements of Props/C08Bucket.lean and the handle's key list spell it. -/
theorem bucketLenKey_eq (bk : String) : bucketLenKey bk = bk ++ "_len" := rfl

theorem bucketLenKey_ne (bk : String) : bucketLenKey bk ≠ bk := by
  intro h
  have := congrArg String.length h
  unfold bucketLenKey at this
  rw [String.length_append] at this
  have h4 : "_len".length = 4 := by decide
  omega

theorem cmdGET_str {s : Store} {k : String} {b : List UInt8} (h : s k = some (.str b)) :
    cmdGET k s = (s, some (some (latin1 b))) := by
  unfold cmdGET; rw [h]

theorem cmdINCRBY_decimal {s : Store} {k : String} {n : Nat}
    (h : s k = some (.str (asciiBytes (decimal n)))) (d : Int) :
    cmdINCRBY k d s = (s.set k (.str (asciiBytes (renderInt ((n : Int) + d)))), some ((n : Int) + d)) := by
  unfold cmdINCRBY; rw [h]; simp only [latin1_ascii_decimal, parseIntStrict_decimal]

theorem contains_idxOf_lt {l : List String} {e : String} (h : l.contains e = true) :
    l.idxOf e < l.length := by
  rw [List.contains_iff_mem] at h
  exact List.idxOf_lt_length_iff.mpr h

/-! The list of a bucket as the commands see it: an absent key is the empty list. -/

section listAt
variable {s : Store} {k : String} {l : List String}
  (hl : s k = none ∧ l = [] ∨ s k = some (.list l))
include hl

theorem cmdLPOS_at (e : String) : cmdLPOS k e s = (s, some (lpos l e)) := by
  unfold cmdLPOS
  rcases hl with ⟨h0, rfl⟩ | h0 <;> rw [h0] <;> rfl

theorem cmdLINDEX_at (i : Nat) : cmdLINDEX k i s = (s, some l[i]?) := by
  unfold cmdLINDEX
  rcases hl with ⟨h0, rfl⟩ | h0 <;> rw [h0] <;> rfl

theorem cmdLRANGE_at : cmdLRANGE k s = (s, some l) := by
  unfold cmdLRANGE
  rcases hl with ⟨h0, rfl⟩ | h0 <;> rw [h0]

theorem cmdLSET_at (i : Nat) (v : String) :
    cmdLSET k i v s = if i < l.length then (s.set k (.list (l.set i v)), some ()) else (s, none) := by
  unfold cmdLSET
  rcases hl with ⟨h0, rfl⟩ | h0 <;> rw [h0]
  exact (if_neg (Nat.not_lt_zero i)).symm

/-- the middle of the `addElement` script: the first hole is filled, else the element is pushed
    in front. -/
theorem bucketStoreElement_at (e : String) :
    bucketStoreElement k e s =
      (s.set k (.list (if l.contains "" then l.set (l.idxOf "") e else e :: l)), some ()) := by
  unfold bucketStoreElement
  rw [Script.bind_ok (Script.try_ok (cmdLPOS_at hl ""))]
  unfold lpos
  split <;> dsimp only
  · rename_i hc
    rw [Script.bind_ok (Script.try_ok ((cmdLSET_at hl _ e).trans (if_pos (contains_idxOf_lt hc))))]
    rfl
  · rcases hl with ⟨h0, rfl⟩ | h0
    · rw [Script.bind_ok (Script.try_ok (cmdLPUSH_none h0 (List.cons_ne_nil _ _)))]; rfl
    · rw [Script.bind_ok (Script.try_ok (cmdLPUSH_list h0 (List.cons_ne_nil _ _)))]; rfl

end listAt

theorem luaInt_some {x : String} {n : Int} (h : parseInt x = some n) (s : Store) :
    luaInt (some x) s = (s, some n) := by
  unfold luaInt; simp only [h]

theorem goBool_eq {m : Script Bool} {s s' : Store} {r : Option Bool} (h : m s = (s', r)) :
    goBool m s = (s', r.getD false) := by
  unfold goBool; rw [h]

/-- the head of the `isFree` and `addElement` scripts: `GET key_len`, `tonumber`. -/
theorem bucket_readLen {s : Store} {bk : String} {n : Nat}
    (hlen : s (bucketLenKey bk) = some (.str (asciiBytes (decimal n)))) {β} (f : Int → Script β) :
    (Script.try_ (cmdGET (bucketLenKey bk)) >>=ₛ fun r => luaInt (r.getD none) >>=ₛ f) s = f n s := by
  rw [Script.bind_ok (Script.try_ok (cmdGET_str hlen)), Option.getD_some, latin1_ascii_decimal,
    Script.bind_ok (luaInt_some (parseInt_decimal _) s)]

theorem absBucket_congr {st st' : Store} {bk : String} (h1 : st' bk = st bk)
    (h2 : st' (bucketLenKey bk) = st (bucketLenKey bk)) (size : Nat) :
    absBucket st' bk size = absBucket st bk size := by
  unfold absBucket listAt; rw [h1, h2]

theorem absCuckooLength_eq_some_iff (st : Store) (h : CuckooHandle) (n : Nat) :
    absCuckooLength st h = some n ↔
      ∃ m, st h.metadataKey = some (.hash m) ∧ hashGet m "length" = some (decimal n) := by
  unfold absCuckooLength
  constructor
  · intro hh
    split at hh
    · rename_i m hm
      split at hh
      · rename_i v hv
        split at hh
        · rename_i n' hn'
          split at hh
          · rename_i hc; cases hh; exact ⟨m, hm, by rw [hv, hc]⟩
          · cases hh
        · cases hh
      · cases hh
    · cases hh
  · rintro ⟨m, hm, hv⟩
    rw [hm]; simp only [hv, parseDecimal_decimal, if_true]

theorem cuckoo_length_step (st : Store) (h : CuckooHandle) (n : Nat) (d : Int) (r : Nat)
    (habs : absCuckooLength st h = some n) (hr : (n : Int) + d = (r : Int)) :
    ∃ st', cmdHINCRBY h.metadataKey "length" d st = (st', some (r : Int)) ∧
      absCuckooLength st' h = some r ∧ ∀ k, k ≠ h.metadataKey → st' k = st k := by
  obtain ⟨m, hm, hv⟩ := (absCuckooLength_eq_some_iff _ _ _).mp habs
  refine ⟨st.set h.metadataKey (.hash (hashSet m "length" (decimal r))), ?_, ?_,
    fun k hk => Store.set_ne _ _ hk⟩
  · unfold cmdHINCRBY; rw [hm]
    simp only [hv, parseIntStrict_decimal, hr, renderInt_natCast]
  · exact (absCuckooLength_eq_some_iff _ _ _).mpr
      ⟨_, Store.set_self _ _ _, (hashGet_hashSet _ _ _ _).trans (if_pos rfl)⟩

theorem cuckooLength_store (h : CuckooHandle) (s : Store) : (cuckooLength h s).1 = s := by
  show (cmdHGET h.metadataKey "length" s).1 = s
  unfold cmdHGET; split <;> rfl

theorem supported_goBool {K : List String} {m : Script Bool} (hm : SupportedOn K m) :
    SupportedOn K (goBool m) := supported_mapResult (fun r => r.getD false) hm

section commands
variable {K : List String} {k : String}

theorem supported_GET (hk : k ∈ K) : SupportedOn K (cmdGET k) := by
  refine supported_local hk _ fun s s' h => ?_
  unfold cmdGET; rw [h]
  split <;> exact .keep _

theorem supported_LPOS (hk : k ∈ K) (e : String) : SupportedOn K (cmdLPOS k e) := by
  refine supported_local hk _ fun s s' h => ?_
  unfold cmdLPOS; rw [h]
  split <;> exact .keep _

theorem supported_HGET (hk : k ∈ K) (f : String) : SupportedOn K (cmdHGET k f) := by
  refine supported_local hk _ fun s s' h => ?_
  unfold cmdHGET; rw [h]
  split <;> exact .keep _

theorem supported_INCRBY (hk : k ∈ K) (d : Int) : SupportedOn K (cmdINCRBY k d) := by
  refine supported_local hk _ fun s s' h => ?_
  unfold cmdINCRBY; rw [h]
  split
  · exact .put _ _
  · split
    · exact .put _ _
    · exact .keep _
  · exact .keep _

theorem supported_HINCRBY (hk : k ∈ K) (f : String) (d : Int) :
    SupportedOn K (cmdHINCRBY k f d) := by
  refine supported_local hk _ fun s s' h => ?_
  unfold cmdHINCRBY; rw [h]
  split
  · exact .put _ _
  · split
    · exact .put _ _
    · split
      · exact .put _ _
      · exact .keep _
  · exact .keep _

theorem supported_luaInt (K : List String) (v : Option String) : SupportedOn K (luaInt v) := by
  constructor
  · intro s k _; unfold luaInt; split
    · split <;> rfl
    · rfl
  · intro s s' h; unfold luaInt; split
    · split <;> exact ⟨rfl, h⟩
    · exact ⟨rfl, h⟩

end commands

def bucketKeys (bk : String) : List String := [bk, bucketLenKey bk]

theorem bucketKeys.mem_list (bk : String) : bk ∈ bucketKeys bk := List.mem_cons_self
theorem bucketKeys.mem_counter (bk : String) : bucketLenKey bk ∈ bucketKeys bk :=
  List.mem_cons_of_mem _ List.mem_cons_self

theorem supported_bucketNew (bk : String) : SupportedOn (bucketKeys bk) (bucketNew bk) :=
  supported_bind (supported_try (supported_INCRBY (bucketKeys.mem_counter bk) 0)) fun _ => supported_pure _ _

theorem supported_bucketIsFree (bk : String) (size : Nat) :
    SupportedOn (bucketKeys bk) (bucketIsFree bk size) := by
  refine supported_goBool ?_
  unfold bucketIsFreeScript
  refine supported_bind (supported_try (supported_GET (bucketKeys.mem_counter bk))) fun r => ?_
  refine supported_bind (supported_luaInt _ _) fun n => supported_pure _ _

theorem supported_bucketStoreElement (bk e : String) :
    SupportedOn (bucketKeys bk) (bucketStoreElement bk e) := by
  unfold bucketStoreElement
  refine supported_bind (supported_try (supported_LPOS (bucketKeys.mem_list bk) _)) fun pos => ?_
  split
  · exact supported_bind (supported_try (supported_LPUSH (bucketKeys.mem_list bk) _)) fun _ => supported_pure _ _
  · exact supported_bind (supported_try (supported_LSET (bucketKeys.mem_list bk) _ _)) fun _ => supported_pure _ _
  · exact supported_pure _ _

theorem supported_bucketAdd (bk : String) (size : Nat) (e : String) :
    SupportedOn (bucketKeys bk) (bucketAdd bk size e) := by
  unfold bucketAdd
  split
  · exact ⟨fun _ _ _ => rfl, fun _ _ h => ⟨rfl, h⟩⟩
  · refine supported_goBool ?_
    unfold bucketAddScript
    refine supported_bind (supported_try (supported_GET (bucketKeys.mem_counter bk))) fun r => ?_
    refine supported_bind (supported_luaInt _ _) fun n => ?_
    refine supported_ite _ (supported_pure _ _) ?_
    refine supported_bind (supported_bucketStoreElement bk e) fun _ => ?_
    refine supported_bind (supported_try (supported_INCRBY (bucketKeys.mem_counter bk) 1)) fun _ => ?_
    exact supported_pure _ _

theorem supported_bucketRemove (bk e : String) :
    SupportedOn (bucketKeys bk) (bucketRemove bk e) := by
  unfold bucketRemove
  refine supported_bind (supported_LPOS (bucketKeys.mem_list bk) _) fun pos => ?_
  refine supported_bind ?_ fun _ => ?_
  · split
    · exact supported_LSET (bucketKeys.mem_list bk) _ _
    · exact supported_fail _
  · refine supported_bind (supported_try (supported_INCRBY (bucketKeys.mem_counter bk) _)) fun _ => ?_
    exact supported_pure _ _

theorem supported_bucketLookup (bk e : String) :
    SupportedOn (bucketKeys bk) (bucketLookup bk e) := by
  unfold bucketLookup bucketLookupScript
  refine supported_bind ?_ fun _ => supported_pure _ _
  refine supported_bind (supported_try (supported_LPOS (bucketKeys.mem_list bk) _)) fun pos => ?_
  split
  · exact supported_pure _ _
  · exact supported_pure _ _
  · exact supported_fail _

theorem supported_bucketAt (bk : String) (i : Nat) : SupportedOn (bucketKeys bk) (bucketAt bk i) :=
  supported_mapResult (fun r => (r.getD none).getD "") (supported_LINDEX (bucketKeys.mem_list bk) i)

theorem supported_bucketSet (bk : String) (i : Nat) (e : String) :
    SupportedOn (bucketKeys bk) (bucketSet bk i e) := supported_LSET (bucketKeys.mem_list bk) i e

theorem supported_bucketGetLength (bk : String) :
    SupportedOn (bucketKeys bk) (bucketGetLength bk) :=
  supported_mapResult (fun r => match r with | some (some v) => goInt64AsUint64 v | _ => 0)
    (supported_GET (bucketKeys.mem_counter bk))

theorem supported_bucketElements (bk : String) :
    SupportedOn (bucketKeys bk) (bucketElements bk) := supported_LRANGE (bucketKeys.mem_list bk)

end Gostatix.Redis
