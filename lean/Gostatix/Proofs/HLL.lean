/-
  Helper lemmas for the HyperLogLog register algebra (C06).  Histories are folded explicitly
  (`List.foldl`); `Props/C06.lean` names the fold `runR`.
  Everything rests on three facts about `upd r (i,v) = modAt r i (max · v)`:
  updates commute, are idempotent, and distribute over the register-wise `max` (`mergeRegs`).
-/
import Gostatix.Model.HLL
import Gostatix.Proofs.Rows
namespace Gostatix.HLL

theorem clz64_le (x : Nat) : clz64 x ≤ 64 := by unfold clz64; split <;> omega

theorem indexOf_zero (p : Nat) : indexOf 0 p = 65 := by
  unfold indexOf
  rw [Nat.zero_mul, Nat.zero_mod]
  decide

theorem modAt_idem {α} (l : List α) (i : Nat) (f : α → α) (hf : ∀ x, f (f x) = f x) :
    modAt (modAt l i f) i f = modAt l i f := by
  induction l generalizing i with
  | nil => rfl
  | cons a as ih =>
    cases i with
    | zero => simp [modAt, hf]
    | succ i => simp [modAt, ih i]

theorem upd_length (r : List Nat) (a : Nat × Nat) : (upd r a).length = r.length :=
  modAt_length _ _ _

theorem upd_comm (r : List Nat) (a b : Nat × Nat) : upd (upd r a) b = upd (upd r b) a :=
  modAt_comm r a.1 b.1 _ _ (.inr fun x => Nat.max_right_comm x b.2 a.2)

theorem upd_idem (r : List Nat) (a : Nat × Nat) : upd (upd r a) a = upd r a := by
  unfold upd
  apply modAt_idem
  intro x
  rw [Nat.max_assoc, Nat.max_self]

theorem foldl_upd_getD_untouched (regs : List Nat) (h : List (Nat × Nat)) (j : Nat)
    (hj : ∀ iv ∈ h, iv.1 ≠ j) : (h.foldl upd regs).getD j 0 = regs.getD j 0 := by
  induction h generalizing regs with
  | nil => rfl
  | cons iv h ih =>
    simp only [List.foldl_cons]
    rw [ih (upd regs iv) (fun x hx => hj x (List.mem_cons_of_mem _ hx))]
    have := hj iv List.mem_cons_self
    unfold upd
    exact modAt_getD_ne regs iv.1 j _ 0 (fun e => this e.symm)

section folds
variable {E : Type}

theorem foldl_upd_length (iv : E → Nat × Nat) (r : List Nat) (h : List E) :
    (h.foldl (fun r e => upd r (iv e)) r).length = r.length := by
  induction h generalizing r with
  | nil => rfl
  | cons e h ih => simp only [List.foldl_cons]; rw [ih, upd_length]

theorem foldl_upd_comm (iv : E → Nat × Nat) (r : List Nat) (h : List E) (a : Nat × Nat) :
    h.foldl (fun r e => upd r (iv e)) (upd r a) = upd (h.foldl (fun r e => upd r (iv e)) r) a := by
  induction h generalizing r with
  | nil => rfl
  | cons e h ih =>
    simp only [List.foldl_cons]
    rw [upd_comm r a (iv e)]; exact ih _

theorem foldl_upd_perm (iv : E → Nat × Nat) (r : List Nat) (h₁ h₂ : List E) (p : h₁.Perm h₂) :
    h₁.foldl (fun r e => upd r (iv e)) r = h₂.foldl (fun r e => upd r (iv e)) r := by
  induction p generalizing r with
  | nil => rfl
  | cons x _ ih => simp only [List.foldl_cons]; exact ih _
  | swap x y l => simp only [List.foldl_cons]; rw [upd_comm]
  | trans _ _ ih₁ ih₂ => exact (ih₁ r).trans (ih₂ r)

theorem foldl_upd_absorb (iv : E → Nat × Nat) (r : List Nat) (h : List E) (x : E) (hx : x ∈ h) :
    upd (h.foldl (fun r e => upd r (iv e)) r) (iv x) = h.foldl (fun r e => upd r (iv e)) r := by
  induction h generalizing r with
  | nil => cases hx
  | cons e h ih =>
    simp only [List.foldl_cons]
    cases hx with
    | head => rw [← foldl_upd_comm, upd_idem]
    | tail _ hx => exact ih _ hx

theorem foldl_upd_fixed (iv : E → Nat × Nat) (r : List Nat) (h : List E)
    (hfix : ∀ e ∈ h, upd r (iv e) = r) : h.foldl (fun r e => upd r (iv e)) r = r := by
  induction h with
  | nil => rfl
  | cons e h ih =>
    simp only [List.foldl_cons]
    rw [hfix e List.mem_cons_self]
    exact ih (fun e' he' => hfix e' (List.mem_cons_of_mem _ he'))

theorem foldl_upd_subset (iv : E → Nat × Nat) (r : List Nat) (h₁ h₂ : List E)
    (hsub : ∀ e ∈ h₂, e ∈ h₁) :
    (h₁ ++ h₂).foldl (fun r e => upd r (iv e)) r = h₁.foldl (fun r e => upd r (iv e)) r := by
  rw [List.foldl_append]
  exact foldl_upd_fixed iv _ h₂ (fun e he => foldl_upd_absorb iv r h₁ e (hsub e he))

theorem foldl_upd_set (iv : E → Nat × Nat) (r : List Nat) (h₁ h₂ : List E)
    (hset : ∀ e, e ∈ h₁ ↔ e ∈ h₂) :
    h₁.foldl (fun r e => upd r (iv e)) r = h₂.foldl (fun r e => upd r (iv e)) r := by
  rw [← foldl_upd_subset iv r h₁ h₂ (fun e he => (hset e).mpr he),
    ← foldl_upd_subset iv r h₂ h₁ (fun e he => (hset e).mp he)]
  exact foldl_upd_perm iv r _ _ List.perm_append_comm

end folds

theorem mergeRegs_length (a b : List Nat) : (mergeRegs a b).length = a.length := by
  induction a generalizing b with
  | nil => cases b <;> rfl
  | cons x a ih =>
    cases b with
    | nil => rfl
    | cons y b => simp [mergeRegs, ih]

theorem mergeRegs_nil_right (a : List Nat) : mergeRegs a [] = a := by
  cases a <;> rfl

theorem mergeRegs_comm (a b : List Nat) (hl : a.length = b.length) :
    mergeRegs a b = mergeRegs b a := by
  induction a generalizing b with
  | nil =>
    cases b with
    | nil => rfl
    | cons _ _ => simp at hl
  | cons x a ih =>
    cases b with
    | nil => simp at hl
    | cons y b =>
      simp only [mergeRegs]
      rw [ih b (by simpa using hl), Nat.max_comm]

theorem mergeRegs_idem (a : List Nat) : mergeRegs a a = a := by
  induction a with
  | nil => rfl
  | cons x a ih => simp [mergeRegs, ih]

/-- associativity needs the middle operand to cover the left one (`mergeRegs` keeps the
    length of its left operand and ignores the surplus of the right one). -/
theorem mergeRegs_assoc (a b c : List Nat) (hl : a.length ≤ b.length) :
    mergeRegs (mergeRegs a b) c = mergeRegs a (mergeRegs b c) := by
  induction a generalizing b c with
  | nil => cases b <;> cases c <;> rfl
  | cons x a ih =>
    cases b with
    | nil => simp at hl
    | cons y b =>
      cases c with
      | nil => rfl
      | cons z c =>
        simp only [mergeRegs]; rw [ih b c (by simpa using hl), Nat.max_assoc]

theorem mergeRegs_zero (m : Nat) :
    mergeRegs (List.replicate m 0) (List.replicate m 0) = List.replicate m 0 := mergeRegs_idem _

theorem mergeRegs_upd_left (a b : List Nat) (x : Nat × Nat) :
    mergeRegs (upd a x) b = upd (mergeRegs a b) x := by
  obtain ⟨i, v⟩ := x
  unfold upd
  simp only
  induction a generalizing b i with
  | nil => cases b <;> rfl
  | cons y a ih =>
    cases b with
    | nil => rw [mergeRegs_nil_right, mergeRegs_nil_right]
    | cons z b =>
      cases i with
      | zero =>
        simp only [modAt, mergeRegs]
        rw [Nat.max_assoc, Nat.max_comm v, ← Nat.max_assoc]
      | succ i => simp only [modAt, mergeRegs]; rw [ih b i]

theorem mergeRegs_upd_right (a b : List Nat) (x : Nat × Nat) (hl : a.length ≤ b.length) :
    mergeRegs a (upd b x) = upd (mergeRegs a b) x := by
  obtain ⟨i, v⟩ := x
  unfold upd
  simp only
  induction a generalizing b i with
  | nil => cases b <;> cases i <;> rfl
  | cons y a ih =>
    cases b with
    | nil => simp at hl
    | cons z b =>
      cases i with
      | zero => simp only [modAt, mergeRegs]; rw [Nat.max_assoc]
      | succ i => simp only [modAt, mergeRegs]; rw [ih b (Nat.le_of_succ_le_succ hl) i]

theorem mergeRegs_foldl {E : Type} (iv : E → Nat × Nat) (r₁ r₂ : List Nat) (a b : List E)
    (hl : r₁.length ≤ r₂.length) :
    mergeRegs (a.foldl (fun r e => upd r (iv e)) r₁) (b.foldl (fun r e => upd r (iv e)) r₂)
      = (a ++ b).foldl (fun r e => upd r (iv e)) (mergeRegs r₁ r₂) := by
  induction a generalizing r₁ with
  | nil =>
    simp only [List.foldl_nil, List.nil_append]
    induction b generalizing r₂ with
    | nil => rfl
    | cons e b ih =>
      simp only [List.foldl_cons]
      rw [ih (upd r₂ (iv e)) (by rw [upd_length]; exact hl),
        mergeRegs_upd_right r₁ r₂ (iv e) hl]
  | cons e a ih =>
    simp only [List.foldl_cons, List.cons_append]
    rw [ih (upd r₁ (iv e)) (by rw [upd_length]; exact hl), mergeRegs_upd_left]

end Gostatix.HLL
