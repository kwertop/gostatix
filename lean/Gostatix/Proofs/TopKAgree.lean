/-
  Gostatix.Proofs.TopKAgree — the specification step `Step` read up to permutation of the source
  heap, uniqueness of its successor when the eviction has no tie to break (`NoTie`), and
  the two variants side by side.
-/
import Gostatix.Proofs.TopKInv
import Gostatix.Proofs.TopKSort
import Gostatix.Proofs.TopKRedis
import Gostatix.Proofs.TopKMem
namespace Gostatix.TopK

section spec
variable {E : Type} [DecidableEq E]
variable {k : Nat} {heap h' h1 h2 : List (E × Nat)} {xf : E × Nat} {x : E} {f : Nat}

omit [DecidableEq E] in
theorem admit_of_perm (hp : h1.Perm h2) : Admit k h1 f → Admit k h2 f := by
  rintro (h | ⟨m, hm, hmin, hf⟩)
  · exact Or.inl (hp.length_eq ▸ h)
  · exact Or.inr ⟨m, hp.mem_iff.1 hm, fun e he => hmin e (hp.mem_iff.2 he), hf⟩

omit [DecidableEq E] in
theorem admit_perm (hp : h1.Perm h2) (f : Nat) : Admit k h1 f ↔ Admit k h2 f :=
  ⟨admit_of_perm hp, admit_of_perm hp.symm⟩

theorem upsert_perm (hp : h1.Perm h2) (x : E) (f : Nat) :
    (upsert h1 x f).Perm (upsert h2 x f) := by
  unfold upsert
  exact (hp.filter _).append_right _

theorem step_perm_left (hp : h1.Perm h2)
    (hs : Step k h1 xf h') : Step k h2 xf h' := by
  obtain ⟨hadm, hrej⟩ := hs
  have hu := upsert_perm hp xf.1 xf.2
  refine ⟨fun hA => ?_, fun hA => ?_⟩
  · obtain ⟨hev, hkeep⟩ := hadm ((admit_perm hp xf.2).2 hA)
    refine ⟨fun hgt => ?_, fun hgt => ?_⟩
    · obtain ⟨v, hv, hmin, hperm⟩ := hev (by rw [hu.length_eq]; exact hgt)
      exact ⟨v, hu.mem_iff.1 hv, fun e he => hmin e (hu.mem_iff.2 he),
        hperm.trans (hu.erase v)⟩
    · exact (hkeep (by rw [hu.length_eq]; exact hgt)).trans hu
  · exact (hrej (fun h => hA ((admit_perm hp xf.2).1 h))).trans hp

theorem step_perm_right {k : Nat} {h h1 h2 : List (E × Nat)} {xf : E × Nat} (hp : h2.Perm h1)
    (hs : Step k h xf h1) : Step k h xf h2 := by
  obtain ⟨hadm, hrej⟩ := hs
  refine ⟨fun hA => ?_, fun hA => hp.trans (hrej hA)⟩
  obtain ⟨hev, hkeep⟩ := hadm hA
  refine ⟨fun hgt => ?_, fun hgt => hp.trans (hkeep hgt)⟩
  obtain ⟨v, hv, hmin, hperm⟩ := hev hgt
  exact ⟨v, hv, hmin, hp.trans hperm⟩

/-- **no tie to break**: if the insert is admitted and an entry has to be evicted, then only one
    entry of `upsert heap x f` carries the minimal frequency.  (True in particular when the
    insert is rejected, or when nothing is evicted.) -/
def NoTie (k : Nat) (heap : List (E × Nat)) (x : E) (f : Nat) : Prop :=
  Admit k heap f → k < (upsert heap x f).length →
    ∀ a ∈ upsert heap x f, ∀ b ∈ upsert heap x f,
      (∀ e ∈ upsert heap x f, a.2 ≤ e.2) → (∀ e ∈ upsert heap x f, b.2 ≤ e.2) → a = b

instance (k : Nat) (heap : List (E × Nat)) (x : E) (f : Nat) : Decidable (NoTie k heap x f) := by
  unfold NoTie; infer_instance

theorem noTie_perm (hp : h1.Perm h2) (x : E) (f : Nat) (hn : NoTie k h1 x f) :
    NoTie k h2 x f := by
  have hu := upsert_perm hp x f
  intro hA hgt a ha b hb hamin hbmin
  exact hn ((admit_perm hp f).2 hA) (by rw [hu.length_eq]; exact hgt)
    a (hu.mem_iff.2 ha) b (hu.mem_iff.2 hb)
    (fun e he => hamin e (hu.mem_iff.1 he)) (fun e he => hbmin e (hu.mem_iff.1 he))

/-- two successors of the same heap differ at most in the victim, chosen among the entries of
    minimal frequency -/
theorem step_two (s1 : Step k heap xf h1) (s2 : Step k heap xf h2) :
    h1.Perm h2 ∨ (Admit k heap xf.2 ∧ k < (upsert heap xf.1 xf.2).length ∧
      ∃ v1 ∈ upsert heap xf.1 xf.2, ∃ v2 ∈ upsert heap xf.1 xf.2,
        (∀ e ∈ upsert heap xf.1 xf.2, v1.2 ≤ e.2) ∧
        (∀ e ∈ upsert heap xf.1 xf.2, v2.2 ≤ e.2) ∧
        h1.Perm ((upsert heap xf.1 xf.2).erase v1) ∧
        h2.Perm ((upsert heap xf.1 xf.2).erase v2)) := by
  by_cases hA : Admit k heap xf.2
  · obtain ⟨ev1, keep1⟩ := s1.1 hA
    obtain ⟨ev2, keep2⟩ := s2.1 hA
    by_cases hgt : k < (upsert heap xf.1 xf.2).length
    · obtain ⟨v1, hv1, hmin1, hp1⟩ := ev1 hgt
      obtain ⟨v2, hv2, hmin2, hp2⟩ := ev2 hgt
      exact Or.inr ⟨hA, hgt, v1, hv1, v2, hv2, hmin1, hmin2, hp1, hp2⟩
    · exact Or.inl ((keep1 hgt).trans (keep2 hgt).symm)
  · exact Or.inl ((s1.2 hA).trans (s2.2 hA).symm)

theorem step_unique (hnt : NoTie k heap xf.1 xf.2) (s1 : Step k heap xf h1) (s2 : Step k heap xf h2) :
    h1.Perm h2 := by
  rcases step_two s1 s2 with hp | ⟨hA, hgt, v1, hv1, v2, hv2, hmin1, hmin2, hp1, hp2⟩
  · exact hp
  · rw [hnt hA hgt v1 hv1 v2 hv2 hmin1 hmin2] at hp1
    exact hp1.trans hp2.symm

end spec

theorem map_snd_erase_perm {l : List HElem} {v1 v2 : HElem} (h1 : v1 ∈ l) (h2 : v2 ∈ l)
    (he : v1.2 = v2.2) : ((l.erase v1).map (·.2)).Perm ((l.erase v2).map (·.2)) := by
  have a := (List.perm_cons_erase h1).map (·.2)
  have b := (List.perm_cons_erase h2).map (·.2)
  simp only [List.map_cons] at a b
  rw [he] at a
  exact (a.symm.trans b).cons_inv

structure Agree (h : Array HElem) (z : List HElem) : Prop where
  heapInv : HeapInv h
  nodup : (h.toList.map (·.1)).Nodup
  sorted : ZSorted z
  perm : h.toList.Perm z

theorem Agree.nodup_z {h : Array HElem} {z : List HElem} (ha : Agree h z) :
    (z.map (·.1)).Nodup := ((ha.perm.map (·.1)).nodup_iff).1 ha.nodup

theorem agree_empty : Agree #[] [] :=
  ⟨fun i hi _ => by simp at hi, by simp, List.Pairwise.nil, List.Perm.refl _⟩

theorem both_step (k : Nat) (h : Array HElem) (z : List HElem) (x : String) (f : Nat)
    (ha : Agree h z) :
    Step k z (x, f) (offer k h x f).toList ∧ Step k z (x, f) (offerRedis k z x f) :=
  ⟨step_perm_left ha.perm (mem_refines_spec k h x f ha.heapInv ha.nodup).1,
   (redis_refines_spec k z x f ha.sorted ha.nodup_z).1⟩

theorem agree_step (k : Nat) (h : Array HElem) (z : List HElem) (x : String) (f : Nat)
    (ha : Agree h z) (hnt : NoTie k z x f) :
    Agree (offer k h x f) (offerRedis k z x f) := by
  obtain ⟨sm, hinv⟩ := mem_refines_spec k h x f ha.heapInv ha.nodup
  obtain ⟨sr, hs, _⟩ := redis_refines_spec k z x f ha.sorted ha.nodup_z
  exact ⟨hinv, step_nodup sm ha.nodup, hs,
    step_unique (xf := (x, f)) hnt (step_perm_left ha.perm sm) sr⟩

/-- no insert of the history, run on the Redis variant from `z`, has a tie to break -/
def NoTieRun (k : Nat) : List HElem → List (Event String) → Prop
  | _, [] => True
  | z, e :: evs => NoTie k z e.x e.f ∧ NoTieRun k (offerRedis k z e.x e.f) evs

def NoTieRun.dec (k : Nat) :
    (z : List HElem) → (evs : List (Event String)) → Decidable (NoTieRun k z evs)
  | _, [] => isTrue trivial
  | z, e :: evs =>
    match (inferInstance : Decidable (NoTie k z e.x e.f)),
        NoTieRun.dec k (offerRedis k z e.x e.f) evs with
    | isTrue h1, isTrue h2 => isTrue ⟨h1, h2⟩
    | isFalse h1, _ => isFalse (fun h => h1 h.1)
    | _, isFalse h2 => isFalse (fun h => h2 h.2)

instance (k : Nat) (z : List HElem) (evs : List (Event String)) : Decidable (NoTieRun k z evs) :=
  NoTieRun.dec k z evs

theorem agree_run (k : Nat) (evs : List (Event String)) :
    ∀ (h : Array HElem) (z : List HElem), Agree h z → NoTieRun k z evs →
      ∀ n, Agree ((evs.take n).foldl (fun h e => offer k h e.x e.f) h)
        ((evs.take n).foldl (fun z e => offerRedis k z e.x e.f) z) := by
  induction evs with
  | nil => intro h z ha _ n; simpa using ha
  | cons e evs ih =>
    intro h z ha hnt n
    cases n with
    | zero => simpa using ha
    | succ n =>
      simp only [List.take_succ_cons, List.foldl_cons]
      exact ih _ _ (agree_step k h z e.x e.f ha hnt.1) hnt.2 n

end Gostatix.TopK
