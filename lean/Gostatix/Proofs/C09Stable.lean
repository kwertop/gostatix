/-
  Gostatix.Proofs.C09Stable — definitions for Props/C09Stable.lean (re-attachment at ANY point of
  a history): the DATA keys of every handle (`keysOf` minus the metadata key(s)), the separation
  predicates ("no data key is spelled like the metadata key"), `KeepsKey`/`runSteps`, the
  `…Handle.Step` relations, `topkInsert`, and `cuckooAttach` in terms of the fields of the hash
  (it does not look at `length`).  The frames on the data keys and "every step keeps the
  metadata key" are proved in Props/C09Stable.lean.  Core Lean only.
-/
import Gostatix.Proofs.RedisAttach
import Gostatix.Proofs.RedisFrameOps
import Gostatix.Proofs.RedisBucket
import Gostatix.Proofs.RedisZSet
namespace Gostatix.Redis

def keysMinus (K : List String) (mk : String) : List String := K.filter (fun k => decide (k ≠ mk))

theorem mem_keysMinus {K : List String} {mk k : String} : k ∈ keysMinus K mk ↔ k ∈ K ∧ k ≠ mk := by
  simp [keysMinus]

theorem self_not_mem_keysMinus (K : List String) (mk : String) : mk ∉ keysMinus K mk :=
  fun h => (mem_keysMinus.mp h).2 rfl

theorem keysMinus_subset (K : List String) (mk : String) : ∀ k ∈ keysMinus K mk, k ∈ K :=
  fun _ hk => (mem_keysMinus.mp hk).1

theorem mem_keysMinus_pair {a mk k : String} : k ∈ keysMinus [a, mk] mk ↔ k = a ∧ k ≠ mk := by
  rw [mem_keysMinus, List.mem_cons, List.mem_singleton]
  exact ⟨fun ⟨h1, h2⟩ => ⟨h1.resolve_right h2, h2⟩, fun ⟨h1, h2⟩ => ⟨Or.inl h1, h2⟩⟩

theorem keysMinus_pair {a mk : String} (hne : a ≠ mk) : keysMinus [a, mk] mk = [a] := by
  simp [keysMinus, hne]

def KeepsKey (mk : String) (t : Store → Store) : Prop := ∀ s, t s mk = s mk

def runSteps : List (Store → Store) → Store → Store
  | [], s => s
  | t :: ts, s => runSteps ts (t s)

theorem runSteps_append (ts us : List (Store → Store)) (s : Store) :
    runSteps (ts ++ us) s = runSteps us (runSteps ts s) := by
  induction ts generalizing s with
  | nil => rfl
  | cons t ts ih => exact ih (t s)

theorem runSteps_invariant {α : Sort _} (f : Store → α) (ts : List (Store → Store))
    (h : ∀ t ∈ ts, ∀ s, f (t s) = f s) (s : Store) : f (runSteps ts s) = f s := by
  induction ts generalizing s with
  | nil => rfl
  | cons t ts ih =>
    show f (runSteps ts (t s)) = f s
    rw [ih (fun u hu => h u (List.mem_cons_of_mem _ hu)) (t s)]
    exact h t List.mem_cons_self s

theorem runSteps_keeps (mk : String) (ts : List (Store → Store))
    (h : ∀ t ∈ ts, KeepsKey mk t) (s : Store) : runSteps ts s mk = s mk :=
  runSteps_invariant (fun s => s mk) ts h s

theorem SupportedOn.keepsKey {ρ : Type} {K : List String} {op : Op ρ} (hsup : SupportedOn K op)
    {mk : String} (hmk : mk ∉ K) : KeepsKey mk (fun s => (op s).1) :=
  fun s => hsup.1 s mk hmk

theorem KeepsKey.comp {mk : String} {t u : Store → Store} (ht : KeepsKey mk t) (hu : KeepsKey mk u) :
    KeepsKey mk (fun s => u (t s)) := fun s => (hu (t s)).trans (ht s)

def CMSHandle.rowKeys (h : CMSHandle) : List String := (List.range h.rows).map (cmsRowKey h.key)

def CMSHandle.dataKeys (h : CMSHandle) : List String := keysMinus h.keysOf h.metadataKey

def CMSHandle.RowsAvoid (h : CMSHandle) (mk : String) : Prop :=
  ∀ r, r < h.rows → cmsRowKey h.key r ≠ mk

instance (h : CMSHandle) (mk : String) : Decidable (h.RowsAvoid mk) := by
  unfold CMSHandle.RowsAvoid; exact inferInstance

/-- the sketch's `key` itself is not a Redis key: only the row keys `key ++ decimal r` are. -/
theorem CMSHandle.keysOf_eq (h : CMSHandle) : h.keysOf = h.metadataKey :: h.rowKeys := by
  unfold CMSHandle.keysOf CMSHandle.descr CMSHandle.rowKeys
  rw [List.map_cons, List.map_map]
  rfl

theorem CMSHandle.mem_rowKeys {h : CMSHandle} {k : String} :
    k ∈ h.rowKeys ↔ ∃ r, r < h.rows ∧ cmsRowKey h.key r = k := by
  simp [CMSHandle.rowKeys]

theorem CMSHandle.mem_dataKeys {h : CMSHandle} {k : String} :
    k ∈ h.dataKeys ↔ k ∈ h.rowKeys ∧ k ≠ h.metadataKey := by
  unfold CMSHandle.dataKeys
  rw [mem_keysMinus, h.keysOf_eq, List.mem_cons]
  grind

theorem CMSHandle.rowKey_mem_data (h : CMSHandle) (hsep : h.RowsAvoid h.metadataKey) {r : Nat}
    (hr : r < h.rows) : cmsRowKey h.key r ∈ h.dataKeys :=
  CMSHandle.mem_dataKeys.mpr ⟨CMSHandle.mem_rowKeys.mpr ⟨r, hr, rfl⟩, hsep r hr⟩

theorem CMSHandle.metadataKey_not_mem_dataKeys (h : CMSHandle) : h.metadataKey ∉ h.dataKeys :=
  self_not_mem_keysMinus _ _

theorem CMSHandle.RowsAvoid.not_mem {h : CMSHandle} {mk : String} (hh : h.RowsAvoid mk) :
    mk ∉ h.rowKeys :=
  fun hm => let ⟨r, hr, e⟩ := CMSHandle.mem_rowKeys.mp hm; hh r hr e

theorem CMSHandle.not_mem_dataKeys_of_avoid (g : CMSHandle) {mk : String} (hg : g.RowsAvoid mk) :
    mk ∉ g.dataKeys :=
  fun hm => hg.not_mem (CMSHandle.mem_dataKeys.mp hm).1

theorem CMSHandle.rowsAvoid_of_isBase (h : CMSHandle) {mk : String} (hk : IsBase h.key)
    (hmk : IsBase mk) : h.RowsAvoid mk :=
  fun r _ => KeyD.render_ne_base (d := .row h.key r) hk hmk nofun

theorem cmsMerge_keepsKey (h g : CMSHandle) {mk : String} (hh : h.RowsAvoid mk) (hg : g.RowsAvoid mk) :
    KeepsKey mk (fun s => (cmsMerge h g s).1) :=
  (supported_cmsMerge_on (h.rowKeys ++ g.rowKeys) h g
    (fun r hr => List.mem_append_left _ (CMSHandle.mem_rowKeys.mpr ⟨r, hr, rfl⟩))
    (fun r hr => List.mem_append_right _ (CMSHandle.mem_rowKeys.mpr ⟨r, hr, rfl⟩))).keepsKey
    (List.not_mem_append hh.not_mem hg.not_mem)

/-- the operations of a count-min sketch handle, as store transformers, plus anything (`other`)
    that keeps the metadata key — e.g. any operation of another structure.
    Under the separation hypotheses every constructor is an instance of `other`
    (`C09_own_step_keeps_cms`, Props/C09Stable.lean): `Step h t` says that `t` keeps the metadata
    key and names how we know; so do the `Step` relations of the other four handles. -/
inductive CMSHandle.Step (h : CMSHandle) : (Store → Store) → Prop
  | init : Step h (fun s => (cmsInit h s).1)
  | update (pos : List Nat) (count : Nat) (hlen : pos.length ≤ h.rows) :
      Step h (fun s => (cmsUpdate h pos count s).1)
  | count (pos : List Nat) (hlen : pos.length ≤ h.rows) : Step h (fun s => (cmsCount h pos s).1)
  /-- `h.Merge(g)` -/
  | mergeFrom (g : CMSHandle) (hg : g.RowsAvoid h.metadataKey) : Step h (fun s => (cmsMerge h g s).1)
  /-- `g.Merge(h)` -/
  | mergeInto (g : CMSHandle) (hg : g.RowsAvoid h.metadataKey) : Step h (fun s => (cmsMerge g h s).1)
  | other (t : Store → Store) (ht : KeepsKey h.metadataKey t) : Step h t

def HLLHandle.dataKeys (h : HLLHandle) : List String := keysMinus h.keysOf h.metadataKey

theorem HLLHandle.mem_dataKeys {h : HLLHandle} {k : String} :
    k ∈ h.dataKeys ↔ k = h.key ∧ k ≠ h.metadataKey := mem_keysMinus_pair

theorem HLLHandle.key_mem_data (h : HLLHandle) (hne : h.key ≠ h.metadataKey) : h.key ∈ h.dataKeys :=
  HLLHandle.mem_dataKeys.mpr ⟨rfl, hne⟩

theorem HLLHandle.metadataKey_not_mem_dataKeys (h : HLLHandle) : h.metadataKey ∉ h.dataKeys :=
  self_not_mem_keysMinus _ _

theorem HLLHandle.not_mem_dataKeys_of_ne (g : HLLHandle) {mk : String} (hg : g.key ≠ mk) :
    mk ∉ g.dataKeys := fun hm => hg (HLLHandle.mem_dataKeys.mp hm).1.symm

inductive HLLHandle.Step (h : HLLHandle) : (Store → Store) → Prop
  | init : Step h (fun s => (hllInit h s).1)
  | update (idx val : Nat) : Step h (fun s => (hllUpdate h idx val s).1)
  /-- `h.Merge(g)` -/
  | mergeFrom (g : HLLHandle) (hg : g.key ≠ h.metadataKey) : Step h (fun s => (hllMerge h g s).1)
  /-- `g.Merge(h)` -/
  | mergeInto (g : HLLHandle) (hg : g.key ≠ h.metadataKey) : Step h (fun s => (hllMerge g h s).1)
  /-- `h.Equals(g)` -/
  | equals (g : HLLHandle) (hg : g.key ≠ h.metadataKey) : Step h (fun s => (hllEquals h g s).1)
  /-- `g.Equals(h)` -/
  | equalsRev (g : HLLHandle) (hg : g.key ≠ h.metadataKey) : Step h (fun s => (hllEquals g h s).1)
  | other (t : Store → Store) (ht : KeepsKey h.metadataKey t) : Step h t

def BloomHandle.dataKeys (h : BloomHandle) : List String := keysMinus h.keysOf h.metadataKey

theorem BloomHandle.mem_dataKeys {h : BloomHandle} {k : String} :
    k ∈ h.dataKeys ↔ k = h.bitsetKey ∧ k ≠ h.metadataKey := mem_keysMinus_pair

theorem BloomHandle.bitsetKey_mem_data (h : BloomHandle) (hne : h.bitsetKey ≠ h.metadataKey) :
    h.bitsetKey ∈ h.dataKeys := BloomHandle.mem_dataKeys.mpr ⟨rfl, hne⟩

theorem BloomHandle.metadataKey_not_mem_dataKeys (h : BloomHandle) : h.metadataKey ∉ h.dataKeys :=
  self_not_mem_keysMinus _ _

inductive BloomHandle.Step (h : BloomHandle) : (Store → Store) → Prop
  | init : Step h (fun s => (bloomInit h s).1)
  | insert (ps : List Nat) : Step h (fun s => (bloomInsert h ps s).1)
  | lookup (ps : List Nat) : Step h (fun s => (bloomLookup h ps s).1)
  | other (t : Store → Store) (ht : KeepsKey h.metadataKey t) : Step h t

/-- `TopKRedis.Insert(data, count)` as one operation: `sketch.Update` (error dropped),
    `sketch.Count` (error returned), then the sorted-set commands with that frequency. -/
def topkInsert (h : TopKHandle) (x : String) (pos : List Nat) (count : Nat) : Script Unit :=
  Script.try_ (cmsUpdate h.sketch pos count) >>=ₛ fun _ =>
  cmsCount h.sketch pos >>=ₛ fun f =>
  topkInsertCmds h.heapKey h.k x f

/-- `keysOf` minus BOTH metadata keys (`NewTopKRedisFromKey` reads its own hash and, through
    `sketchKey`, the nested sketch's). -/
def TopKHandle.dataKeys (h : TopKHandle) : List String :=
  keysMinus (keysMinus h.keysOf h.metadataKey) h.sketch.metadataKey

structure TopKHandle.MetaSep (h : TopKHandle) : Prop where
  heap_own : h.heapKey ≠ h.metadataKey
  heap_sketch : h.heapKey ≠ h.sketch.metadataKey
  rows_own : h.sketch.RowsAvoid h.metadataKey
  rows_sketch : h.sketch.RowsAvoid h.sketch.metadataKey

instance (h : TopKHandle) : Decidable h.MetaSep :=
  decidable_of_iff (h.heapKey ≠ h.metadataKey ∧ h.heapKey ≠ h.sketch.metadataKey ∧
      h.sketch.RowsAvoid h.metadataKey ∧ h.sketch.RowsAvoid h.sketch.metadataKey)
    ⟨fun ⟨a, b, c, d⟩ => ⟨a, b, c, d⟩, fun ⟨a, b, c, d⟩ => ⟨a, b, c, d⟩⟩

theorem TopKHandle.keysOf_eq (h : TopKHandle) :
    h.keysOf = h.heapKey :: h.metadataKey :: h.sketch.keysOf := by
  unfold TopKHandle.keysOf TopKHandle.descr CMSHandle.keysOf
  rw [List.map_append]
  rfl

theorem TopKHandle.mem_dataKeys {h : TopKHandle} {k : String} :
    k ∈ h.dataKeys ↔ (k = h.heapKey ∨ k ∈ h.sketch.rowKeys) ∧ k ≠ h.metadataKey ∧
      k ≠ h.sketch.metadataKey := by
  unfold TopKHandle.dataKeys
  rw [mem_keysMinus, mem_keysMinus, h.keysOf_eq, h.sketch.keysOf_eq]
  simp only [List.mem_cons]
  grind

theorem TopKHandle.heapKey_mem_data (h : TopKHandle) (hsep : h.MetaSep) : h.heapKey ∈ h.dataKeys :=
  TopKHandle.mem_dataKeys.mpr ⟨Or.inl rfl, hsep.heap_own, hsep.heap_sketch⟩

theorem TopKHandle.rowKey_mem_data (h : TopKHandle) (hsep : h.MetaSep) {r : Nat}
    (hr : r < h.sketch.rows) : cmsRowKey h.sketch.key r ∈ h.dataKeys :=
  TopKHandle.mem_dataKeys.mpr ⟨Or.inr (CMSHandle.mem_rowKeys.mpr ⟨r, hr, rfl⟩),
    hsep.rows_own r hr, hsep.rows_sketch r hr⟩

theorem TopKHandle.metadataKey_not_mem_dataKeys (h : TopKHandle) : h.metadataKey ∉ h.dataKeys :=
  fun hm => (TopKHandle.mem_dataKeys.mp hm).2.1 rfl

theorem TopKHandle.sketchMetadataKey_not_mem_dataKeys (h : TopKHandle) :
    h.sketch.metadataKey ∉ h.dataKeys :=
  fun hm => (TopKHandle.mem_dataKeys.mp hm).2.2 rfl

/-- the operations of a Top-K handle — the sorted-set part of `Insert` for ANY frequency, `Values`,
    the nested sketch's operations, the whole `Insert` — plus anything that keeps both metadata
    keys. -/
inductive TopKHandle.Step (h : TopKHandle) : (Store → Store) → Prop
  | insertCmds (x : String) (f : Nat) : Step h (fun s => (topkInsertCmds h.heapKey h.k x f s).1)
  | values : Step h (fun s => (topkValues h.heapKey s).1)
  | sketchInit : Step h (fun s => (cmsInit h.sketch s).1)
  | sketchUpdate (pos : List Nat) (count : Nat) (hlen : pos.length ≤ h.sketch.rows) :
      Step h (fun s => (cmsUpdate h.sketch pos count s).1)
  | sketchCount (pos : List Nat) (hlen : pos.length ≤ h.sketch.rows) :
      Step h (fun s => (cmsCount h.sketch pos s).1)
  | insert (x : String) (pos : List Nat) (count : Nat) (hlen : pos.length ≤ h.sketch.rows) :
      Step h (fun s => (topkInsert h x pos count s).1)
  | other (t : Store → Store) (ht : KeepsKey h.metadataKey t)
      (ht' : KeepsKey h.sketch.metadataKey t) : Step h t

theorem cmsAttach_metadataKey {s : Store} {k : String} {sk : CMSHandle}
    (h : cmsAttach s k = some sk) : sk.metadataKey = k := by
  unfold cmsAttach at h
  split at h
  · cases h
  · simp only at h
    split at h
    · cases h
    · cases h; rfl

/-- what `topkAttach` returned is determined by the two metadata keys of the handle it returned. -/
theorem topkAttach_stable_of_some {s s' : Store} {mk : String} {h : TopKHandle}
    (hat : topkAttach s mk = some h) (e : s' mk = s mk)
    (e' : s' h.sketch.metadataKey = s h.sketch.metadataKey) : topkAttach s' mk = some h := by
  rw [← hat]
  refine topkAttach_congr e ?_
  intro vals hv
  rw [cmdHGETALL_congr e] at hv
  have hk : field vals "sketchKey" = h.sketch.metadataKey := by
    unfold topkAttach at hat
    rw [hv] at hat
    simp only at hat
    cases hc : cmsAttach s (field vals "sketchKey") with
    | none => rw [hc] at hat; cases hat
    | some sk =>
      rw [hc] at hat
      simp only [Option.some.injEq] at hat
      rw [← hat]
      exact (cmsAttach_metadataKey hc).symm
  rw [hk]; exact e'

def CuckooHandle.dataKeys (h : CuckooHandle) : List String := keysMinus h.keysOf h.metadataKey

def CuckooHandle.BucketsAvoid (h : CuckooHandle) (mk : String) : Prop :=
  ∀ i, i < h.n → cuckooBucketKey h.key i ≠ mk ∧ cuckooBucketKey h.key i ++ "_len" ≠ mk

instance (h : CuckooHandle) (mk : String) : Decidable (h.BucketsAvoid mk) := by
  unfold CuckooHandle.BucketsAvoid; exact inferInstance

theorem CuckooHandle.metadataKey_not_mem_dataKeys (h : CuckooHandle) : h.metadataKey ∉ h.dataKeys :=
  self_not_mem_keysMinus _ _

def cuckooOfVals (vals : List (String × String)) (mk : String) : CuckooHandle :=
  { n := atoi (field vals "size"), bsize := atoi (field vals "bucketSize"),
    fpl := atoi (field vals "fingerPrintLength"), retries := atoi (field vals "retries"),
    key := field vals "key", metadataKey := mk }

theorem cuckooAttach_eq (s : Store) (mk : String) :
    cuckooAttach s mk = ((cmdHGETALL mk s).2).map (cuckooOfVals · mk) := by
  unfold cuckooAttach cuckooOfVals
  cases (cmdHGETALL mk s).2 <;> rfl

theorem cuckooOfVals_hashSet_length (m : List (String × String)) (v mk : String) :
    cuckooOfVals (hashSet m "length" v) mk = cuckooOfVals m mk := by
  unfold cuckooOfVals
  simp only [field_hashSet, String.reduceEq, if_false]

theorem cuckooAttach_set_hash (s : Store) (mk : String) (m : List (String × String)) :
    cuckooAttach (s.set mk (.hash m)) mk = some (cuckooOfVals m mk) := by
  rw [cuckooAttach_eq, cmdHGETALL_hash (Store.set_self _ _ _)]; rfl

theorem cuckooAttach_set_length (s : Store) (mk : String) (m : List (String × String)) (v : String) :
    cuckooAttach (s.set mk (.hash (hashSet m "length" v))) mk = cuckooAttach (s.set mk (.hash m)) mk := by
  rw [cuckooAttach_set_hash, cuckooAttach_set_hash, cuckooOfVals_hashSet_length]

/-- the operations of a cuckoo filter handle on the store: the nine bucket operations on any of
    its buckets `i < n` (for any `size` argument; the filter passes `bsize`), the three accessors
    of the `length` field, plus anything that keeps the metadata key. -/
inductive CuckooHandle.Step (h : CuckooHandle) : (Store → Store) → Prop
  | bucketNew (i : Nat) (hi : i < h.n) : Step h (fun s => (bucketNew (cuckooBucketKey h.key i) s).1)
  | isFree (i : Nat) (hi : i < h.n) (size : Nat) :
      Step h (fun s => (bucketIsFree (cuckooBucketKey h.key i) size s).1)
  | add (i : Nat) (hi : i < h.n) (size : Nat) (e : String) :
      Step h (fun s => (bucketAdd (cuckooBucketKey h.key i) size e s).1)
  | remove (i : Nat) (hi : i < h.n) (e : String) :
      Step h (fun s => (bucketRemove (cuckooBucketKey h.key i) e s).1)
  | lookup (i : Nat) (hi : i < h.n) (e : String) :
      Step h (fun s => (bucketLookup (cuckooBucketKey h.key i) e s).1)
  | slotAt (i : Nat) (hi : i < h.n) (j : Nat) :
      Step h (fun s => (bucketAt (cuckooBucketKey h.key i) j s).1)
  | slotSet (i : Nat) (hi : i < h.n) (j : Nat) (e : String) :
      Step h (fun s => (bucketSet (cuckooBucketKey h.key i) j e s).1)
  | getLength (i : Nat) (hi : i < h.n) : Step h (fun s => (bucketGetLength (cuckooBucketKey h.key i) s).1)
  | elements (i : Nat) (hi : i < h.n) : Step h (fun s => (bucketElements (cuckooBucketKey h.key i) s).1)
  | incrLength : Step h (fun s => (cuckooIncrLength h s).1)
  | decrLength : Step h (fun s => (cuckooDecrLength h s).1)
  | length : Step h (fun s => (cuckooLength h s).1)
  | other (t : Store → Store) (ht : KeepsKey h.metadataKey t) : Step h t

end Gostatix.Redis
