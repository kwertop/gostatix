/-
  Gostatix.Proofs.CuckooStep — per-bucket / whole-table counting functions for a list of buckets
  and the effect of the three primitive updates (overwrite a slot of a full bucket, add into a
  bucket with room, remove a stored fingerprint) on them.  Generic in the bucket implementation.
-/
import Gostatix.Proofs.CuckooBucket
set_option linter.unusedSectionVars false
namespace Gostatix.Cuckoo

section
variable {B F : Type} [DecidableEq F] [Inhabited B] {o : BucketOps B F} {emp : F}

def cntB (L : LawfulBucket o emp) (bs : List B) (j : Nat) (g : F) : Nat :=
  (L.slots (bucketAt bs j)).count g
def occB (L : LawfulBucket o emp) (bs : List B) (j : Nat) : Nat :=
  occ emp (L.slots (bucketAt bs j))
def tcnt (L : LawfulBucket o emp) (bs : List B) (g : F) : Nat :=
  tot (fun b => (L.slots b).count g) bs
def tocc (L : LawfulBucket o emp) (bs : List B) : Nat :=
  tot (fun b => occ emp (L.slots b)) bs

def allSlots (L : LawfulBucket o emp) (bs : List B) : List F := (bs.map L.slots).flatten

theorem tocc_eq_occ (L : LawfulBucket o emp) (bs : List B) : tocc L bs = occ emp (allSlots L bs) := by
  induction bs with
  | nil => rfl
  | cons b bs ih => exact (congrArg _ ih).trans (occ_append emp _ _).symm

theorem tcnt_eq_count (L : LawfulBucket o emp) (bs : List B) (g : F) :
    tcnt L bs g = (allSlots L bs).count g := by
  induction bs with
  | nil => rfl
  | cons b bs ih => exact (congrArg _ ih).trans List.count_append.symm

structure WFbs (L : LawfulBucket o emp) (n s : Nat) (bs : List B) : Prop where
  len : bs.length = n
  wfb : ∀ b ∈ bs, L.wfb s b

theorem bucketAt_modAt (bs : List B) (i j : Nat) (f : B → B) (hi : i < bs.length) :
    bucketAt (modAt bs i f) j = if j = i then f (bucketAt bs i) else bucketAt bs j :=
  modAt_getD bs i j f default hi

theorem bucketAt_mem (bs : List B) (j : Nat) (hj : j < bs.length) : bucketAt bs j ∈ bs :=
  getD_mem_of_lt bs j default hj

theorem WFbs.at {L : LawfulBucket o emp} {n s : Nat} {bs : List B} (h : WFbs L n s bs)
    (j : Nat) (hj : j < n) : L.wfb s (bucketAt bs j) :=
  h.wfb _ (bucketAt_mem bs j (by rw [h.len]; exact hj))

theorem WFbs.modAt {L : LawfulBucket o emp} {n s : Nat} {bs : List B} (h : WFbs L n s bs)
    (i : Nat) (f : B → B) (hf : L.wfb s (f (bucketAt bs i))) : WFbs L n s (modAt bs i f) :=
  ⟨by rw [modAt_length, h.len], forall_mem_modAt bs i f default _ h.wfb (fun _ => hf)⟩

theorem full_of_not_free (L : LawfulBucket o emp) (s : Nat) (b : B) (h : L.wfb s b)
    (hf : o.isFree b = false) : (L.slots b).length = s ∧ emp ∉ L.slots b := by
  have h1 := L.len_le s b h
  have h2 := occ_le_length emp (L.slots b)
  have h3 : ¬ occ emp (L.slots b) < s := by
    intro hlt; rw [(L.isFree_iff s b h).mpr hlt] at hf; cases hf
  have h4 : occ emp (L.slots b) = (L.slots b).length := by omega
  exact ⟨by omega, not_mem_emp_of_occ_eq_length emp _ h4⟩

theorem isFree_congr (L : LawfulBucket o emp) (s : Nat) (b b' : B) (h : L.wfb s b) (h' : L.wfb s b')
    (ho : occ emp (L.slots b') = occ emp (L.slots b)) : o.isFree b' = o.isFree b := by
  rw [Bool.eq_iff_iff, L.isFree_iff s b h, L.isFree_iff s b' h', ho]

/-- **one bucket changes**: if `f` changes a bucket measure `m` by `− ind p + ind p'` on bucket `i`,
    then `modAt bs i f` changes the measure of bucket `i` and its total over the table by the same
    amount and leaves the other buckets alone (additive form, no subtraction) -/
theorem modAt_measure (m : B → Nat) (bs : List B) (i : Nat) (f : B → B) (hi : i < bs.length)
    (p p' : Prop) [Decidable p] [Decidable p']
    (h : m (f (bucketAt bs i)) + ind p = m (bucketAt bs i) + ind p') :
    (∀ j, m (bucketAt (modAt bs i f) j) + ind (j = i ∧ p) = m (bucketAt bs j) + ind (j = i ∧ p')) ∧
    tot m (modAt bs i f) + ind p = tot m bs + ind p' := by
  refine ⟨fun j => ?_, ?_⟩
  · rw [bucketAt_modAt bs i j f hi]
    by_cases e : j = i
    · subst e; simpa [ind] using h
    · simp [ind, e]
  · have := tot_modAt m bs i f default hi
    change tot m (modAt bs i f) + m (bucketAt bs i) = tot m bs + m (f (bucketAt bs i)) at this
    omega

theorem set_full_bucket (L : LawfulBucket o emp) (s : Nat) (b : B) (slot : Nat) (cur : F)
    (h : L.wfb s b) (hf : o.isFree b = false) (hslot : slot < s) (hcur : cur ≠ emp) :
    o.get b slot ≠ emp ∧ L.wfb s (o.set b slot cur) ∧
    occ emp (L.slots (o.set b slot cur)) = occ emp (L.slots b) ∧
    ∀ g, (L.slots (o.set b slot cur)).count g + ind (o.get b slot = g)
        = (L.slots b).count g + ind (cur = g) := by
  obtain ⟨hl, hne⟩ := full_of_not_free L s b h hf
  have hi : slot < (L.slots b).length := by omega
  have hp : o.get b slot ≠ emp := by
    rw [L.get_eq]; exact getD_ne_emp_of_not_mem emp _ slot hi hne
  have ho : occ emp ((L.slots b).set slot cur) = occ emp (L.slots b) := by
    have := occ_set_add emp (L.slots b) slot cur emp hi
    rw [← L.get_eq] at this
    simp only [ind, ne_eq, hp, not_false_eq_true, if_true, hcur] at this
    omega
  refine ⟨hp, L.wfb_set s b slot cur h ho, by rw [L.slots_set]; exact ho, fun g => ?_⟩
  rw [L.slots_set, L.get_eq]
  exact count_set_add (L.slots b) slot cur emp g hi

structure SetStep (L : LawfulBucket o emp) (n s : Nat) (bs bs1 : List B) (idx : Nat)
    (cur prev : F) : Prop where
  wf : WFbs L n s bs1
  prev_ne : prev ≠ emp
  free : ∀ j, o.isFree (bucketAt bs1 j) = o.isFree (bucketAt bs j)
  occB : ∀ j, occB L bs1 j = occB L bs j
  cnt : ∀ j g, cntB L bs1 j g + ind (j = idx ∧ prev = g) = cntB L bs j g + ind (j = idx ∧ cur = g)
  tcnt : ∀ g, tcnt L bs1 g + ind (prev = g) = tcnt L bs g + ind (cur = g)
  tocc : tocc L bs1 = tocc L bs

theorem set_step (L : LawfulBucket o emp) (n s : Nat) (bs : List B) (idx slot : Nat) (cur : F)
    (h : WFbs L n s bs) (hidx : idx < n) (hf : o.isFree (bucketAt bs idx) = false)
    (hslot : slot < s) (hcur : cur ≠ emp) :
    SetStep L n s bs (modAt bs idx (fun b => o.set b slot cur)) idx cur
      (o.get (bucketAt bs idx) slot) := by
  have hlen : idx < bs.length := by rw [h.len]; exact hidx
  obtain ⟨h1, h3, h4, h5⟩ :=
    set_full_bucket L s (bucketAt bs idx) slot cur (h.at idx hidx) hf hslot hcur
  have hwf := h.modAt idx (fun b => o.set b slot cur) h3
  have ho := modAt_measure (fun b => occ emp (L.slots b)) bs idx (fun b => o.set b slot cur) hlen
    False False (congrArg (· + 0) h4)
  have hc := fun g => modAt_measure (fun b => (L.slots b).count g) bs idx
    (fun b => o.set b slot cur) hlen _ _ (h5 g)
  have hoB : ∀ j, occB L (modAt bs idx (fun b => o.set b slot cur)) j = occB L bs j := by
    simpa [ind, Cuckoo.occB] using ho.1
  refine ⟨hwf, h1, fun j => ?_, hoB, fun j g => (hc g).1 j, fun g => (hc g).2,
    by simpa [Cuckoo.tocc] using ho.2⟩
  by_cases hj : j < n
  · exact isFree_congr L s _ _ (h.at j hj) (hwf.at j hj) (hoB j)
  · rw [bucketAt, modAt_getD_ne _ _ _ _ _ (fun (e : j = idx) => hj (e ▸ hidx))]; rfl

structure AddStep (L : LawfulBucket o emp) (n s : Nat) (bs bs' : List B) (j0 : Nat) (e : F) : Prop where
  wf : WFbs L n s bs'
  occB : ∀ j, occB L bs' j = occB L bs j + ind (j = j0)
  cnt : ∀ j g, g ≠ emp → cntB L bs' j g = cntB L bs j g + ind (j = j0 ∧ e = g)
  tcnt : ∀ g, g ≠ emp → tcnt L bs' g = tcnt L bs g + ind (e = g)
  tocc : tocc L bs' = tocc L bs + 1

theorem add_step (L : LawfulBucket o emp) (n s : Nat) (bs : List B) (j0 : Nat) (e : F)
    (h : WFbs L n s bs) (hj0 : j0 < n) (hf : o.isFree (bucketAt bs j0) = true) (he : e ≠ emp) :
    AddStep L n s bs (modAt bs j0 (fun b => o.add b e)) j0 e := by
  have hlen : j0 < bs.length := by rw [h.len]; exact hj0
  have hw := h.at j0 hj0
  have ho := modAt_measure (fun b => occ emp (L.slots b)) bs j0 (fun b => o.add b e) hlen
    False True (L.occ_add s _ e hw hf he)
  have hc := fun g hg => modAt_measure (fun b => (L.slots b).count g) bs j0 (fun b => o.add b e) hlen
    False _ (L.count_add s _ e g hw hf he hg)
  exact ⟨h.modAt j0 (fun b => o.add b e) (L.wfb_add s _ e hw hf he), by simpa [ind, Cuckoo.occB] using ho.1,
    fun j g hg => by simpa [ind, cntB] using (hc g hg).1 j,
    fun g hg => by simpa [Cuckoo.tcnt] using (hc g hg).2, by simpa [Cuckoo.tocc] using ho.2⟩

structure RemoveStep (L : LawfulBucket o emp) (n s : Nat) (bs bs' : List B) (j0 : Nat) (e : F) : Prop where
  wf : WFbs L n s bs'
  occB : ∀ j, occB L bs' j + ind (j = j0) = occB L bs j
  cnt : ∀ j g, g ≠ emp → cntB L bs' j g + ind (j = j0 ∧ e = g) = cntB L bs j g
  tcnt : ∀ g, g ≠ emp → tcnt L bs' g + ind (e = g) = tcnt L bs g
  tocc : tocc L bs' + 1 = tocc L bs

theorem remove_step (L : LawfulBucket o emp) (n s : Nat) (bs : List B) (j0 : Nat) (e : F)
    (h : WFbs L n s bs) (hj0 : j0 < n) (he : e ≠ emp) (hm : e ∈ L.slots (bucketAt bs j0)) :
    RemoveStep L n s bs (modAt bs j0 (fun b => o.remove b e)) j0 e := by
  have hlen : j0 < bs.length := by rw [h.len]; exact hj0
  have hw := h.at j0 hj0
  have ho := modAt_measure (fun b => occ emp (L.slots b)) bs j0 (fun b => o.remove b e) hlen
    True False (L.occ_remove s _ e hw he hm)
  have hc := fun g hg => modAt_measure (fun b => (L.slots b).count g) bs j0 (fun b => o.remove b e)
    hlen _ False (L.count_remove s _ e g hw he hm hg)
  exact ⟨h.modAt j0 (fun b => o.remove b e) (L.wfb_remove s _ e hw he hm), by simpa [ind, Cuckoo.occB] using ho.1,
    fun j g hg => by simpa [ind, cntB] using (hc g hg).1 j,
    fun g hg => by simpa [Cuckoo.tcnt] using (hc g hg).2, by simpa [Cuckoo.tocc] using ho.2⟩

end
end Gostatix.Cuckoo
