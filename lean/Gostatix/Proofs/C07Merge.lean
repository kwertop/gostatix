/-
  Gostatix.Proofs.C07Merge — helper definitions and lemmas for Props/C07Merge.lean (calls that
  consist of TWO critical sections: `Merge` of count_min_sketch.go / hyperloglog.go).  Core Lean
  only.  The idea: simulate the two-phase run by a serial run whose state already has the pending
  copies applied (`applyAll (p.filterMap loc) s`); `WT` is the trace invariant that makes the list
  `p` of threads between their two sections well defined.  A thread is a list of operations
  `upd a | merge`; an update is one critical section, a merge is the two sections `snap ; app`.
-/
import Gostatix.Proofs.Conc
namespace Gostatix.Conc

universe u v w
variable {σ : Type u} {ν : Type v} {α : Type w}

inductive Op (α : Type w) where
  | upd (a : α)
  | merge
  deriving Repr, DecidableEq

inductive Sec (α : Type w) where
  | upd (a : α)
  | snap
  | app
  deriving Repr, DecidableEq

def Op.secs {α : Type w} : Op α → List (Sec α)
  | .upd a => [.upd a]
  | .merge => [.snap, .app]

def secsOf {α : Type w} (ops : List (Op α)) : List (Sec α) := ops.flatMap Op.secs

@[simp] theorem secsOf_nil {α : Type w} : secsOf ([] : List (Op α)) = [] := rfl
@[simp] theorem secsOf_upd {α : Type w} (a : α) (o : List (Op α)) :
    secsOf (.upd a :: o) = .upd a :: secsOf o := rfl
@[simp] theorem secsOf_merge {α : Type w} (o : List (Op α)) :
    secsOf (.merge :: o) = .snap :: .app :: secsOf o := rfl

structure TwoPhase (σ : Type u) (ν : Type v) (α : Type w) where
  f : σ → α → σ
  /-- what the snapshot section copies out of the state -/
  snap : σ → ν
  /-- what the apply section does with the copy -/
  ap : ν → σ → σ

/-- the thread-locals: `loc t` is the copy thread `t` holds (Go: the local `other`) -/
abbrev Loc (ν : Type v) := Nat → Option ν

def setLoc {ν : Type v} (l : Loc ν) (t : Nat) (v : ν) : Loc ν := fun u => if u = t then some v else l u

variable (M : TwoPhase σ ν α)

def TwoPhase.applyLoc (o : Option ν) (s : σ) : σ :=
  match o with
  | some v => M.ap v s
  | none => s

def TwoPhase.stepC (r : σ × Loc ν) (e : Nat × Sec α) : σ × Loc ν :=
  match e with
  | (_, .upd a) => (M.f r.1 a, r.2)
  | (t, .snap) => (r.1, setLoc r.2 t (M.snap r.1))
  | (t, .app) => (M.applyLoc (r.2 t) r.1, r.2)

/-- atomic semantics: the whole merge happens at its snapshot section -/
def TwoPhase.stepA (s : σ) (e : Nat × Sec α) : σ :=
  match e with
  | (_, .upd a) => M.f s a
  | (_, .snap) => M.ap (M.snap s) s
  | (_, .app) => s

def TwoPhase.OtherCommute (ops : Nat → List (Op α)) : Prop :=
  ∀ m t a, m ≠ t → Op.merge ∈ ops m → Op.upd a ∈ ops t →
    ∀ v s, M.ap v (M.f s a) = M.f (M.ap v s) a

section wt
variable {ops : Nat → List (Op α)} {p : List Nat} {tr : List (Nat × Sec α)}

def projT (tr : List (Nat × Sec α)) (t : Nat) : List (Sec α) :=
  (tr.filter (fun e => e.1 == t)).map (·.2)

theorem projT_cons_self (t : Nat) (k : Sec α) (tr : List (Nat × Sec α)) :
    projT ((t, k) :: tr) t = k :: projT tr t := by
  simp [projT]

theorem projT_cons_ne {t t' : Nat} (h : t' ≠ t) (k : Sec α) (tr : List (Nat × Sec α)) :
    projT ((t', k) :: tr) t = projT tr t := by
  simp [projT, h]

/-- `WT ops p tr`: `tr` is a well-formed rest of a trace of the threads `ops` when exactly the
    threads in `p` (in the order of their snapshot sections) are between the snapshot and the
    apply section of a merge; updates and merges are operations of the thread that runs them. -/
inductive WT (ops : Nat → List (Op α)) : List Nat → List (Nat × Sec α) → Prop
  | nil : WT ops [] []
  | upd {p t a tr} : Op.upd a ∈ ops t → t ∉ p → WT ops p tr → WT ops p ((t, .upd a) :: tr)
  | snap {p t tr} : Op.merge ∈ ops t → t ∉ p → WT ops (p ++ [t]) tr → WT ops p ((t, .snap) :: tr)
  | app {p₁ p₂ t tr} : t ∉ p₁ ++ p₂ → WT ops (p₁ ++ p₂) tr →
      WT ops (p₁ ++ t :: p₂) ((t, .app) :: tr)

/-- program order gives well-formedness: every thread's projection is the rest of a program -/
theorem WT.of_proj (tr : List (Nat × Sec α)) :
    ∀ p : List Nat, p.Nodup →
      (∀ t, ∃ o : List (Op α), o ⊆ ops t ∧
        projT tr t = (if t ∈ p then [Sec.app] else []) ++ secsOf o) →
      WT ops p tr := by
  induction tr with
  | nil =>
    intro p _ h
    cases p with
    | nil => exact .nil
    | cons t p =>
      obtain ⟨o, _, ho⟩ := h t
      rw [if_pos List.mem_cons_self] at ho
      cases ho
  | cons e tr ih =>
    intro p hnd h
    obtain ⟨t0, k⟩ := e
    -- the other threads keep their projection; `t0` goes on with the rest `o'` of its program
    have rest : ∀ (p' : List Nat) (o' : List (Op α)), p'.Nodup → (∀ t, t ≠ t0 → (t ∈ p' ↔ t ∈ p)) →
        o' ⊆ ops t0 → projT tr t0 = (if t0 ∈ p' then [Sec.app] else []) ++ secsOf o' →
        WT ops p' tr := by
      intro p' o' hnd' hp' hs0 h0
      refine ih p' hnd' fun t => ?_
      by_cases e : t = t0
      · exact ⟨o', e ▸ hs0, e ▸ h0⟩
      · rw [← projT_cons_ne (Ne.symm e) k]; simpa only [hp' t e] using h t
    obtain ⟨o, hs, h0⟩ := h t0
    rw [projT_cons_self] at h0
    by_cases hm : t0 ∈ p
    · rw [if_pos hm] at h0
      obtain ⟨rfl, h1⟩ := List.cons.inj h0
      obtain ⟨p₁, p₂, rfl⟩ := List.append_of_mem hm
      obtain ⟨hnot, hnd'⟩ := List.nodup_cons.1 (List.perm_middle.nodup_iff.1 hnd)
      exact .app hnot (rest _ o hnd' (fun t e => by simp [e]) hs (by rw [if_neg hnot]; exact h1))
    · rw [if_neg hm] at h0
      match o, hs, h0 with
      | .upd a :: o', hs, h0 =>
        obtain ⟨rfl, h1⟩ := List.cons.inj h0
        obtain ⟨hx, hs'⟩ := List.cons_subset.1 hs
        exact .upd hx hm (rest p o' hnd (fun _ _ => .rfl) hs' (by rw [if_neg hm]; exact h1))
      | .merge :: o', hs, h0 =>
        obtain ⟨rfl, h1⟩ := List.cons.inj h0
        obtain ⟨hx, hs'⟩ := List.cons_subset.1 hs
        have hnd' : (p ++ [t0]).Nodup :=
          List.perm_append_comm.nodup_iff.1 (List.nodup_cons.2 ⟨hm, hnd⟩)
        exact .snap hx hm (rest _ o' hnd' (fun t e => by simp [e]) hs' (by
          rw [if_pos (List.mem_append_right _ List.mem_cons_self)]; exact h1))

theorem WT.of_projT (h : ∀ t, projT tr t = secsOf (ops t)) : WT ops [] tr :=
  WT.of_proj tr [] .nil fun t => ⟨ops t, List.Subset.refl _, h t⟩

/-- no snapshot section is entered while some merge is between its two sections (`b`: some merge
    is between its sections now) -/
def noOverlapFrom {α : Type w} : Bool → List (Nat × Sec α) → Bool
  | _, [] => true
  | b, (_, .upd _) :: tr => noOverlapFrom b tr
  | b, (_, .snap) :: tr => !b && noOverlapFrom true tr
  | _, (_, .app) :: tr => noOverlapFrom false tr

theorem noOverlap_of_single_merger (h : WT ops p tr) (m : Nat) (hs : ∀ t, Op.merge ∈ ops t → t = m) :
    (∀ t ∈ p, t = m) → noOverlapFrom (!p.isEmpty) tr = true := by
  induction h with
  | nil => intro _; rfl
  | upd _ _ _ ih => exact ih
  | @snap p t tr hmer ht _ ih =>
    intro hm
    have htm : t = m := hs t hmer
    have hp : p = [] := List.eq_nil_iff_forall_not_mem.2 fun u hu => ht (htm ▸ hm u hu ▸ hu)
    subst hp
    exact ih fun u hu => (List.mem_singleton.1 hu).trans htm
  | @app p₁ p₂ t tr ht _ ih =>
    intro hm
    have hall : ∀ u ∈ p₁ ++ p₂, u = m := fun u hu =>
      hm u (List.perm_middle.mem_iff.2 (List.mem_cons_of_mem _ hu))
    have hp : p₁ ++ p₂ = [] := List.eq_nil_iff_forall_not_mem.2 fun u hu =>
      ht (hm t (by simp) ▸ hall u hu ▸ hu)
    have := ih hall
    rwa [hp] at this

end wt

/-! ### the pending copies: the threads `p` between their two sections hold the copies
  `p.filterMap loc` (a thread that holds none applies nothing) -/

section pending
variable {ops : Nat → List (Op α)} {p p₁ p₂ : List Nat} {t : Nat} {tr : List (Nat × Sec α)}
  {loc : Loc ν}

def TwoPhase.applyAll (l : List ν) (s : σ) : σ := l.foldl (fun s v => M.ap v s) s

theorem TwoPhase.applyAll_perm (haa : ∀ v v' s, M.ap v (M.ap v' s) = M.ap v' (M.ap v s))
    {l₁ l₂ : List ν} (p : l₁.Perm l₂) (s : σ) : M.applyAll l₁ s = M.applyAll l₂ s :=
  foldl_perm_of_commute (f := fun s v => M.ap v s) (fun s a b => haa b a s) p s

theorem TwoPhase.applyAll_pending_cons (q : List Nat) (s : σ) :
    M.applyAll ((t :: q).filterMap loc) s = M.applyAll (q.filterMap loc) (M.applyLoc (loc t) s) := by
  rw [List.filterMap_cons]
  cases loc t <;> rfl

theorem TwoPhase.applyAll_pending_snap (ht : t ∉ p) (v : ν) (s : σ) :
    M.applyAll ((p ++ [t]).filterMap (setLoc loc t v)) s = M.ap v (M.applyAll (p.filterMap loc) s) := by
  induction p generalizing s with
  | nil => simp [setLoc, applyAll]
  | cons u p ih =>
    rw [List.cons_append, List.filterMap_cons, List.filterMap_cons, setLoc,
      if_neg fun (e : u = t) => ht (e ▸ List.mem_cons_self)]
    cases loc u with
    | none => exact ih (mt (List.mem_cons_of_mem _) ht) s
    | some w => exact ih (mt (List.mem_cons_of_mem _) ht) (M.ap w s)

variable {M}

/-- a pending thread `m` is a merging thread other than `t`, so `ap v` commutes with the update
    for every `v` -/
theorem TwoPhase.OtherCommute.applyAll_upd {a : α} (hc : M.OtherCommute ops)
    (hp : ∀ m ∈ p, Op.merge ∈ ops m) (ht : t ∉ p) (hu : Op.upd a ∈ ops t) (s : σ) :
    M.applyAll (p.filterMap loc) (M.f s a) = M.f (M.applyAll (p.filterMap loc) s) a := by
  cases p with
  | nil => rfl
  | cons m q =>
    exact List.foldl_hom (M.f · a) fun x v =>
      hc m t a (fun (e : m = t) => ht (e ▸ List.mem_cons_self)) (hp m List.mem_cons_self) hu v x

variable (M)

/-- without overlap at most one copy is pending; the atomic run has it applied already -/
theorem exec_stepC_eq_stepA_aux (hc : M.OtherCommute ops) (h : WT ops p tr) :
    ∀ (s : σ) (loc : Loc ν), (∀ m ∈ p, Op.merge ∈ ops m) → p.length ≤ 1 →
      noOverlapFrom (!p.isEmpty) tr = true →
      (exec M.stepC (s, loc) tr).1 = exec M.stepA (M.applyAll (p.filterMap loc) s) tr := by
  induction h with
  | nil => intros; rfl
  | @upd p t a tr hu ht hwt ih =>
    intro s loc hp hlen hno
    show (exec M.stepC (M.f s a, loc) tr).1 = exec M.stepA (M.f (M.applyAll _ s) a) tr
    rw [← hc.applyAll_upd hp ht hu]
    exact ih _ loc hp hlen hno
  | @snap p t tr hmer ht hwt ih =>
    intro s loc _ _ hno
    cases p with
    | cons => cases hno
    | nil =>
      refine (ih s _ (fun m hm => List.mem_singleton.1 hm ▸ hmer) (Nat.le_refl 1) hno).trans ?_
      rw [M.applyAll_pending_snap ht]
      rfl
  | @app p₁ p₂ t tr ht hwt ih =>
    intro s loc _ hlen hno
    rw [List.length_append, List.length_cons] at hlen
    obtain rfl := List.eq_nil_of_length_eq_zero (by omega : p₁.length = 0)
    obtain rfl := List.eq_nil_of_length_eq_zero (by omega : p₂.length = 0)
    show (exec M.stepC (M.applyLoc (loc t) s, loc) tr).1
      = exec M.stepA (M.applyAll ([t].filterMap loc) s) tr
    rw [M.applyAll_pending_cons]
    exact ih _ loc (fun _ h => nomatch h) (Nat.zero_le 1) hno

def TwoPhase.stepL (s : σ) : α ⊕ ν → σ
  | .inl a => M.f s a
  | .inr v => M.ap v s

/-- the linearised history of a two-phase run from `r`: updates stay where they are, a snapshot
    section becomes "apply the value recorded here" (the value the state has in THIS run at that
    point), apply sections disappear -/
def TwoPhase.linHist : σ × Loc ν → List (Nat × Sec α) → List (α ⊕ ν)
  | _, [] => []
  | r, (t, .upd a) :: tr => .inl a :: TwoPhase.linHist (M.stepC r (t, .upd a)) tr
  | r, (t, .snap) :: tr => .inr (M.snap r.1) :: TwoPhase.linHist (M.stepC r (t, .snap)) tr
  | r, (t, .app) :: tr => TwoPhase.linHist (M.stepC r (t, .app)) tr

/-- the serial run has the pending copies applied already: each was applied at its snapshot -/
theorem exec_stepC_eq_lin_aux (haa : ∀ v v' s, M.ap v (M.ap v' s) = M.ap v' (M.ap v s))
    (hc : M.OtherCommute ops) (h : WT ops p tr) :
    ∀ (s : σ) (loc : Loc ν), (∀ m ∈ p, Op.merge ∈ ops m) →
      (exec M.stepC (s, loc) tr).1
        = exec M.stepL (M.applyAll (p.filterMap loc) s) (M.linHist (s, loc) tr) := by
  induction h with
  | nil => intros; rfl
  | @upd p t a tr hu ht hwt ih =>
    intro s loc hp
    show (exec M.stepC (M.f s a, loc) tr).1
      = exec M.stepL (M.f (M.applyAll _ s) a) (M.linHist (M.f s a, loc) tr)
    rw [← hc.applyAll_upd hp ht hu]
    exact ih _ loc hp
  | @snap p t tr hmer ht hwt ih =>
    intro s loc hp
    show (exec M.stepC (s, setLoc loc t (M.snap s)) tr).1
      = exec M.stepL (M.ap (M.snap s) (M.applyAll (p.filterMap loc) s))
          (M.linHist (s, setLoc loc t (M.snap s)) tr)
    rw [← M.applyAll_pending_snap ht]
    exact ih s _ fun m hm =>
      (List.mem_append.1 hm).elim (hp m) fun h => List.mem_singleton.1 h ▸ hmer
  | @app p₁ p₂ t tr ht hwt ih =>
    intro s loc hp
    show (exec M.stepC (M.applyLoc (loc t) s, loc) tr).1
      = exec M.stepL (M.applyAll ((p₁ ++ t :: p₂).filterMap loc) s)
          (M.linHist (M.applyLoc (loc t) s, loc) tr)
    rw [M.applyAll_perm haa (List.perm_middle.filterMap loc), M.applyAll_pending_cons]
    exact ih _ loc fun m hm => hp m (List.perm_middle.mem_iff.2 (List.mem_cons_of_mem _ hm))

end pending

section progorder
variable {tr : List (Nat × Sec α)} {ops : Nat → List (Op α)}
  (hproj : ∀ t, projT tr t = secsOf (ops t))
include hproj

theorem noOverlap_of_single_merger_projT (m : Nat) (hm : ∀ t, t ≠ m → Op.merge ∉ ops t) :
    noOverlapFrom false tr = true :=
  noOverlap_of_single_merger (WT.of_projT hproj) m
    (fun t h => Decidable.byContradiction fun e => hm t e h) (fun _ h => nomatch h)

/-- **non-overlapping two-phase merges are atomic at their snapshot section.** -/
theorem exec_stepC_eq_stepA (hno : noOverlapFrom false tr = true) (hc : M.OtherCommute ops)
    (s : σ) (loc : Loc ν) : (exec M.stepC (s, loc) tr).1 = exec M.stepA s tr :=
  exec_stepC_eq_stepA_aux M hc (WT.of_projT hproj) s loc (fun _ h => nomatch h) (Nat.zero_le 1) hno

/-- **every schedule** (overlapping merges allowed): each merge sits at its snapshot section and
    applies the value it recorded there. -/
theorem exec_stepC_eq_lin (haa : ∀ v v' s, M.ap v (M.ap v' s) = M.ap v' (M.ap v s))
    (hc : M.OtherCommute ops) (s : σ) (loc : Loc ν) :
    (exec M.stepC (s, loc) tr).1 = exec M.stepL s (M.linHist (s, loc) tr) :=
  exec_stepC_eq_lin_aux M haa hc (WT.of_projT hproj) s loc (fun _ h => nomatch h)

end progorder

/-! ### the connection with the mutex model of `Model/Conc.lean` (`acq ; body ; rel` per section) -/

section actlevel

/-- the body of a critical section of thread `t` in the two-phase semantics, as a call body of the
    mutex model: the guarded state is the structure's state together with the thread-locals; the
    result of a snapshot section is the value it recorded -/
def TwoPhase.bodyC (t : Nat) : Sec α → (σ × Loc ν → (σ × Loc ν) × Option ν)
  | .upd a => fun r => ((M.f r.1 a, r.2), none)
  | .snap => fun r => ((r.1, setLoc r.2 t (M.snap r.1)), some (M.snap r.1))
  | .app => fun r => ((M.applyLoc (r.2 t) r.1, r.2), none)

def TwoPhase.bodyA : Sec α → (σ → σ × Option ν)
  | .upd a => fun s => (M.f s a, none)
  | .snap => fun s => (M.ap (M.snap s) s, some (M.snap s))
  | .app => fun s => (s, none)

theorem TwoPhase.bodyC_fst (t : Nat) (k : Sec α) (r : σ × Loc ν) :
    (M.bodyC t k r).1 = M.stepC r (t, k) := by cases k <;> rfl

theorem TwoPhase.bodyA_fst (t : Nat) (k : Sec α) (s : σ) :
    (M.bodyA k s).1 = M.stepA s (t, k) := by cases k <;> rfl

def TwoPhase.threadsC (ops : List (List (Op α))) : List (List (σ × Loc ν → (σ × Loc ν) × Option ν)) :=
  ops.mapIdx (fun t o => (secsOf o).map (M.bodyC t))

/-- the same threads with atomic merges (same call ids: the apply section is a no-op call) -/
def TwoPhase.threadsA (ops : List (List (Op α))) : List (List (σ → σ × Option ν)) :=
  ops.map (fun o => (secsOf o).map M.bodyA)

def secAt (ops : List (List (Op α))) (c : CallId) : Option (Sec α) :=
  (secsOf ((ops[c.1]?).getD []))[c.2]?

def traceOf (ops : List (List (Op α))) (order : List CallId) : List (Nat × Sec α) :=
  order.filterMap (fun c => (secAt ops c).map (fun k => (c.1, k)))

variable (ops : List (List (Op α))) (order : List CallId)

theorem bodyAt_threadsC (c : CallId) :
    bodyAt (M.threadsC ops) c = (secAt ops c).map (M.bodyC c.1) := by
  rw [bodyAt, TwoPhase.threadsC, List.getElem?_mapIdx, secAt]
  cases ops[c.1]? with
  | none => rfl
  | some o => exact List.getElem?_map ..

theorem bodyAt_threadsA (c : CallId) :
    bodyAt (M.threadsA ops) c = (secAt ops c).map M.bodyA := by
  rw [bodyAt, TwoPhase.threadsA, List.getElem?_map, secAt]
  cases ops[c.1]? with
  | none => rfl
  | some o => exact List.getElem?_map ..

theorem sched_threadsC :
    sched (M.threadsC ops) = progs (ops.map (fun o => (secsOf o).length)) := by
  unfold sched TwoPhase.threadsC
  congr 1
  apply List.ext_getElem?
  intro i
  simp only [List.getElem?_map, List.getElem?_mapIdx]
  cases ops[i]? <;> simp

theorem sched_threadsA :
    sched (M.threadsA ops) = progs (ops.map (fun o => (secsOf o).length)) := by
  simp [sched, TwoPhase.threadsA, Function.comp_def]

theorem exec_runCall_traceOf {σ' : Type u} {ρ : Type v} {threads : List (List (σ' → σ' × ρ))}
    {body : Nat → Sec α → σ' → σ' × ρ} {step : σ' → Nat × Sec α → σ'}
    (hb : ∀ c, bodyAt threads c = (secAt ops c).map (body c.1))
    (hs : ∀ t k r, (body t k r).1 = step r (t, k)) (r : σ' × List (CallId × ρ)) :
    (exec (runCall threads) r order).1 = exec step r.1 (traceOf ops order) := by
  unfold traceOf exec
  rw [List.foldl_filterMap]
  refine (List.foldl_hom Prod.fst fun x c => ?_).symm
  rw [runCall, hb]
  cases secAt ops c with
  | none => rfl
  | some k => exact (hs c.1 k x.1).symm

theorem projT_traceOf (t : Nat) :
    projT (traceOf ops order) t = (order.filter (fun c => c.1 == t)).filterMap (secAt ops) := by
  rw [projT, traceOf, List.filter_filterMap, List.map_filterMap, List.filterMap_filter]
  congr 1
  funext c
  cases secAt ops c with
  | none => exact (ite_self _).symm
  | some k =>
    show Option.map (·.2) (if (c.1 == t) = true then some (c.1, k) else none) = _
    split <;> rfl

end actlevel

def Sec.upd? {α : Type w} : Sec α → Option α
  | .upd a => some a
  | _ => none

def Sec.isSnap {α : Type w} : Sec α → Bool
  | .snap => true
  | _ => false

def Op.upd? {α : Type w} : Op α → Option α
  | .upd a => some a
  | .merge => none

def Op.isMerge {α : Type w} : Op α → Bool
  | .merge => true
  | .upd _ => false

section vals
variable (r : σ × Loc ν) (tr : List (Nat × Sec α))

def TwoPhase.snapVals : List ν := (M.linHist r tr).filterMap Sum.getRight?

theorem TwoPhase.snapVals_cons (t : Nat) (k : Sec α) :
    M.snapVals r ((t, k) :: tr) = (M.bodyC t k r).2.toList ++ M.snapVals (M.stepC r (t, k)) tr := by
  cases k <;> rfl

theorem TwoPhase.linHist_perm :
    (M.linHist r tr).Perm
      (((tr.map (·.2)).filterMap Sec.upd?).map .inl ++ (M.snapVals r tr).map .inr) := by
  induction tr generalizing r with
  | nil => exact .nil
  | cons e tr ih =>
    obtain ⟨t, k⟩ := e
    cases k with
    | upd a => exact (ih _).cons _
    | snap => exact ((ih _).cons _).trans List.perm_middle.symm
    | app => exact ih _

theorem TwoPhase.snapVals_length :
    (M.snapVals r tr).length = (tr.map (·.2)).countP Sec.isSnap := by
  induction tr generalizing r with
  | nil => rfl
  | cons e tr ih =>
    obtain ⟨t, k⟩ := e
    rw [List.map_cons, List.countP_cons, ← ih (M.stepC r (t, k))]
    cases k <;> rfl

/-- the recorded values are the results of the snapshot calls in the result log of the mutex
    model -/
theorem log_threadsC (ops : List (List (Op α))) (order : List CallId)
    (r : (σ × Loc ν) × List (CallId × Option ν)) :
    (exec (runCall (M.threadsC ops)) r order).2.filterMap (·.2)
      = r.2.filterMap (·.2) ++ M.snapVals r.1 (traceOf ops order) := by
  induction order generalizing r with
  | nil => exact (List.append_nil _).symm
  | cons c order ih =>
    show (exec (runCall (M.threadsC ops)) (runCall (M.threadsC ops) r c) order).2.filterMap (·.2) = _
    rw [ih, runCall, bodyAt_threadsC]
    unfold traceOf
    rw [List.filterMap_cons]
    cases secAt ops c with
    | none => rfl
    | some k =>
      show (r.2 ++ [(c, (M.bodyC c.1 k r.1).2)]).filterMap (·.2) ++ M.snapVals (M.bodyC c.1 k r.1).1 _
        = _ ++ M.snapVals r.1 ((c.1, k) :: _)
      rw [M.snapVals_cons, M.bodyC_fst, List.filterMap_append, List.append_assoc]
      cases (M.bodyC c.1 k r.1).2 <;> rfl

end vals

section allsecs

theorem secsOf_append (a b : List (Op α)) : secsOf (a ++ b) = secsOf a ++ secsOf b :=
  List.flatMap_append

theorem secsOf_filterMap_upd? (o : List (Op α)) :
    (secsOf o).filterMap Sec.upd? = o.filterMap Op.upd? := by
  induction o with
  | nil => rfl
  | cons x o ih =>
    cases x with
    | upd a => exact congrArg (a :: ·) ih
    | merge => exact ih

theorem secsOf_countP_isSnap (o : List (Op α)) :
    (secsOf o).countP Sec.isSnap = o.countP Op.isMerge := by
  induction o with
  | nil => rfl
  | cons x o ih =>
    cases x with
    | upd a => rw [secsOf_upd, List.countP_cons, List.countP_cons, ih]; rfl
    | merge => rw [secsOf_merge, List.countP_cons, List.countP_cons, List.countP_cons, ih]; rfl

theorem filterMap_secAt_callIdsFrom (pre ths : List (List (Op α))) :
    (callIdsFrom pre.length (ths.map (fun o => (secsOf o).length))).filterMap (secAt (pre ++ ths))
      = secsOf ths.flatten := by
  induction ths generalizing pre with
  | nil => rfl
  | cons o ths ih =>
    have := ih (pre ++ [o])
    rw [List.length_append, List.length_singleton, List.append_assoc, List.singleton_append] at this
    rw [List.map_cons, callIdsFrom, List.filterMap_append, this, List.flatten_cons, secsOf_append,
      List.filterMap_map]
    congr 1
    have h : (secAt (pre ++ o :: ths) ∘ fun i => (pre.length, i)) = fun i => (secsOf o)[i]? := by
      funext i
      simp [secAt]
    rw [h, filterMap_getElem?_range]

variable (ops : List (List (Op α)))

theorem map_snd_traceOf (order : List CallId) :
    (traceOf ops order).map (·.2) = order.filterMap (secAt ops) := by
  rw [traceOf, List.map_filterMap]
  congr 1
  funext c
  cases secAt ops c <;> rfl

theorem secs_acqOrder_perm (wa : List Act)
    (hi : Interleaving (progs (ops.map (fun o => (secsOf o).length))) wa) (hv : validMutex wa) :
    ((traceOf ops (acqOrder wa)).map (·.2)).Perm (secsOf ops.flatten) := by
  rw [map_snd_traceOf, ← filterMap_secAt_callIdsFrom [] ops]
  exact (acqOrder_perm_allCalls hi hv).filterMap _

def taggedSecs {α : Type w} (ops : List (List (Op α))) : List (List (Nat × Sec α)) :=
  ops.mapIdx (fun t o => (secsOf o).map (fun k => (t, k)))

theorem projT_of_interleaving (tr : List (Nat × Sec α))
    (hi : Interleaving (taggedSecs ops) tr) (t : Nat) :
    projT tr t = secsOf ((ops[t]?).getD []) := by
  have htag : ∀ (i : Nat) (l : List (Nat × Sec α)), (taggedSecs ops)[i]? = some l →
      ∀ a ∈ l, (fun e : Nat × Sec α => e.1) a = i := by
    intro i l hl a ha
    rw [taggedSecs, List.getElem?_mapIdx] at hl
    obtain ⟨o, _, rfl⟩ := Option.map_eq_some_iff.1 hl
    obtain ⟨k, _, rfl⟩ := List.mem_map.1 ha
    rfl
  rw [projT, hi.filter_tag (fun e => e.1) htag t, taggedSecs, List.getElem?_mapIdx]
  cases ops[t]? with
  | none => rfl
  | some o => exact (List.map_map ..).trans (List.map_id _)

end allsecs

/-! ### merge from ANOTHER instance: `h.Merge(g)`, two instances, two mutexes -/

section cross
variable {σg σh : Type u} {ν : Type v} {αg αh : Type w}

/-- the pair (g, h) as one two-phase system: updates of `g` (`inl`) and of `h` (`inr`); the
    snapshot section reads `g` (under g's mutex), the apply section writes `h` (under h's mutex) -/
def crossTP (G : σg → αg → σg) (H : σh → αh → σh) (snap : σg → ν) (ap : ν → σh → σh) :
    TwoPhase (σg × σh) ν (αg ⊕ αh) where
  f s a := match a with
    | .inl a => (G s.1 a, s.2)
    | .inr b => (s.1, H s.2 b)
  snap s := snap s.1
  ap v s := (s.1, ap v s.2)

def hStepL (H : σh → αh → σh) (ap : ν → σh → σh) (s : σh) : αh ⊕ ν → σh
  | .inl b => H s b
  | .inr v => ap v s

theorem TwoPhase.hStepL_eq (M : TwoPhase σ ν α) : hStepL M.f M.ap = M.stepL := by
  funext s x; cases x <;> rfl

/-- h's serial history read off a trace: h's updates where they are, and at every snapshot
    section the value `g` has at that point (`g` = initial value + g's updates so far) -/
def hHist (G : σg → αg → σg) (snap : σg → ν) : σg → List (Nat × Sec (αg ⊕ αh)) → List (αh ⊕ ν)
  | _, [] => []
  | g, (_, .upd (.inl a)) :: tr => hHist G snap (G g a) tr
  | g, (_, .upd (.inr b)) :: tr => .inl b :: hHist G snap g tr
  | g, (_, .snap) :: tr => .inr (snap g) :: hHist G snap g tr
  | g, (_, .app) :: tr => hHist G snap g tr

def gUpds : List (Nat × Sec (αg ⊕ αh)) → List αg
  | [] => []
  | (_, .upd (.inl a)) :: tr => a :: gUpds tr
  | _ :: tr => gUpds tr

def hUpds : List (Nat × Sec (αg ⊕ αh)) → List αh
  | [] => []
  | (_, .upd (.inl _)) :: tr => hUpds tr
  | (_, .upd (.inr b)) :: tr => b :: hUpds tr
  | (_, .snap) :: tr => hUpds tr
  | (_, .app) :: tr => hUpds tr

def gSnaps (G : σg → αg → σg) (snap : σg → ν) : σg → List (Nat × Sec (αg ⊕ αh)) → List ν
  | _, [] => []
  | g, (_, .upd (.inl a)) :: tr => gSnaps G snap (G g a) tr
  | g, (_, .upd (.inr _)) :: tr => gSnaps G snap g tr
  | g, (_, .snap) :: tr => snap g :: gSnaps G snap g tr
  | g, (_, .app) :: tr => gSnaps G snap g tr

variable (G : σg → αg → σg) (H : σh → αh → σh) (snap : σg → ν) (ap : ν → σh → σh)
  (tr : List (Nat × Sec (αg ⊕ αh)))

theorem crossTP_applyLoc_fst (o : Option ν) (s : σg × σh) :
    ((crossTP G H snap ap).applyLoc o s).1 = s.1 := by
  cases o <;> rfl

theorem crossTP_stepA_h (s : σg × σh) :
    (exec (crossTP G H snap ap).stepA s tr).2 = exec (hStepL H ap) s.2 (hHist G snap s.1 tr) := by
  induction tr generalizing s with
  | nil => rfl
  | cons e tr ih =>
    obtain ⟨t, k⟩ := e
    cases k with
    | upd a => cases a <;> exact ih _
    | snap => exact ih _
    | app => exact ih _

theorem crossTP_lin_h (r : (σg × σh) × Loc ν) (s : σg × σh) :
    (exec (crossTP G H snap ap).stepL s ((crossTP G H snap ap).linHist r tr)).2
      = exec (hStepL H ap) s.2 (hHist G snap r.1.1 tr) := by
  induction tr generalizing r s with
  | nil => rfl
  | cons e tr ih =>
    obtain ⟨t, k⟩ := e
    cases k with
    | upd a => cases a <;> exact ih _ _
    | snap => exact ih _ _
    | app =>
      exact (ih _ s).trans (congrArg (fun g => exec (hStepL H ap) s.2 (hHist G snap g tr))
        (crossTP_applyLoc_fst ..))

theorem hHist_perm (g : σg) :
    (hHist G snap g tr).Perm ((hUpds tr).map .inl ++ (gSnaps G snap g tr).map .inr) := by
  induction tr generalizing g with
  | nil => exact .nil
  | cons e tr ih =>
    obtain ⟨t, k⟩ := e
    cases k with
    | upd a =>
      cases a with
      | inl a => exact ih _
      | inr b => exact (ih _).cons _
    | snap => exact ((ih _).cons _).trans List.perm_middle.symm
    | app => exact ih _

end cross

end Gostatix.Conc
