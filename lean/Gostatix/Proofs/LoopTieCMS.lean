/-
  Proofs/LoopTieCMS — helpers of Props/LoopTieCMS.lean: the loop rule of `GoLoop.forN` (an
  invariant indexed by the iteration number), its instance `forN_sweep` for a loop that overwrites
  entry `i` of a slice in iteration `i` (the result is `List.mapIdx`), and one lemma per generated
  loop definition of Generated/Loops.lean.

  The loop bodies are never spelled out here: every proof applies the loop rule (for the sweeps:
  `forN_sweep`, once per nesting level) and evaluates ONE iteration of whatever the extractor
  emitted by `simp only` with the bounds facts.  So a different loop bound, a skipped row, a wrong
  index variable break the step; a renamed variable or another spelling of the same loop does not.
-/
import Gostatix.Generated.Loops
import Gostatix.Proofs.Rows

namespace Gostatix.LoopTie
open Gostatix GoLoop

theorem forN_zero {σ} (init : σ) (body : Nat → σ → Option σ) : forN 0 init body = some init := rfl

theorem forN_succ {σ} (n : Nat) (init : σ) (body : Nat → σ → Option σ) :
    forN (n + 1) init body = (forN n init body).bind (body n) := by
  simp [forN, List.range_succ, List.foldl_append]

/-- the loop rule: an invariant that holds before the loop and is kept by every iteration that
    does not panic holds after the loop, and the loop does not panic. -/
theorem forN_inv {σ} (n : Nat) (init : σ) (body : Nat → σ → Option σ) (inv : Nat → σ → Prop)
    (h0 : inv 0 init)
    (hs : ∀ i s, i < n → inv i s → ∃ s', body i s = some s' ∧ inv (i + 1) s') :
    ∃ s, forN n init body = some s ∧ inv n s := by
  induction n with
  | zero => exact ⟨init, forN_zero init body, h0⟩
  | succ n ih =>
    obtain ⟨s, hs1, hs2⟩ := ih (fun i s hi h => hs i s (by omega) h)
    obtain ⟨s', hb, hi⟩ := hs n s (by omega) hs2
    exact ⟨s', by rw [forN_succ, hs1]; exact hb, hi⟩

theorem forN_eq_of_inv {σ} {n : Nat} {init : σ} {body : Nat → σ → Option σ} (inv : Nat → σ → Prop)
    (r : σ) (h0 : inv 0 init)
    (hs : ∀ i s, i < n → inv i s → ∃ s', body i s = some s' ∧ inv (i + 1) s')
    (hfin : ∀ s, inv n s → s = r) : forN n init body = some r := by
  obtain ⟨s, h1, h2⟩ := forN_inv n init body inv h0 hs
  rw [h1, hfin s h2]

theorem getElem?_set_step {α} (l l0 : List α) (g : Nat → Option α) (i j : Nat) (v : α) (hi : i < l.length)
    (hget : ∀ j, l[j]? = if j < i then g j else l0[j]?) (hv : g i = some v) :
    (l.set i v)[j]? = if j < i + 1 then g j else l0[j]? := by
  rw [List.getElem?_set]
  by_cases hji : i = j
  · subst hji; rw [if_pos rfl, if_pos hi, if_pos (Nat.lt_succ_self i), hv]
  · rw [if_neg hji, hget j]
    by_cases h : j < i
    · rw [if_pos h, if_pos (Nat.lt_succ_of_lt h)]
    · rw [if_neg h, if_neg (by omega)]

/-- the shape of all the sweeping loops here: iteration `i` overwrites entry `i` of a slice held
    in the state (`put l` is the state whose slice is `l`) with `g i` of its ORIGINAL value, the
    entries from `i` on being still untouched.  Such a loop over all indices does not panic and
    leaves `mapIdx g` of the original slice. -/
theorem forN_sweep {σ α} (put : List α → σ) (l0 : List α) (g : Nat → α → α)
    (body : Nat → σ → Option σ)
    (hbody : ∀ i (hi : i < l0.length) (l : List α) (hl : l.length = l0.length),
        l[i]'(hl ▸ hi) = l0[i] → body i (put l) = some (put (l.set i (g i l0[i])))) :
    forN l0.length (put l0) body = some (put (l0.mapIdx g)) := by
  refine forN_eq_of_inv (fun i s => ∃ l, s = put l ∧ l.length = l0.length ∧
      ∀ j, l[j]? = if j < i then (l0[j]?).map (g j) else l0[j]?) _
    ⟨l0, rfl, rfl, fun j => (if_neg (Nat.not_lt_zero j)).symm⟩ ?_ ?_
  · rintro i s hi ⟨l, rfl, hl, hget⟩
    have hli : l[i]'(hl ▸ hi) = l0[i] := by
      have h := hget i
      rw [if_neg (Nat.lt_irrefl i), List.getElem?_eq_getElem (hl ▸ hi),
        List.getElem?_eq_getElem hi] at h
      exact Option.some.inj h
    refine ⟨_, hbody i hi l hl hli, _, rfl, (List.length_set ..).trans hl, fun j => ?_⟩
    exact getElem?_set_step l l0 _ i j _ (hl ▸ hi) hget (by rw [List.getElem?_eq_getElem hi]; rfl)
  · rintro s ⟨l, rfl, hl, hget⟩
    congr 1
    apply List.ext_getElem?
    intro j
    rw [hget j, List.getElem?_mapIdx]
    split
    · rfl
    · rw [List.getElem?_eq_none (by omega)]; rfl

theorem mapIdx_eq_map_range {α β} (l : List α) (f : Nat → β) :
    l.mapIdx (fun i _ => f i) = (List.range l.length).map f := by
  apply List.ext_getElem?
  intro j
  rw [List.getElem?_mapIdx, List.getElem?_map]
  by_cases h : j < l.length
  · rw [List.getElem?_eq_getElem h, List.getElem?_range h]; rfl
  · rw [List.getElem?_eq_none (by omega), List.getElem?_eq_none (by rw [List.length_range]; omega)]
    rfl

theorem idx_of_lt {α} {l : List α} {i : Nat} (h : i < l.length) : idx l i = some l[i] :=
  List.getElem?_eq_getElem h

theorem idx_eq_none {α} {l : List α} {i : Nat} (h : l.length ≤ i) : idx l i = none :=
  List.getElem?_eq_none h

theorem set1_of_lt {α} {l : List α} {i : Nat} (v : α) (h : i < l.length) :
    set1 l i v = some (l.set i v) := if_pos h

theorem mod_of_ne {a b : UInt64} (h : b ≠ 0) : GoLoop.mod a b = some (a % b) := if_neg h

theorem toNat_ofNat_lt {i : Nat} (h : i < 2 ^ 64) : (UInt64.ofNat i).toNat = i :=
  UInt64.toNat_ofNat_of_lt' h

open Gostatix.Generated.Loops

/-- the position of row `c` as the Go statement computes it:
    `uint((hash1 + uint64(c)*hash2) % uint64(cms.columns))` (it is arith.go's kernel `cmsPosition`:
    Props/LoopTieCMSKernels.lean) -/
def posOf (h1 h2 cols : UInt64) (c : Nat) : UInt64 := (h1 + UInt64.ofNat c * h2) % cols

theorem getPositions_loop (cms : Sketch) (h1 h2 : UInt64) (ps : List UInt64)
    (hps : ps.length = cms.rows.toNat) (hc : cms.columns ≠ 0) :
    cmsGetPositions_loop1 cms ps h1 h2
      = some ((List.range ps.length).map (posOf h1 h2 cms.columns)) := by
  have hn : ps.length < 2 ^ 64 := hps ▸ cms.rows.toNat_lt
  rw [← mapIdx_eq_map_range]
  refine forN_sweep id ps _ _ fun i hi l hl _ => ?_
  simp only [mod_of_ne hc, toNat_ofNat_lt (Nat.lt_trans hi hn), set1_of_lt _ (hl ▸ hi),
    Option.bind_some, id, posOf]

theorem set_eq_modAt {α} (l : List α) (i : Nat) (f : α → α) (h : i < l.length) :
    l.set i (f l[i]) = modAt l i f := by
  induction l generalizing i with
  | nil => simp at h
  | cons a as ih =>
    cases i with
    | zero => simp [modAt]
    | succ i => simp [modAt, ih i (by simpa using h)]

theorem update_loop (cms : Sketch) (count : UInt64) (ps : List UInt64)
    (hlen : ps.length = cms.matrix.length) (hw : cms.matrix.length = cms.rows.toNat)
    (hpos : ∀ j (h : j < ps.length) (h' : j < cms.matrix.length), ps[j].toNat < (cms.matrix[j]).length) :
    cmsUpdate_loop1 cms count ps
      = some { cms with matrix := CMSM.updRowsM cms.matrix (ps.map UInt64.toNat) count } := by
  have hn : cms.matrix.length < 2 ^ 64 := hw ▸ cms.rows.toNat_lt
  rw [CMSM.updRowsM_eq, Rows.updWith_eq_mapIdx, cmsUpdate_loop1, hlen]
  refine forN_sweep (fun m => { cms with matrix := m }) cms.matrix _ _ fun i hi l hl hli => ?_
  have hip : i < ps.length := hlen ▸ hi
  have hc := hpos i hip hi
  simp only [idx_of_lt hip, toNat_ofNat_lt (Nat.lt_trans hi hn), idx_of_lt (hl ▸ hi), hli,
    idx_of_lt hc, set1_of_lt _ hc, set1_of_lt _ (hl ▸ hi), Option.bind_some]
  simp only [Rows.stepAt, List.getElem?_map, List.getElem?_eq_getElem hip, Option.map_some,
    ← set_eq_modAt _ _ _ hc, CMSM.cellUpdate]

theorem minInitM_snoc (l : List UInt64) (x : UInt64) (hl : l ≠ []) :
    CMSM.minInitM (l ++ [x]) = if x < CMSM.minInitM l then x else CMSM.minInitM l := by
  obtain ⟨v, vs, rfl⟩ := List.exists_cons_of_ne_nil hl
  show List.foldl _ v (vs ++ [x]) = if x < List.foldl _ v vs then x else List.foldl _ v vs
  rw [List.foldl_append]
  rfl

theorem count_loop (cms : Sketch) (ps : List UInt64)
    (hlen : ps.length = cms.matrix.length) (hw : cms.matrix.length = cms.rows.toNat)
    (hpos : ∀ j (h : j < ps.length) (h' : j < cms.matrix.length), ps[j].toNat < (cms.matrix[j]).length) :
    cmsCount_loop1 cms 0 ps = some (CMSM.minInitM (CMSM.cellsM cms.matrix (ps.map UInt64.toNat))) := by
  have hn : ps.length < 2 ^ 64 := hlen ▸ hw ▸ cms.rows.toNat_lt
  rw [CMSM.cellsM_eq, Rows.probe_eq_zipWith]
  generalize hcells : List.zipWith (fun row p => row.getD p 0) cms.matrix (ps.map UInt64.toNat) = cells
  have hcl : cells.length = ps.length := by
    rw [← hcells, List.length_zipWith, List.length_map, hlen, Nat.min_self]
  have hcell : ∀ i (hi : i < ps.length), cells[i]'(hcl ▸ hi) = cms.matrix[i][ps[i].toNat]'(hpos i hi (hlen ▸ hi)) := by
    intro i hi
    subst hcells
    rw [List.getElem_zipWith, List.getElem_map, List.getD_eq_getElem?_getD,
      List.getElem?_eq_getElem (hpos i hi (hlen ▸ hi)), Option.getD_some]
  refine forN_eq_of_inv (fun i mn => mn = CMSM.minInitM (cells.take i)) _ rfl ?_ ?_
  · rintro i mn hi rfl
    have him : i < cms.matrix.length := hlen ▸ hi
    have hc := hpos i hi him
    refine ⟨_, ?_, rfl⟩
    rw [List.take_succ_eq_append_getElem (hcl ▸ hi), hcell i hi]
    cases i with
    | zero =>
      simp only [idx_of_lt hi, show (UInt64.ofNat 0 == 0) = true from rfl, if_true,
        show (UInt64.ofNat 0).toNat = 0 from rfl, idx_of_lt him, idx_of_lt hc, Option.bind_some]
      rfl
    | succ k =>
      have hne : (UInt64.ofNat (k + 1) == 0) = false :=
        decide_eq_false fun h => by
          have := congrArg UInt64.toNat h
          rw [toNat_ofNat_lt (Nat.lt_trans hi hn)] at this
          exact Nat.succ_ne_zero k this
      rw [minInitM_snoc _ _ (List.ne_nil_of_length_pos (by rw [List.length_take, hcl]; omega))]
      simp only [idx_of_lt hi, hne, Bool.false_eq_true, if_false,
        toNat_ofNat_lt (Nat.lt_trans hi hn), idx_of_lt him, idx_of_lt hc, Option.bind_some,
        decide_eq_true_eq]
      split <;> rfl
  · rintro mn rfl
    rw [List.take_of_length_le (Nat.le_of_eq hcl)]

theorem merge_loop1 (cms1 : Sketch) (other : List (List UInt64))
    (hlen : other.length = cms1.matrix.length) (hw : cms1.matrix.length = cms1.rows.toNat) :
    cmsMerge_loop1 cms1 other = some cms1.matrix := by
  have hn : other.length < 2 ^ 64 := hlen ▸ hw ▸ cms1.rows.toNat_lt
  have hres : other.mapIdx (fun i _ => cms1.matrix.getD i []) = cms1.matrix := by
    apply List.ext_getElem?
    intro j
    rw [List.getElem?_mapIdx, List.getD_eq_getElem?_getD]
    by_cases h : j < other.length
    · rw [List.getElem?_eq_getElem h, List.getElem?_eq_getElem (hlen ▸ h)]; rfl
    · rw [List.getElem?_eq_none (by omega), List.getElem?_eq_none (by omega)]; rfl
  rw [cmsMerge_loop1, ← hlen]
  refine (forN_sweep id other (fun i _ => cms1.matrix.getD i []) _ fun i hi l hl _ => ?_).trans
    (congrArg some hres)
  have him : i < cms1.matrix.length := hlen ▸ hi
  simp only [toNat_ofNat_lt (Nat.lt_trans hi hn), idx_of_lt him, set1_of_lt _ (hl ▸ hi),
    Option.bind_some, id, List.getD_eq_getElem?_getD, List.getElem?_eq_getElem him,
    Option.getD_some]

theorem zipWith_eq_mapIdx {α β} (f : α → β → α) (a : List α) (b : List β) (d : β)
    (h : a.length ≤ b.length) : List.zipWith f a b = a.mapIdx fun j x => f x (b.getD j d) := by
  apply List.ext_getElem?
  intro j
  rw [List.getElem?_zipWith, List.getElem?_mapIdx, List.getD_eq_getElem?_getD]
  by_cases hj : j < a.length
  · rw [List.getElem?_eq_getElem hj, List.getElem?_eq_getElem (Nat.lt_of_lt_of_le hj h)]; rfl
  · rw [List.getElem?_eq_none (Nat.le_of_not_lt hj)]; rfl

theorem merge_loop2 (cms : Sketch) (other : List (List UInt64))
    (hlen : other.length = cms.matrix.length) (hw : cms.matrix.length = cms.rows.toNat)
    (hC : ∀ j (h' : j < cms.matrix.length), (cms.matrix[j]).length = cms.columns.toNat)
    (hO : ∀ j (h : j < other.length), (other[j]).length = cms.columns.toNat) :
    cmsMerge_loop2 cms other = some { cms with matrix := CMSM.addRowsM cms.matrix other } := by
  have hn : cms.matrix.length < 2 ^ 64 := hw ▸ cms.rows.toNat_lt
  rw [CMSM.addRowsM_eq, Rows.zipRows_eq_mapIdx, cmsMerge_loop2]
  refine forN_sweep (fun m => { cms with matrix := m }) cms.matrix _ _ fun i hi l hl hli => ?_
  have hio : i < other.length := hlen ▸ hi
  have hli' : i < l.length := hl ▸ hi
  have hol : (cms.matrix[i]).length = (other[i]).length := (hC i hi).trans (hO i hio).symm
  have hcn : (cms.matrix[i]).length < 2 ^ 64 := hC i hi ▸ cms.columns.toNat_lt
  -- the inner loop sweeps row `i`; the state it starts from holds that row still untouched
  have hinit : ({ cms with matrix := l } : Sketch) = { cms with matrix := l.set i cms.matrix[i] } := by
    rw [← hli, List.set_getElem_self]
  simp only [toNat_ofNat_lt (Nat.lt_trans hi hn), idx_of_lt hli', hli, Option.bind_some]
  rw [hinit, Option.bind_eq_some_iff]
  refine ⟨_, forN_sweep (fun r => { cms with matrix := l.set i r }) cms.matrix[i]
    (fun j c => CMSM.cellMerge c ((other[i]).getD j 0)) _ fun j hj r hr hrj => ?_, ?_⟩
  · have hjr : j < r.length := hr ▸ hj
    have hjo : j < (other[i]).length := hol ▸ hj
    simp only [toNat_ofNat_lt (Nat.lt_trans hj hcn), idx_of_lt ((List.length_set ..).symm ▸ hli'),
      List.getElem_set_self, idx_of_lt hjr, hrj, idx_of_lt hio, idx_of_lt hjo,
      set1_of_lt _ hjr, set1_of_lt _ ((List.length_set ..).symm ▸ hli'), List.set_set,
      Option.bind_some, List.getD_eq_getElem?_getD, List.getElem?_eq_getElem hjo, Option.getD_some,
      CMSM.cellMerge]
  · simp only [Rows.zipAt, List.getElem?_eq_getElem hio, zipWith_eq_mapIdx _ _ _ 0 (Nat.le_of_eq hol)]

end Gostatix.LoopTie
