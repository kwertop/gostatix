/-
  Gostatix.Proofs.RedisFrame — store lemmas; evaluating `bind`/`pcall` and the commands of
  Model/Redis.lean on a key of the right type; the frame property `SupportedOn K op` ("`op` reads
  and writes only the keys in `K`") with its rules for scripts and for those commands (the ones
  of Model/RedisCuckoo.lean: RedisBucket; sorted sets: RedisZSet); `runOps`/`runTagged`/`opsOf`/
  `Interleaving`, in which C08 and C19 state histories, and the induction behind
  `C19_noninterference_n`.
-/
import Gostatix.Model.Redis
namespace Gostatix.Redis

namespace Store

@[simp] theorem get_eq (s : Store) (k : String) : s.get k = s k := rfl
@[simp] theorem empty_apply (k : String) : Store.empty k = none := rfl
@[simp] theorem set_self (s : Store) (k : String) (v : Val) : (s.set k v) k = some v := by
  simp [Store.set]
theorem set_ne (s : Store) {k k' : String} (v : Val) (h : k' ≠ k) : (s.set k v) k' = s k' := by
  simp [Store.set, h]
theorem set_apply (s : Store) (k k' : String) (v : Val) :
    (s.set k v) k' = if k' = k then some v else s k' := rfl
@[simp] theorem del_self (s : Store) (k : String) : (s.del k) k = none := by simp [Store.del]
theorem del_ne (s : Store) {k k' : String} (h : k' ≠ k) : (s.del k) k' = s k' := by
  simp [Store.del, h]
theorem del_apply (s : Store) (k k' : String) :
    (s.del k) k' = if k' = k then none else s k' := rfl
theorem set_set (s : Store) (k : String) (v w : Val) : (s.set k v).set k w = s.set k w := by
  funext k'; simp only [Store.set]; split <;> rfl
theorem del_set (s : Store) (k : String) (v : Val) : (s.del k).set k v = s.set k v := by
  funext k'; simp only [Store.set, Store.del]; split <;> rfl

end Store

theorem hashGet_hashSet (h : List (String × String)) (f v f' : String) :
    hashGet (hashSet h f v) f' = if f' = f then some v else hashGet h f' := by
  induction h with
  | nil => simp only [hashSet, hashGet]; grind
  | cons p h ih =>
    simp only [hashSet]
    split <;> simp only [hashGet, ih] <;> grind

/-- `op` neither writes a key outside `K` nor depends on one. -/
def SupportedOn {ρ : Type} (K : List String) (op : Op ρ) : Prop :=
  (∀ s k, k ∉ K → (op s).1 k = s k) ∧
  (∀ s s', (∀ k ∈ K, s k = s' k) →
    (op s).2 = (op s').2 ∧ ∀ k ∈ K, (op s).1 k = (op s').1 k)

theorem SupportedOn.mono {ρ} {K K' : List String} {op : Op ρ} (hsub : ∀ k ∈ K, k ∈ K')
    (h : SupportedOn K op) : SupportedOn K' op := by
  refine ⟨fun s k hk => h.1 s k (fun hk' => hk (hsub k hk')), ?_⟩
  intro s s' hag
  have := h.2 s s' (fun k hk => hag k (hsub k hk))
  refine ⟨this.1, fun k _ => ?_⟩
  by_cases hk : k ∈ K
  · exact this.2 k hk
  · rw [h.1 s k hk, h.1 s' k hk]; exact hag k ‹_›

theorem SupportedOn.of_single {ρ} {K : List String} {a : String} {op : Op ρ}
    (h : SupportedOn [a] op) (ha : a ∈ K) : SupportedOn K op :=
  h.mono (List.forall_mem_singleton.mpr ha)

theorem SupportedOn.of_pair {ρ} {K : List String} {a b : String} {op : Op ρ}
    (h : SupportedOn [a, b] op) (ha : a ∈ K) (hb : b ∈ K) : SupportedOn K op :=
  h.mono (List.forall_mem_cons.mpr ⟨ha, List.forall_mem_singleton.mpr hb⟩)

/-- an operation that reads and writes a single key `k ∈ K`, in terms of the store; the commands
    go through `supported_local` below, which asks for less. -/
theorem supported_single {ρ} {K : List String} {k : String} (hk : k ∈ K) (op : Op ρ)
    (h1 : ∀ s k', k' ≠ k → (op s).1 k' = s k')
    (h2 : ∀ s s', s k = s' k → (op s).2 = (op s').2 ∧ (op s).1 k = (op s').1 k) :
    SupportedOn K op := by
  refine ⟨fun s k' hk' => h1 s k' (fun e => hk' (e ▸ hk)), ?_⟩
  intro s s' hag
  have := h2 s s' (hag k hk)
  refine ⟨this.1, fun k' hk' => ?_⟩
  by_cases e : k' = k
  · subst e; exact this.2
  · rw [h1 s k' e, h1 s' k' e]; exact hag k' hk'

/-- from two stores, a command on the key `k` has done the same thing — nothing, `SET k v`,
    `DEL k` — and given the same reply. -/
inductive SameEffect (k : String) (s s' : Store) {ρ : Type} : Store × ρ → Store × ρ → Prop
  | keep (r : ρ) : SameEffect k s s' (s, r) (s', r)
  | put (v : Val) (r : ρ) : SameEffect k s s' (s.set k v, r) (s'.set k v, r)
  | drop (r : ρ) : SameEffect k s s' (s.del k, r) (s'.del k, r)

/-- a command on the single key `k ∈ K`: from two stores that agree at `k` it has the same effect
    on `k` and the same reply. -/
theorem supported_local {ρ} {K : List String} {k : String} (hk : k ∈ K) (op : Op ρ)
    (h : ∀ s s', s k = s' k → SameEffect k s s' (op s) (op s')) : SupportedOn K op := by
  apply supported_single hk
  · intro s k' hne
    have := h s s rfl
    generalize op s = x at this
    cases this
    · rfl
    · exact Store.set_ne s _ hne
    · exact Store.del_ne s hne
  · intro s s' hag
    have := h s s' hag
    generalize op s = x, op s' = y at this
    cases this
    · exact ⟨rfl, hag⟩
    · exact ⟨rfl, (Store.set_self _ _ _).trans (Store.set_self _ _ _).symm⟩
    · exact ⟨rfl, (Store.del_self _ _).trans (Store.del_self _ _).symm⟩

theorem supported_pure {α} (K : List String) (a : α) : SupportedOn K (Script.pure a) :=
  ⟨fun _ _ _ => rfl, fun _ _ h => ⟨rfl, h⟩⟩

theorem supported_fail {α} (K : List String) : SupportedOn K (Script.fail : Script α) :=
  ⟨fun _ _ _ => rfl, fun _ _ h => ⟨rfl, h⟩⟩

theorem Script.bind_apply {α β} (m : Script α) (f : α → Script β) (s : Store) :
    (m >>=ₛ f) s = match (m s).2 with
      | some a => f a (m s).1
      | none => ((m s).1, none) := by
  unfold Script.bind
  rcases m s with ⟨s', _ | a⟩ <;> rfl

theorem Script.bind_ok {α β} {m : Script α} {f : α → Script β} {s s' : Store} {a : α}
    (h : m s = (s', some a)) : (m >>=ₛ f) s = f a s' := by
  unfold Script.bind; rw [h]

theorem Script.bind_err {α β} {m : Script α} {f : α → Script β} {s s' : Store}
    (h : m s = (s', none)) : (m >>=ₛ f) s = (s', none) := by
  unfold Script.bind; rw [h]

theorem Script.try_ok {α} {m : Script α} {s s' : Store} {r : Option α} (h : m s = (s', r)) :
    Script.try_ m s = (s', some r) := by
  unfold Script.try_; rw [h]

/-! ### what a command does on a key of the right type -/

theorem cmdLINDEX_list {s : Store} {k : String} {l : List String} (h : s k = some (.list l))
    (i : Nat) : cmdLINDEX k i s = (s, some l[i]?) := by
  unfold cmdLINDEX; rw [h]

theorem cmdLSET_list {s : Store} {k : String} {l : List String} (h : s k = some (.list l))
    {i : Nat} (hi : i < l.length) (v : String) :
    cmdLSET k i v s = (s.set k (.list (l.set i v)), some ()) := by
  unfold cmdLSET; rw [h]; simp only [hi, if_true]

theorem cmdLRANGE_list {s : Store} {k : String} {l : List String} (h : s k = some (.list l)) :
    cmdLRANGE k s = (s, some l) := by
  unfold cmdLRANGE; rw [h]

theorem cmdRPUSH_none {s : Store} {k : String} (h : s k = none) {vs : List String} (hv : vs ≠ []) :
    cmdRPUSH k vs s = (s.set k (.list vs), some ()) := by
  unfold cmdRPUSH; rw [h]; simp only [hv, if_false]

theorem cmdLPUSH_none {s : Store} {k : String} (h : s k = none) {vs : List String} (hv : vs ≠ []) :
    cmdLPUSH k vs s = (s.set k (.list vs.reverse), some ()) := by
  unfold cmdLPUSH; rw [h]; simp only [hv, if_false]

theorem cmdLPUSH_list {s : Store} {k : String} {l : List String} (h : s k = some (.list l))
    {vs : List String} (hv : vs ≠ []) :
    cmdLPUSH k vs s = (s.set k (.list (vs.reverse ++ l)), some ()) := by
  unfold cmdLPUSH; rw [h]; simp only [hv, if_false]

theorem luaNumber_some {x : String} {n : Nat} (h : parseDecimal x = some n) (s : Store) :
    luaNumber (some x) s = (s, some n) := by
  unfold luaNumber; simp only [h]

theorem cmdSETBIT_str {s : Store} {k : String} {b : List UInt8} (h : s k = some (.str b)) (n : Nat) :
    cmdSETBIT k n s = (s.set k (.str (setBit b n)), some ()) := by
  unfold cmdSETBIT; rw [h]

theorem cmdGETBIT_str {s : Store} {k : String} {b : List UInt8} (h : s k = some (.str b)) (n : Nat) :
    cmdGETBIT k n s = (s, some (getBit b n)) := by
  unfold cmdGETBIT; rw [h]

theorem supported_bind {α β} {K : List String} {m : Script α} {f : α → Script β}
    (hm : SupportedOn K m) (hf : ∀ a, SupportedOn K (f a)) : SupportedOn K (m >>=ₛ f) := by
  constructor
  · intro s k hk
    rw [Script.bind_apply]
    cases h : (m s).2 with
    | none => exact hm.1 s k hk
    | some a => simp only; rw [(hf a).1 _ k hk]; exact hm.1 s k hk
  · intro s s' hag
    rw [Script.bind_apply, Script.bind_apply]
    obtain ⟨hr, hs⟩ := hm.2 s s' hag
    rw [← hr]
    cases h : (m s).2 with
    | none => exact ⟨rfl, hs⟩
    | some a => exact (hf a).2 _ _ hs

theorem supported_try {α} {K : List String} {m : Script α} (hm : SupportedOn K m) :
    SupportedOn K (Script.try_ m) := by
  constructor
  · intro s k hk; exact hm.1 s k hk
  · intro s s' hag
    obtain ⟨hr, hs⟩ := hm.2 s s' hag
    exact ⟨by simp only [Script.try_]; rw [hr], hs⟩

theorem supported_ite {α} {K : List String} (c : Prop) [Decidable c] {m m' : Script α}
    (hm : SupportedOn K m) (hm' : SupportedOn K m') : SupportedOn K (if c then m else m') := by
  split <;> assumption

theorem supported_mapResult {α β} {K : List String} {m : Op α} (g : α → β) (hm : SupportedOn K m) :
    SupportedOn K (fun s => ((m s).1, g (m s).2) : Op β) := by
  refine ⟨fun s k hk => hm.1 s k hk, fun s s' hag => ?_⟩
  obtain ⟨hr, hs⟩ := hm.2 s s' hag
  exact ⟨by simp only [hr], hs⟩

section commands
variable {K : List String} {k : String}

theorem supported_DEL (hk : k ∈ K) : SupportedOn K (cmdDEL k) :=
  supported_local hk _ fun _ _ _ => .drop _

theorem supported_SET (hk : k ∈ K) (b : List UInt8) : SupportedOn K (cmdSET k b) :=
  supported_local hk _ fun _ _ _ => .put _ _

theorem supported_LINDEX (hk : k ∈ K) (i : Nat) : SupportedOn K (cmdLINDEX k i) := by
  refine supported_local hk _ fun s s' h => ?_
  unfold cmdLINDEX; rw [h]
  split <;> exact .keep _

theorem supported_LRANGE (hk : k ∈ K) : SupportedOn K (cmdLRANGE k) := by
  refine supported_local hk _ fun s s' h => ?_
  unfold cmdLRANGE; rw [h]
  split <;> exact .keep _

theorem supported_HGETALL (hk : k ∈ K) : SupportedOn K (cmdHGETALL k) := by
  refine supported_local hk _ fun s s' h => ?_
  unfold cmdHGETALL; rw [h]
  split <;> exact .keep _

theorem supported_GETBIT (hk : k ∈ K) (n : Nat) : SupportedOn K (cmdGETBIT k n) := by
  refine supported_local hk _ fun s s' h => ?_
  unfold cmdGETBIT; rw [h]
  split <;> exact .keep _

theorem supported_LSET (hk : k ∈ K) (i : Nat) (v : String) : SupportedOn K (cmdLSET k i v) := by
  refine supported_local hk _ fun s s' h => ?_
  unfold cmdLSET; rw [h]
  split
  · split
    · exact .put _ _
    · exact .keep _
  · exact .keep _

theorem supported_RPUSH (hk : k ∈ K) (vs : List String) : SupportedOn K (cmdRPUSH k vs) := by
  refine supported_local hk _ fun s s' h => ?_
  unfold cmdRPUSH; rw [h]
  split
  · exact .keep _
  · split
    · exact .put _ _
    · exact .put _ _
    · exact .keep _

theorem supported_LPUSH (hk : k ∈ K) (vs : List String) : SupportedOn K (cmdLPUSH k vs) := by
  refine supported_local hk _ fun s s' h => ?_
  unfold cmdLPUSH; rw [h]
  split
  · exact .keep _
  · split
    · exact .put _ _
    · exact .put _ _
    · exact .keep _

theorem supported_HSET (hk : k ∈ K) (fvs : List (String × String)) :
    SupportedOn K (cmdHSET k fvs) := by
  refine supported_local hk _ fun s s' h => ?_
  unfold cmdHSET; rw [h]
  split
  · exact .put _ _
  · exact .put _ _
  · exact .keep _

theorem supported_SETBIT (hk : k ∈ K) (n : Nat) : SupportedOn K (cmdSETBIT k n) := by
  refine supported_local hk _ fun s s' h => ?_
  unfold cmdSETBIT; rw [h]
  split
  · exact .put _ _
  · exact .put _ _
  · exact .keep _

theorem supported_luaNumber (K : List String) (v : Option String) : SupportedOn K (luaNumber v) := by
  constructor
  · intro s k _; unfold luaNumber; split
    · split <;> rfl
    · rfl
  · intro s s' h; unfold luaNumber; split
    · split <;> exact ⟨rfl, h⟩
    · exact ⟨rfl, h⟩

end commands

section run
variable {ι : Type} [DecidableEq ι] {ρ : Type}

def runOps : List (Op ρ) → Store → Store × List ρ
  | [], s => (s, [])
  | op :: ops, s => ((runOps ops (op s).1).1, (op s).2 :: (runOps ops (op s).1).2)

/-- run a list of operations tagged with the structure they belong to. -/
def runTagged : List (ι × Op ρ) → Store → Store × List (ι × ρ)
  | [], s => (s, [])
  | (i, op) :: ops, s => ((runTagged ops (op s).1).1, (i, (op s).2) :: (runTagged ops (op s).1).2)

def opsOf (i : ι) (tr : List (ι × Op ρ)) : List (Op ρ) := (tr.filter (fun p => p.1 = i)).map (·.2)

def resultsOf (i : ι) (rs : List (ι × ρ)) : List ρ := (rs.filter (fun p => p.1 = i)).map (·.2)

theorem opsOf_cons_eq (i : ι) (op : Op ρ) (tr : List (ι × Op ρ)) :
    opsOf i ((i, op) :: tr) = op :: opsOf i tr := by
  simp [opsOf]

theorem opsOf_cons_ne {i j : ι} (h : j ≠ i) (op : Op ρ) (tr : List (ι × Op ρ)) :
    opsOf i ((j, op) :: tr) = opsOf i tr := by
  simp [opsOf, h]

theorem resultsOf_cons_eq (i : ι) (r : ρ) (rs : List (ι × ρ)) :
    resultsOf i ((i, r) :: rs) = r :: resultsOf i rs := by
  simp [resultsOf]

theorem resultsOf_cons_ne {i j : ι} (h : j ≠ i) (r : ρ) (rs : List (ι × ρ)) :
    resultsOf i ((j, r) :: rs) = resultsOf i rs := by
  simp [resultsOf, h]

/-- structure `i` sees, inside any tagged trace on pairwise disjoint key sets, what it sees when
    its own operations run alone from a store that agrees on its keys. -/
theorem noninterference_aux (K : ι → List String)
    (hdisj : ∀ i j, i ≠ j → ∀ k ∈ K i, k ∉ K j)
    (tr : List (ι × Op ρ)) (hsup : ∀ p ∈ tr, SupportedOn (K p.1) p.2) (i : ι)
    (s s' : Store) (hag : ∀ k ∈ K i, s k = s' k) :
    resultsOf i (runTagged tr s).2 = (runOps (opsOf i tr) s').2 ∧
    ∀ k ∈ K i, (runTagged tr s).1 k = (runOps (opsOf i tr) s').1 k := by
  induction tr generalizing s s' with
  | nil => exact ⟨rfl, hag⟩
  | cons p tr ih =>
    obtain ⟨j, op⟩ := p
    have hop : SupportedOn (K j) op := hsup (j, op) List.mem_cons_self
    have htl : ∀ p ∈ tr, SupportedOn (K p.1) p.2 := fun p hp => hsup p (List.mem_cons_of_mem _ hp)
    by_cases e : j = i
    · subst e
      obtain ⟨hr, hs⟩ := hop.2 s s' hag
      obtain ⟨ih1, ih2⟩ := ih htl (op s).1 (op s').1 hs
      simp only [runTagged, opsOf_cons_eq, resultsOf_cons_eq, runOps]
      exact ⟨by rw [ih1, hr], ih2⟩
    · have hag' : ∀ k ∈ K i, (op s).1 k = s' k := by
        intro k hk
        rw [hop.1 s k (fun hkj => hdisj i j (Ne.symm e) k hk hkj)]
        exact hag k hk
      obtain ⟨ih1, ih2⟩ := ih htl (op s).1 s' hag'
      simp only [runTagged, opsOf_cons_ne e, resultsOf_cons_ne e]
      exact ⟨ih1, ih2⟩

/-- `tr` is an interleaving of `l₁` (tagged `true`) and `l₂` (tagged `false`). -/
inductive Interleaving {α : Type} : List α → List α → List (Bool × α) → Prop where
  | nil : Interleaving [] [] []
  | left {a l₁ l₂ tr} : Interleaving l₁ l₂ tr → Interleaving (a :: l₁) l₂ ((true, a) :: tr)
  | right {a l₁ l₂ tr} : Interleaving l₁ l₂ tr → Interleaving l₁ (a :: l₂) ((false, a) :: tr)

theorem Interleaving.opsOf {l₁ l₂ : List (Op ρ)} {tr : List (Bool × Op ρ)}
    (h : Interleaving l₁ l₂ tr) : opsOf true tr = l₁ ∧ opsOf false tr = l₂ := by
  induction h with
  | nil => exact ⟨rfl, rfl⟩
  | left _ ih =>
    rw [opsOf_cons_eq, opsOf_cons_ne (by decide), ih.1, ih.2]; exact ⟨rfl, rfl⟩
  | right _ ih =>
    rw [opsOf_cons_eq, opsOf_cons_ne (by decide), ih.1, ih.2]; exact ⟨rfl, rfl⟩

theorem Interleaving.mem {α} {l₁ l₂ : List α} {tr : List (Bool × α)} (h : Interleaving l₁ l₂ tr) :
    ∀ p ∈ tr, (p.1 = true → p.2 ∈ l₁) ∧ (p.1 = false → p.2 ∈ l₂) := by
  induction h <;> grind

end run

end Gostatix.Redis
