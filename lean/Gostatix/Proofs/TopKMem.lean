/-
  Gostatix.Proofs.TopKMem — the in-memory variant (`TopK.offer` on a `container/heap` array)
  refines the specification step.
-/
import Gostatix.Proofs.GoHeap
import Gostatix.Proofs.TopKInv
namespace Gostatix.TopK

open GoHeap

/-- the heap-order invariant of `container/heap` on the frequencies, in the form the property
    theorems state it: on the entries `h[i]`, and decidable.  The lemmas below work with
    `GoHeap.Ord` (the same order on `GoHeap.key`, which reads with `getD`); `heapInv_iff` converts. -/
def HeapInv (h : Array HElem) : Prop :=
  ∀ i (hi : i < h.size) (_ : 0 < i), (h[(i - 1) / 2]'(by omega)).2 ≤ h[i].2

instance (h : Array HElem) : Decidable (HeapInv h) := by unfold HeapInv; infer_instance

variable {k : Nat} {h : Array HElem} {f : Nat}

theorem key_eq_getElem {i : Nat} (hi : i < h.size) : key h i = h[i].2 :=
  congrArg Prod.snd (Array.getElem_eq_getD _).symm

theorem heapInv_iff : HeapInv h ↔ GoHeap.Ord h := by
  constructor
  · intro hh m hm hmn
    rw [key_eq_getElem hmn, key_eq_getElem (Nat.lt_trans (parent_lt hm) hmn)]
    exact hh m hmn hm
  · intro ho i hi hi0
    have := ho i hi0 hi
    rwa [key_eq_getElem hi, key_eq_getElem (Nat.lt_trans (parent_lt hi0) hi)] at this

theorem root_le (ho : GoHeap.Ord h) : ∀ p ∈ h.toList, (h.getD 0 ("", 0)).2 ≤ p.2 := by
  intro p hp
  obtain ⟨i, hi, rfl⟩ := List.getElem_of_mem hp
  have := ordF_root_min ho i hi
  rwa [key_eq_getElem hi] at this

theorem root_mem (hs : 0 < h.size) : h.getD 0 ("", 0) ∈ h.toList := by
  simp [Array.getD, hs]

/-- `IndexOf` + `heap.Remove` -/
def dropKey (h : Array HElem) (x : String) : Array HElem :=
  match GoHeap.indexOf h x with
  | some i => GoHeap.remove h i
  | none => h

/-- `offer` with its `IndexOf` + `heap.Remove` step named `dropKey` (definitional) -/
theorem offer_eq (k : Nat) (h : Array HElem) (x : String) (f : Nat) :
    offer k h x f =
      if h.size < k ∨ f ≥ (h.getD 0 ("", 0)).2 then
        (if (push (dropKey h x) (x, f)).size > k then pop (push (dropKey h x) (x, f))
         else push (dropKey h x) (x, f))
      else h := rfl

theorem dropKey_spec (x : String) (ho : GoHeap.Ord h) (hn : (h.toList.map (·.1)).Nodup) :
    GoHeap.Ord (dropKey h x) ∧
    (dropKey h x).toList.Perm (h.toList.filter (fun e => e.1 ≠ x)) := by
  unfold dropKey GoHeap.indexOf
  split
  · next i hidx =>
    obtain ⟨hi, hx, _⟩ := Array.findIdx?_eq_some_iff_getElem.1 hidx
    obtain rfl : h[i].1 = x := by simpa using hx
    obtain ⟨hperm, hord⟩ := remove_spec h i hi ho
    rw [← Array.getElem_eq_getD (h := hi)] at hperm
    -- by `hn` the removed entry is the only one with this key
    have := hperm.filter (fun e => decide (e.1 ≠ h[i].1))
    rw [filter_ne_of_nodup_snoc ((hperm.map (·.1)).nodup_iff.2 hn)] at this
    exact ⟨hord, this⟩
  · next hidx =>
    rw [Array.findIdx?_eq_none_iff] at hidx
    refine ⟨ho, ?_⟩
    rw [List.filter_eq_self.2 fun e he => by simpa using hidx e (by simpa using he)]

/-- what `offer` computes when its guard holds: the entries `u` after `heap.Push`, and over
    capacity the root split off by `heap.Pop` -/
theorem offer_admitted (x : String) (hg : h.size < k ∨ f ≥ (h.getD 0 ("", 0)).2) (ho : GoHeap.Ord h)
    (hn : (h.toList.map (·.1)).Nodup) :
    GoHeap.Ord (offer k h x f) ∧ ∃ u : List HElem, u.Perm (upsert h.toList x f) ∧
      (k < u.length → ∃ v, (∀ e ∈ u, v.2 ≤ e.2) ∧ (v :: (offer k h x f).toList).Perm u) ∧
      (¬ k < u.length → (offer k h x f).toList.Perm u) := by
  rw [offer_eq, if_pos hg]
  obtain ⟨ho1, hp1⟩ := dropKey_spec x ho hn
  obtain ⟨hp2, ho2⟩ := push_spec (dropKey h x) (x, f) ho1
  have hu := hp2.trans (hp1.append_right _)
  generalize push (dropKey h x) (x, f) = h2 at ho2 hu
  by_cases hgt : h2.size > k
  · rw [if_pos hgt]
    obtain ⟨hp3, ho3⟩ := pop_spec h2 (Nat.zero_lt_of_lt hgt) ho2
    exact ⟨ho3, h2.toList, hu, fun _ => ⟨h2.getD 0 ("", 0), root_le ho2,
      (List.perm_append_singleton _ _).symm.trans hp3⟩, fun hno => absurd hgt hno⟩
  · rw [if_neg hgt]
    exact ⟨ho2, h2.toList, hu, fun hlt => absurd hlt hgt, fun _ => List.Perm.refl _⟩

/-- the specification guard implies the guard of `offer` (heap order: `heap[0]` is minimal) -/
theorem guard_of_admit (ho : GoHeap.Ord h) (hA : Admit k h.toList f) :
    h.size < k ∨ f ≥ (h.getD 0 ("", 0)).2 := by
  rcases hA with hl | ⟨m, hm, _, hf⟩
  · left; simpa using hl
  · right; exact Nat.le_trans (root_le ho m hm) hf

/-- conversely, unless `k = 0` and the heap is empty (where `heap[0]` panics in Go) -/
theorem admit_of_guard (ho : GoHeap.Ord h) (hg : h.size < k ∨ f ≥ (h.getD 0 ("", 0)).2)
    (hne : 0 < k ∨ 0 < h.size) :
    Admit k h.toList f := by
  by_cases hs : 0 < h.size
  · rcases hg with hl | hf
    · left; simpa using hl
    · right; exact ⟨h.getD 0 ("", 0), root_mem hs, root_le ho, hf⟩
  · left
    have : h.size = 0 := by omega
    simp only [Array.length_toList, this]
    omega

theorem mem_refines_spec (k : Nat) (h : Array HElem) (x : String) (f : Nat)
    (hinv : HeapInv h) (hn : (h.toList.map (·.1)).Nodup) :
    Step k h.toList (x, f) (offer k h x f).toList ∧ HeapInv (offer k h x f) := by
  have ho := heapInv_iff.1 hinv
  rw [heapInv_iff]
  by_cases hg : h.size < k ∨ f ≥ (h.getD 0 ("", 0)).2
  · obtain ⟨o1, u, hu, hev, hkeep⟩ := offer_admitted x hg ho hn
    refine ⟨?_, o1⟩
    by_cases hA : Admit k h.toList f
    · exact step_of_admit hA hu hev hkeep
    · -- only possible for `k = 0` and an empty heap: the entry is pushed and popped again
      have hk : ¬ (0 < k ∨ 0 < h.size) := fun hne => hA (admit_of_guard ho hg hne)
      have hnil : h.toList = [] :=
        List.eq_nil_of_length_eq_zero (Nat.eq_zero_of_not_pos fun hs => hk (Or.inr hs))
      have hk0 : k = 0 := Nat.eq_zero_of_not_pos fun hk' => hk (Or.inl hk')
      refine step_of_not_admit hA ?_
      rw [hnil] at hu ⊢
      obtain ⟨v, _, hp⟩ := hev (by rw [hu.length_eq, hk0]; exact Nat.one_pos)
      have hlen := hp.length_eq.trans hu.length_eq
      exact List.eq_nil_of_length_eq_zero (Nat.succ.inj hlen) ▸ List.Perm.refl _
  · rw [offer_eq, if_neg hg]
    exact ⟨step_of_not_admit (fun hA => hg (guard_of_admit ho hA)) (List.Perm.refl _), ho⟩

end Gostatix.TopK
