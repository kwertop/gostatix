/-
  Gostatix.Proofs.LuaCore — the lemmas about the Lua-subset interpreter of Model/Lua.lean that do not depend on a
  script: every Lua tie (Proofs/LuaCMS.lean, LuaBucket.lean, LuaHLL.lean, LuaTopK.lean) evaluates its scripts with them;
  Proofs/LuaCoreBucket.lean and Proofs/LuaCoreHLL.lean add what one family of scripts needs.  Namespace `Gostatix.LuaCMS`.
  The list commands are given twice, as `redisCommand` computes them and as what `redis.call` makes of the store-level
  commands of Model/Redis.lean (`redisCall_LINDEX`, … : `cmdRes … (cmdLINDEX k c store)`), so that a proof analyses the
  result of the model's command once, for the script and for the hand model.

  Evaluation.  Straight-line code on a state whose environment is a concrete list is evaluated by `simp only` over one
  of two sets of these equations (all fuels have the form `f + k`, so every equation is stated for `f + 1`).  The sets
  are the attributes of Proofs/LuaAttr.lean, filled at the end of this file.
  * `lua_eval`, macro `luab_simp [extra lemmas]` (the bucket ties; `lua_simp_hll` of Proofs/LuaCoreHLL.lean, used by the
    HyperLogLog and Top-K ties, is the same macro with the list optional).  Only here: the steps of the monad, of
    scopes, blocks and variables as the `match`es the interpreter is written with, and `cmdArgs_*`.  The steps are
    applied as definitional unfoldings, which keeps the proof term small.  Proofs/LuaCoreBucket.lean and Proofs/LuaCoreHLL.lean ADD lemmas to this
    attribute (commands, comparisons, `tonumber` as a function with priority `high`); these additions hold in every
    module downstream of the one that makes them, so `luab_simp` does not mean the same in the bucket and in the
    HyperLogLog files.
  * `lua_res`, macro `lua_run [extra lemmas]` (the Count-Min ties).  Only here: the same steps through the named
    functions `Res.bind`, `Res.leave`, `blockNext`, `readVarRes`, `assignVarRes`, `toNumRes` (a named function applied
    to a constructor is one rewrite, a `match` several), `Post`, `cmdRes`, `unpack` and writes into tables.  Every step
    is recorded in the proof (`implicitDefEqProofs := false`); left implicit, the kernel has to find it again by
    evaluating the interpreter, which for a whole loop body is most of the check, while for the short segments of the
    other ties the recorded steps only make the term larger.
  In both macros `↓reduceIte` decides an `if` before its branches are visited: otherwise simp rewrites in both branches
  first and a condition such as `"a" = "b"` is then decided by unfolding `String.decEq`.
-/
import Gostatix.Generated.LuaScripts
import Gostatix.Proofs.RedisCMS
import Gostatix.Proofs.LuaAttr
namespace Gostatix.LuaCMS
open Gostatix.Lua Gostatix.Redis

/-! ## numerals -/

theorem digitVal_of_isDigit {c : Char} (h : c.isDigit = true) : digitVal c = some (c.toNat - 48) := by
  unfold digitVal
  simp only [Char.isDigit, Bool.and_eq_true, decide_eq_true_eq] at h
  have h1 : '0' ≤ c := by
    show '0'.val ≤ c.val
    exact h.1
  have h2 : c ≤ '9' := by
    show c.val ≤ '9'.val
    exact h.2
  simp [h1, h2]

theorem toNat_sub_lt_of_isDigit {c : Char} (h : c.isDigit = true) : c.toNat - 48 < 10 := by
  simp only [Char.isDigit, Bool.and_eq_true, decide_eq_true_eq] at h
  have h2 : c.val.toNat ≤ 57 := h.2
  show c.val.toNat - 48 < 10
  omega

theorem parseDigits_digits : ∀ (cs : List Char) (acc : Nat), (∀ c ∈ cs, c.isDigit = true) →
    parseDigits 10 cs acc = some (Nat.ofDigitChars 10 cs acc)
  | [], acc, _ => by simp [parseDigits, Nat.ofDigitChars_nil]
  | c :: cs, acc, h => by
    have hc := h c (List.mem_cons_self ..)
    rw [parseDigits, digitVal_of_isDigit hc]
    simp only [toNat_sub_lt_of_isDigit hc, if_true]
    rw [parseDigits_digits cs _ (fun d hd => h d (List.mem_cons_of_mem _ hd)), Nat.ofDigitChars_cons]
    congr 2
    rw [Nat.mul_comm]
    rfl

def signSplit (cs : List Char) : Bool × List Char :=
  match cs with
  | '-' :: r => (true, r)
  | '+' :: r => (false, r)
  | r => (false, r)

theorem goParseInt_eq (base : Nat) (cs : List Char) : goParseInt base cs =
    (if (signSplit cs).2.isEmpty then .nan else
      match parseDigits base (signSplit cs).2 0 with
      | none => .nan
      | some n =>
        if ((signSplit cs).1 && n > 2 ^ 63) || (!(signSplit cs).1 && n ≥ 2 ^ 63) then .nan
        else if n > numLimit then .big else .num (if (signSplit cs).1 then -(n : Int) else (n : Int))) := rfl

theorem signSplit_digit {c : Char} (rest : List Char) (hc : c.isDigit = true) :
    signSplit (c :: rest) = (false, c :: rest) := by
  have hm : c ≠ '-' := by intro h; subst h; revert hc; decide
  have hp : c ≠ '+' := by intro h; subst h; revert hc; decide
  unfold signSplit
  split
  · rename_i h; exact absurd (List.cons.inj h).1 hm
  · rename_i h; exact absurd (List.cons.inj h).1 hp
  · rfl

theorem goParseInt_digits {cs : List Char} (hne : cs ≠ []) (hd : ∀ c ∈ cs, c.isDigit = true)
    (hn : Nat.ofDigitChars 10 cs 0 ≤ numLimit) :
    goParseInt 10 cs = .num (Nat.ofDigitChars 10 cs 0 : Nat) := by
  obtain ⟨c, rest, rfl⟩ := List.exists_cons_of_ne_nil hne
  have hc := hd c (List.mem_cons_self ..)
  have h63 : ¬ (Nat.ofDigitChars 10 (c :: rest) 0 ≥ 2 ^ 63) := by
    unfold numLimit at hn; omega
  have h53 : ¬ (Nat.ofDigitChars 10 (c :: rest) 0 > numLimit) := by omega
  rw [goParseInt_eq, signSplit_digit rest hc]
  simp only [parseDigits_digits _ 0 hd]
  simp [h63, h53]

theorem goParseInt_decimal {n : Nat} (h : n ≤ numLimit) : goParseInt 10 (decimal n).toList = .num n := by
  have := goParseInt_digits (decimal_toList_ne_nil n) (decimal_digits n)
  rw [decimal_toList, Nat.ofDigitChars_ten_toDigits] at this
  rw [decimal_toList]
  exact this h

theorem goAtoi_decimal {n : Nat} (h : n ≤ numLimit) : goAtoi (decimal n) = .num n := goParseInt_decimal h

def hexSplit (cs : List Char) : NumParse :=
  match cs with
  | '0' :: x :: rest => if x = 'x' ∨ x = 'X' then goParseInt 16 rest else goParseInt 10 cs
  | _ => goParseInt 10 cs

theorem luaToNumber_eq (s : String) : luaToNumber s =
    (if (trimChars s.toList).contains '.' then .unsupported "tonumber of a string containing '.'" else
      match hexSplit (trimChars s.toList) with
      | .num n => .num n
      | .nan => .nil
      | .big => .unsupported "tonumber of a numeral beyond 2^53") := by
  -- `delta` unfolds the definitions as they stand; `unfold` or `simp only [luaToNumber]` would first have their
  -- equation lemmas generated, once per proof that asks for them (the same at `callFn` and `redisCommand` below)
  delta luaToNumber hexSplit
  rfl

/-! ### `tonumber` of a string of digits and `-` only is Go's `ParseInt(·, 10, 64)` of it: nothing to trim, no `.`, no `0x` -/

theorem dropWhile_clean {p : Char → Bool} (cs : List Char) (h : ∀ c ∈ cs, p c = false) :
    cs.dropWhile p = cs := by
  cases cs with
  | nil => rfl
  | cons a l => rw [List.dropWhile_cons, h a List.mem_cons_self]; rfl

theorem trimChars_clean (cs : List Char) (h : ∀ c ∈ cs, isTrimChar c = false) : trimChars cs = cs := by
  unfold trimChars
  rw [dropWhile_clean cs h, dropWhile_clean cs.reverse (fun c hc => h c (List.mem_reverse.mp hc)),
    List.reverse_reverse]

def isNumeralChar (c : Char) : Prop := c.isDigit = true ∨ c = '-'

theorem numeralChar_not_trim {c : Char} (h : isNumeralChar c) : isTrimChar c = false := by
  rcases h with h | rfl
  · simp only [Char.isDigit, Bool.and_eq_true, decide_eq_true_eq] at h
    unfold isTrimChar
    have h1 : c ≠ ' ' := by rintro rfl; exact absurd h.1 (by decide)
    have h2 : c ≠ '\n' := by rintro rfl; exact absurd h.1 (by decide)
    have h3 : c ≠ '\t' := by rintro rfl; exact absurd h.1 (by decide)
    simp [h1, h2, h3]
  · decide

theorem numeralChar_ne {c d : Char} (h : isNumeralChar c) (hd : d.isDigit = false) (hd' : d ≠ '-') : c ≠ d := by
  rintro rfl
  rcases h with h | h
  · rw [h] at hd; exact absurd hd (by decide)
  · exact hd' h

theorem hexSplit_clean (cs : List Char) (h : ∀ c ∈ cs, isNumeralChar c) :
    hexSplit cs = goParseInt 10 cs := by
  unfold hexSplit
  split
  · rename_i x rest
    have hx : isNumeralChar x := h x (by simp)
    rw [if_neg]
    rintro (rfl | rfl)
    · exact numeralChar_ne hx (by decide) (by decide) rfl
    · exact numeralChar_ne hx (by decide) (by decide) rfl
  · rfl

theorem luaToNumber_clean (s : String) (h : ∀ c ∈ s.toList, isNumeralChar c) :
    luaToNumber s =
      match goParseInt 10 s.toList with
      | .num n => .num n
      | .nan => .nil
      | .big => .unsupported "tonumber of a numeral beyond 2^53" := by
  have hdot : s.toList.contains '.' = false := by
    rw [Bool.eq_false_iff]; intro hc
    rw [List.contains_iff_mem] at hc
    exact numeralChar_ne (h _ hc) (by decide) (by decide) rfl
  rw [luaToNumber_eq, trimChars_clean _ (fun c hc => numeralChar_not_trim (h c hc)), hdot,
    hexSplit_clean _ h]
  rfl

theorem luaToNumber_digits {s : String} (hne : s.toList ≠ []) (hd : ∀ c ∈ s.toList, c.isDigit = true)
    (hn : Nat.ofDigitChars 10 s.toList 0 ≤ numLimit) :
    luaToNumber s = .num (Nat.ofDigitChars 10 s.toList 0 : Nat) := by
  rw [luaToNumber_clean s fun c hc => Or.inl (hd c hc), goParseInt_digits hne hd hn]

theorem luaToNumber_of_parseDecimal {s : String} {n : Nat} (h : parseDecimal s = some n) (hn : n ≤ numLimit) :
    luaToNumber s = .num n := by
  unfold parseDecimal at h
  simp only at h
  split at h
  · rename_i hc
    have hv : Nat.ofDigitChars 10 s.toList 0 = n := Option.some.inj h
    have := luaToNumber_digits hc.1 (List.all_eq_true.mp hc.2) (by rw [hv]; exact hn)
    rw [hv] at this
    exact this
  · exact absurd h (by simp)

theorem luaToNumber_decimal {n : Nat} (h : n ≤ numLimit) : luaToNumber (decimal n) = .num n :=
  luaToNumber_of_parseDecimal (parseDecimal_decimal n) h

theorem renderInt_ofNat (n : Nat) : renderInt (n : Int) = decimal n := rfl

theorem renderInt_natCast_ne_minus_zero (n : Nat) : renderInt (n : Int) ≠ "-0" := by
  intro h
  have hd := decimal_digits n
  rw [renderInt_ofNat] at h
  rw [h] at hd
  exact absurd (hd '-' (by decide)) (by decide)

theorem renderInt_neg_one : renderInt (-1) = "-1" := by decide

theorem isDigit_iff (c : Char) : c.isDigit = true ↔ 48 ≤ c.toNat ∧ c.toNat ≤ 57 := by
  unfold Char.isDigit Char.toNat
  simp only [Bool.and_eq_true, decide_eq_true_eq, ge_iff_le, UInt32.le_iff_toNat_le]
  exact Iff.rfl

theorem parseDecimal_some {s : String} {n : Nat} (h : parseDecimal s = some n) :
    s.toList ≠ [] ∧ (∀ c ∈ s.toList, c.isDigit = true) ∧ Nat.ofDigitChars 10 s.toList 0 = n := by
  unfold parseDecimal at h
  simp only at h
  split at h
  · rename_i hc
    refine ⟨hc.1, ?_, Option.some.inj h⟩
    exact List.all_eq_true.mp hc.2
  · cases h

/-! ### the spellings `renderInt` writes -/

theorem parseDigits_decimal (n : Nat) : parseDigits 10 (decimal n).toList 0 = some n := by
  rw [parseDigits_digits _ 0 (decimal_digits n), decimal_toList, Nat.ofDigitChars_ten_toDigits]

theorem numLimit_lt : numLimit < 2 ^ 63 := by decide

theorem goParseInt_neg (cs : List Char) (n : Nat) (hne : cs ≠ [])
    (hp : parseDigits 10 cs 0 = some n) (hn : n ≤ numLimit) :
    goParseInt 10 ('-' :: cs) = .num (-(n : Int)) := by
  unfold goParseInt
  have := numLimit_lt
  cases cs with
  | nil => exact absurd rfl hne
  | cons a l =>
  simp only [List.isEmpty_cons, Bool.false_eq_true, if_false, hp, Bool.true_and, Bool.not_true,
      Bool.false_and, Bool.or_false, decide_eq_true_eq, ge_iff_le, gt_iff_lt, if_true]
  rw [if_neg (by omega), if_neg (by omega)]


theorem renderInt_toList_neg (m : Nat) : (renderInt (Int.negSucc m)).toList = '-' :: (decimal (m + 1)).toList := by
  show ("-" ++ decimal (m + 1)).toList = _
  rw [String.toList_append]; rfl

theorem renderInt_numeralChars (n : Int) : ∀ c ∈ (renderInt n).toList, isNumeralChar c := by
  cases n with
  | ofNat m => intro c hc; exact Or.inl (decimal_digits m c hc)
  | negSucc m =>
    intro c hc
    rw [renderInt_toList_neg, List.mem_cons] at hc
    rcases hc with rfl | hc
    · exact Or.inr rfl
    · exact Or.inl (decimal_digits _ c hc)

theorem goAtoi_renderInt (n : Int) (h : n.natAbs ≤ numLimit) : goAtoi (renderInt n) = .num n := by
  cases n with
  | ofNat m => exact goAtoi_decimal (by simpa using h)
  | negSucc m =>
    unfold goAtoi
    rw [renderInt_toList_neg, goParseInt_neg _ (m + 1) (decimal_toList_ne_nil _) (parseDigits_decimal _) (by simpa using h)]
    rfl

theorem luaToNumber_renderInt (n : Int) (h : n.natAbs ≤ numLimit) : luaToNumber (renderInt n) = .num n := by
  rw [luaToNumber_clean _ (renderInt_numeralChars n)]
  have := goAtoi_renderInt n h
  unfold goAtoi at this
  rw [this]

/-! ## the monad -/

theorem bind_apply {α β} (m : M α) (f : α → M β) (s : State) :
    (m >>= f) s = match m s with
      | .ok a s' => f a s'
      | .error e s' => .error e s'
      | .unsupported w s' => .unsupported w s'
      | .outOfFuel s' => .outOfFuel s' := rfl

theorem M.bind_apply {α β} (m : M α) (f : α → M β) (s : State) : M.bind m f s = (m >>= f) s := rfl
theorem pure_apply {α} (a : α) (s : State) : (pure a : M α) s = .ok a s := rfl
theorem error_apply {α} (msg : String) (s : State) : (M.error msg : M α) s = .error msg s := rfl
theorem unsupported_apply {α} (msg : String) (s : State) : (M.unsupported msg : M α) s = .unsupported msg s := rfl
theorem modify_apply (f : State → State) (s : State) : M.modify f s = .ok () (f s) := rfl

/-- `m >>= k` once `m` has run.  This and `Res.leave`, `blockNext`, `readVarRes`, `assignVarRes`, `toNumRes` below exist
    for the set `lua_res`, which states the steps of the interpreter through them and not through `match`. -/
def Res.bind {α β} (r : Res α) (k : α → M β) : Res β :=
  match r with
  | .ok a s' => k a s'
  | .error e s' => .error e s'
  | .unsupported w s' => .unsupported w s'
  | .outOfFuel s' => .outOfFuel s'

theorem bind_run {α β} (m : M α) (k : α → M β) (s : State) : (m >>= k) s = Res.bind (m s) k := rfl
theorem Res.bind_ok {α β} (a : α) (s : State) (k : α → M β) : Res.bind (.ok a s) k = k a s := rfl
theorem Res.bind_error {α β} (e : String) (s : State) (k : α → M β) : Res.bind (.error e s) k = .error e s := rfl

/-! ## evaluator equations -/

theorem evalExpr_litNil (f : Nat) : evalExpr (f+1) .litNil = pure .nil := rfl
theorem evalExpr_litTrue (f : Nat) : evalExpr (f+1) .litTrue = pure (.bool true) := rfl
theorem evalExpr_litFalse (f : Nat) : evalExpr (f+1) .litFalse = pure (.bool false) := rfl
theorem evalExpr_num (f : Nat) (n : Int) : evalExpr (f+1) (.num n) = pure (.num n) := rfl
theorem evalExpr_str (f : Nat) (n : String) : evalExpr (f+1) (.str n) = pure (.str n) := rfl
theorem evalExpr_var (f : Nat) (x : String) : evalExpr (f+1) (.var x) = readVar x := rfl
theorem evalExpr_index (f : Nat) (t k : Expr) : evalExpr (f+1) (.index t k) = (do
      let tv ← evalExpr f t
      let kv ← evalExpr f k
      indexValue tv kv) := rfl
theorem evalExpr_or (f : Nat) (a b : Expr) : evalExpr (f+1) (.binop .or a b) = (do
      let av ← evalExpr f a
      if av.truthy then pure av else evalExpr f b) := rfl
theorem evalExpr_and (f : Nat) (a b : Expr) : evalExpr (f+1) (.binop .and a b) = (do
      let av ← evalExpr f a
      if av.truthy then evalExpr f b else pure av) := rfl
theorem evalExpr_binop (f : Nat) (op : BinOp) (a b : Expr) (h1 : op ≠ .and) (h2 : op ≠ .or) :
    evalExpr (f+1) (.binop op a b) = (do
      let av ← evalExpr f a
      let bv ← evalExpr f b
      binop op av bv) := by
  cases op <;> first | rfl | exact absurd rfl h1 | exact absurd rfl h2
theorem evalExpr_unop (f : Nat) (op : UnOp) (a : Expr) : evalExpr (f+1) (.unop op a) = (do
      let av ← evalExpr f a
      unop op av) := rfl
theorem evalExpr_table (f : Nat) (fields : List Expr) : evalExpr (f+1) (.table fields) = (do
      let vs ← evalList f fields
      allocTable { arr := vs }) := rfl
theorem evalExpr_call (f : Nat) (fn : FnRef) (args : List Expr) : evalExpr (f+1) (.call fn args) = (do
      let vs ← evalList f args
      let rs ← callFn fn vs
      pure (rs.headD .nil)) := rfl
theorem evalExpr_paren (f : Nat) (e : Expr) : evalExpr (f+1) (.paren e) = evalExpr f e := rfl

theorem evalMulti_call (f : Nat) (fn : FnRef) (args : List Expr) : evalMulti (f+1) (.call fn args) = (do
      let vs ← evalList f args
      callFn fn vs) := rfl
theorem evalMulti_one (f : Nat) (e : Expr) (h : ∀ fn args, e ≠ .call fn args) :
    evalMulti (f+1) e = (do let v ← evalExpr f e; pure [v]) :=
  evalMulti.eq_3 e f (fun fn args he => h fn args he)
theorem evalMulti_litTrue (f : Nat) : evalMulti (f+1) .litTrue = (do let v ← evalExpr f .litTrue; pure [v]) := rfl
theorem evalMulti_litFalse (f : Nat) : evalMulti (f+1) .litFalse = (do let v ← evalExpr f .litFalse; pure [v]) := rfl
theorem evalMulti_num (f : Nat) (n : Int) : evalMulti (f+1) (.num n) = (do let v ← evalExpr f (.num n); pure [v]) := rfl
theorem evalMulti_str (f : Nat) (n : String) : evalMulti (f+1) (.str n) = (do let v ← evalExpr f (.str n); pure [v]) := rfl
theorem evalMulti_var (f : Nat) (n : String) : evalMulti (f+1) (.var n) = (do let v ← evalExpr f (.var n); pure [v]) := rfl
theorem evalMulti_index (f : Nat) (t k : Expr) : evalMulti (f+1) (.index t k) = (do let v ← evalExpr f (.index t k); pure [v]) := rfl
theorem evalMulti_binop (f : Nat) (op : BinOp) (a b : Expr) :
    evalMulti (f+1) (.binop op a b) = (do let v ← evalExpr f (.binop op a b); pure [v]) := rfl
theorem evalMulti_unop (f : Nat) (op : UnOp) (a : Expr) :
    evalMulti (f+1) (.unop op a) = (do let v ← evalExpr f (.unop op a); pure [v]) := rfl
theorem evalMulti_table (f : Nat) (l : List Expr) :
    evalMulti (f+1) (.table l) = (do let v ← evalExpr f (.table l); pure [v]) := rfl

theorem evalList_nil (f : Nat) : evalList (f+1) [] = pure [] := rfl
theorem evalList_one (f : Nat) (e : Expr) : evalList (f+1) [e] = evalMulti f e := rfl
theorem evalList_cons (f : Nat) (e e' : Expr) (es : List Expr) : evalList (f+1) (e :: e' :: es) = (do
      let v ← evalExpr f e
      let vs ← evalList f (e' :: es)
      pure (v :: vs)) := rfl

theorem execStmt_localDecl (f : Nat) (names : List String) (exprs : List Expr) :
    execStmt (f+1) (.localDecl names exprs) = (do
      let vs ← evalList f exprs
      declareAll names vs
      pure none) := rfl
theorem execStmt_assignVar (f : Nat) (x : String) (e : Expr) :
    execStmt (f+1) (.assign (.var x) e) = (do
      let v ← evalExpr f e
      assignVar x v
      pure none) := rfl
theorem execStmt_assignIndex (f : Nat) (t k e : Expr) :
    execStmt (f+1) (.assign (.index t k) e) = (do
      let tv ← evalExpr f t
      let kv ← evalExpr f k
      let v ← evalExpr f e
      setIndex tv kv v
      pure none) := rfl
theorem execStmt_numFor (f : Nat) (x : String) (init limit : Expr) (step : Option Expr) (body : List Stmt) :
    execStmt (f+1) (.numFor x init limit step body) = (do
      let iv ← evalExpr f init
      let lv ← evalExpr f limit
      let sv ← match step with
        | some e => evalExpr f e
        | none => pure (.num 1)
      match iv, lv, sv with
      | .num i, .num l, .num st => numForLoop f x i l st body
      | _, _, _ => M.error "for statement: initial value, limit and step must be numbers") := rfl
theorem execStmt_ifThen (f : Nat) (c : Expr) (thn els : List Stmt) :
    execStmt (f+1) (.ifThen c thn els) = (do
      let cv ← evalExpr f c
      if cv.truthy then inScope (execBlock f thn) else inScope (execBlock f els)) := rfl
theorem execStmt_ret (f : Nat) (exprs : List Expr) :
    execStmt (f+1) (.ret exprs) = (do
      let vs ← evalList f exprs
      pure (some vs)) := rfl
theorem execStmt_callStmt (f : Nat) (fn : FnRef) (args : List Expr) :
    execStmt (f+1) (.callStmt fn args) = (do
      let vs ← evalList f args
      let _ ← callFn fn vs
      pure none) := rfl

theorem execBlock_nil (f : Nat) : execBlock (f+1) [] = pure none := rfl
theorem execBlock_cons (f : Nat) (s : Stmt) (rest : List Stmt) :
    execBlock (f+1) (s :: rest) = (do
      match ← execStmt f s with
      | some vs => pure (some vs)
      | none => execBlock f rest) := rfl

def blockNext (k : M (Option (List Value))) : Option (List Value) → M (Option (List Value))
  | some vs => pure (some vs)
  | none => k

theorem blockNext_none (k : M (Option (List Value))) : blockNext k none = k := rfl
theorem blockNext_some (k : M (Option (List Value))) (vs : List Value) : blockNext k (some vs) = pure (some vs) := rfl

theorem execBlock_cons_next (f : Nat) (s : Stmt) (rest : List Stmt) :
    execBlock (f+1) (s :: rest) = (execStmt f s >>= blockNext (execBlock f rest)) := by
  rw [execBlock_cons]
  rfl

theorem numForLoop_succ (f : Nat) (x : String) (i limit step : Int) (body : List Stmt) :
    numForLoop (f+1) x i limit step body =
    if (0 < step ∧ i ≤ limit) ∨ (step ≤ 0 ∧ limit ≤ i) then do
      match ← inScope (do declare x (.num i); execBlock f body) with
      | some vs => pure (some vs)
      | none => numForLoop f x (i + step) limit step body
    else pure none := rfl

/-! ## variables and scopes -/

theorem envGet_cons (n x : String) (v : Value) (e : List (String × Value)) :
    envGet ((n, v) :: e) x = if n = x then some v else envGet e x := rfl
theorem envGet_nil (x : String) : envGet [] x = none := rfl
theorem envSet_cons (n x : String) (v w : Value) (e : List (String × Value)) :
    envSet ((n, v) :: e) x w = if n = x then some ((n, w) :: e) else (envSet e x w).map fun e' => (n, v) :: e' := rfl
theorem envSet_nil (x : String) (w : Value) : envSet [] x w = none := rfl

/- The same without an `if`: on an environment with literal names `simp` settles `n ≠ x` by
   `String.reduceNe`; through `envGet_cons` it would have to carry both branches of every `if` and
   compare strings by unfolding `String.decEq`. -/
theorem envGet_cons_self (x : String) (v : Value) (e : List (String × Value)) :
    envGet ((x, v) :: e) x = some v := by rw [envGet_cons, if_pos rfl]
theorem envGet_cons_ne {n x : String} (h : n ≠ x) (v : Value) (e : List (String × Value)) :
    envGet ((n, v) :: e) x = envGet e x := by rw [envGet_cons, if_neg h]
theorem envSet_cons_self (x : String) (v w : Value) (e : List (String × Value)) :
    envSet ((x, v) :: e) x w = some ((x, w) :: e) := by rw [envSet_cons, if_pos rfl]
theorem envSet_cons_ne {n x : String} (h : n ≠ x) (v w : Value) (e : List (String × Value)) :
    envSet ((n, v) :: e) x w = (envSet e x w).map fun e' => (n, v) :: e' := by rw [envSet_cons, if_neg h]

theorem readVar_apply (x : String) (s : State) : readVar x s =
    match envGet s.env x with
    | some v => .ok v s
    | none =>
      if x = "KEYS" then .ok (.table keysId) s
      else if x = "ARGV" then .ok (.table argvId) s
      else .unsupported s!"global variable {x}" s := rfl

theorem assignVar_apply (x : String) (v : Value) (s : State) : assignVar x v s =
    match envSet s.env x v with
    | some e => .ok () { s with env := e }
    | none => .unsupported s!"assignment to global variable {x}" s := rfl

def readVarRes (x : String) (s : State) : Option Value → Res Value
  | some v => .ok v s
  | none =>
    if x = "KEYS" then .ok (.table keysId) s
    else if x = "ARGV" then .ok (.table argvId) s
    else .unsupported s!"global variable {x}" s

theorem readVar_run (x : String) (s : State) : readVar x s = readVarRes x s (envGet s.env x) := by
  rw [readVar_apply]; cases envGet s.env x <;> rfl
theorem readVarRes_some (x : String) (s : State) (v : Value) : readVarRes x s (some v) = .ok v s := rfl
theorem readVarRes_KEYS (s : State) : readVarRes "KEYS" s none = .ok (.table 0) s := rfl
theorem readVarRes_ARGV (s : State) : readVarRes "ARGV" s none = .ok (.table 1) s := rfl

def assignVarRes (x : String) (s : State) : Option (List (String × Value)) → Res Unit
  | some e => .ok () { s with env := e }
  | none => .unsupported s!"assignment to global variable {x}" s

theorem assignVar_run (x : String) (v : Value) (s : State) :
    assignVar x v s = assignVarRes x s (envSet s.env x v) := by
  rw [assignVar_apply]; cases envSet s.env x v <;> rfl
theorem assignVarRes_some (x : String) (s : State) (e : List (String × Value)) :
    assignVarRes x s (some e) = .ok () { s with env := e } := rfl

theorem declare_apply (x : String) (v : Value) (s : State) :
    declare x v s = .ok () { s with env := (x, v) :: s.env } := rfl

theorem declareAll_nil (vs : List Value) : declareAll [] vs = pure () := by cases vs <;> rfl
theorem declareAll_cons_nil (n : String) (ns : List String) :
    declareAll (n :: ns) [] = (do declare n .nil; declareAll ns []) := rfl
theorem declareAll_cons_cons (n : String) (ns : List String) (v : Value) (vs : List Value) :
    declareAll (n :: ns) (v :: vs) = (do declare n v; declareAll ns vs) := rfl

theorem isLocal_apply (x : String) (s : State) : isLocal x s = .ok (envGet s.env x).isSome s := rfl

theorem inScope_apply {α} (m : M α) (s : State) : inScope m s =
    match m s with
    | .ok a s' => .ok a { s' with env := s'.env.drop (s'.env.length - s.env.length) }
    | r => r := rfl

def Res.leave {α} (n : Nat) : Res α → Res α
  | .ok a s' => .ok a { s' with env := s'.env.drop (s'.env.length - n) }
  | r => r

theorem inScope_run {α} (m : M α) (s : State) : inScope m s = Res.leave s.env.length (m s) := rfl
theorem Res.leave_ok {α} (n : Nat) (a : α) (s' : State) :
    Res.leave n (.ok a s') = .ok a { s' with env := s'.env.drop (s'.env.length - n) } := rfl
theorem Res.leave_error {α} (n : Nat) (e : String) (s' : State) : Res.leave n (.error e s' : Res α) = .error e s' := rfl

/-! ## tables -/

theorem getTable_apply (id : Nat) (s : State) : getTable id s = .ok (s.heap.getD id {}) s := rfl
theorem putTable_apply (id : Nat) (t : Table) (s : State) :
    putTable id t s = .ok () { s with heap := s.heap.set id t } := rfl
theorem allocTable_apply (t : Table) (s : State) :
    allocTable t s = .ok (.table s.heap.length) { s with heap := s.heap ++ [t] } := rfl

theorem indexValue_table (id : Nat) (k : Value) (s : State) :
    indexValue (.table id) k s = .ok ((s.heap.getD id {}).get k) s := rfl
theorem indexValue_nil (k : Value) (s : State) :
    indexValue .nil k s = .error "attempt to index a non-table object(nil)" s := by
  delta indexValue
  exact congrArg (fun m => Res.error m s) (by decide +kernel)
theorem setIndex_table (id : Nat) (k v : Value) (s : State) (hk : k ≠ .nil) :
    setIndex (.table id) k v s = .ok () { s with heap := s.heap.set id ((s.heap.getD id {}).set k v) } := by
  simp only [setIndex, hk, if_false]
  rfl

theorem arrayPos_nat (k : Nat) (hk : k + 1 < maxArrayIndex) :
    arrayPos (.num ((k : Int) + 1)) = some k := by
  have h1 : (1 : Int) ≤ (k : Int) + 1 ∧ (k : Int) + 1 < (maxArrayIndex : Int) := by
    constructor <;> omega
  show (if (1 : Int) ≤ (k : Int) + 1 ∧ (k : Int) + 1 < (maxArrayIndex : Int) then
    some (((k : Int) + 1).toNat - 1) else none) = some k
  rw [if_pos h1]
  congr 1

theorem Table.get_nat (t : Table) (k : Nat) (hk : k + 1 < maxArrayIndex) :
    t.get (.num ((k : Int) + 1)) = t.arr.getD k .nil := by
  unfold Table.get
  rw [arrayPos_nat k hk]

theorem Table.get_num (t : Table) (i : Nat) (h1 : 1 ≤ i) (h2 : i < maxArrayIndex) :
    t.get (.num (i : Int)) = t.arr.getD (i - 1) .nil := by
  obtain ⟨k, rfl⟩ : ∃ k, i = k + 1 := ⟨i - 1, by omega⟩
  rw [Int.natCast_succ, Nat.add_sub_cancel]
  exact Table.get_nat t k h2

theorem Table.set_nat_lt (t : Table) (k : Nat) (v : Value) (hk : k + 1 < maxArrayIndex)
    (hl : k < t.arr.length) :
    t.set (.num ((k : Int) + 1)) v = { t with arr := t.arr.set k v } := by
  unfold Table.set
  rw [arrayPos_nat k hk]
  simp only [hl, if_true]

theorem Table.set_nat_append (t : Table) (k : Nat) (v : Value) (hk : k + 1 < maxArrayIndex)
    (hl : t.arr.length = k) :
    t.set (.num ((k : Int) + 1)) v = { t with arr := t.arr ++ [v] } := by
  unfold Table.set
  rw [arrayPos_nat k hk]
  simp only [hl, Nat.lt_irrefl, if_false, Nat.sub_self, List.replicate_zero, List.append_nil]

theorem Table.set_push (arr : List Value) (h : List (Value × Value)) (v : Value)
    (hlen : arr.length + 1 < maxArrayIndex) :
    (⟨arr, h⟩ : Table).set (.num ((arr.length + 1 : Nat) : Int)) v = ⟨arr ++ [v], h⟩ := by
  rw [Int.natCast_succ]
  exact Table.set_nat_append ⟨arr, h⟩ arr.length v hlen rfl

theorem Table.get_one (t : Table) : t.get (.num 1) = t.arr.getD 0 .nil := rfl
theorem Table.get_two (t : Table) : t.get (.num 2) = t.arr.getD 1 .nil := rfl
theorem Table.get_three (t : Table) : t.get (.num 3) = t.arr.getD 2 .nil := rfl

theorem getD_append_length {α} (H : List α) (t d : α) (l : List α) : (H ++ t :: l).getD H.length d = t := by
  simp [List.getD_eq_getElem?_getD]

theorem set_append_length {α} (H : List α) (t t' : α) (l : List α) : (H ++ t :: l).set H.length t' = H ++ t' :: l := by
  simp

theorem Table.len_of_no_nil (arr : List Value) (h : List (Value × Value)) (hn : ∀ v ∈ arr, v ≠ .nil) :
    (⟨arr, h⟩ : Table).len = arr.length := by
  unfold Table.len
  have : arr.reverse.dropWhile (· = .nil) = arr.reverse := by
    cases hr : arr.reverse with
    | nil => rfl
    | cons a l =>
      have : a ≠ .nil := hn a (by rw [← List.mem_reverse, hr]; exact List.mem_cons_self ..)
      rw [List.dropWhile_cons]; simp [this]
  simp only [this, List.length_reverse]

theorem Table.len_eq_length (t : Table) (h : ∀ v ∈ t.arr, v ≠ .nil) : t.len = t.arr.length :=
  Table.len_of_no_nil t.arr t.hash h

theorem getD_append_length1 {α} (H : List α) (a t d : α) (l : List α) :
    (H ++ a :: t :: l).getD (H.length + 1) d = t := by
  simp [List.getD_eq_getElem?_getD]

theorem getD_append_length2 {α} (H : List α) (a b t d : α) (l : List α) :
    (H ++ a :: b :: t :: l).getD (H.length + 2) d = t := by
  simp [List.getD_eq_getElem?_getD]

theorem set_append_length2 {α} (H : List α) (a b t t' : α) (l : List α) :
    (H ++ a :: b :: t :: l).set (H.length + 2) t' = H ++ a :: b :: t' :: l := by
  simp [List.set_append_right]

theorem unpack_eq (arr : List Value) : (List.range arr.length).map (fun i => arr.getD i .nil) = arr := by
  apply List.ext_getElem
  · simp
  · intro i h1 h2
    simp [List.getD_eq_getElem?_getD, h2]

theorem getD_map_str (l : List String) (k : Nat) :
    (l.map Value.str).getD k .nil = (match l[k]? with | some v => .str v | none => .nil) := by
  rw [List.getD_eq_getElem?_getD, List.getElem?_map]
  cases l[k]? <;> rfl

/-! ## builtins -/

theorem callFn_tonumber_str (x : String) (s : State) (h : envGet s.env "tonumber" = none) :
    callFn (.global "tonumber") [.str x] s =
      match luaToNumber x with
      | .num n => .ok [.num n] s
      | .nil => .ok [.nil] s
      | .unsupported why => .unsupported why s := by
  delta callFn
  simp only [bind_apply, isLocal_apply, h, Option.isSome_none]
  cases luaToNumber x <;> rfl

def toNumRes (s : State) : ToNumber → Res (List Value)
  | .num n => .ok [.num n] s
  | .nil => .ok [.nil] s
  | .unsupported why => .unsupported why s

theorem callFn_tonumber_str_run (x : String) (s : State) (h : envGet s.env "tonumber" = none) :
    callFn (.global "tonumber") [.str x] s = toNumRes s (luaToNumber x) := by
  rw [callFn_tonumber_str x s h]; cases luaToNumber x <;> rfl
theorem toNumRes_num (s : State) (n : Int) : toNumRes s (.num n) = .ok [.num n] s := rfl
theorem toNumRes_nil (s : State) : toNumRes s .nil = .ok [.nil] s := rfl

theorem callFn_tonumber_num (n : Int) (s : State) (h : envGet s.env "tonumber" = none) :
    callFn (.global "tonumber") [.num n] s = .ok [.num n] s := by
  delta callFn
  simp only [bind_apply, isLocal_apply, h, Option.isSome_none]
  rfl

theorem callFn_tonumber_bool (b : Bool) (s : State) (h : envGet s.env "tonumber" = none) :
    callFn (.global "tonumber") [.bool b] s = .ok [.nil] s := by
  delta callFn
  simp only [bind_apply, isLocal_apply, h, Option.isSome_none]
  rfl

theorem callFn_tonumber_nil (s : State) (h : envGet s.env "tonumber" = none) :
    callFn (.global "tonumber") [.nil] s = .ok [.nil] s := by
  delta callFn
  simp only [bind_apply, isLocal_apply, h, Option.isSome_none]
  rfl

theorem callFn_tostring_num (n : Int) (s : State) (h : envGet s.env "tostring" = none) :
    callFn (.global "tostring") [.num n] s = .ok [.str (renderInt n)] s := by
  delta callFn
  simp only [bind_apply, isLocal_apply, h, Option.isSome_none]
  rfl

theorem callFn_unpack (id : Nat) (s : State) (h : envGet s.env "unpack" = none) :
    callFn (.global "unpack") [.table id] s =
      (let tb := s.heap.getD id {}
       if tb.len ≤ unpackSafe then .ok ((List.range tb.len).map fun i => tb.arr.getD i .nil) s
       else if tb.len ≥ unpackOverflow then .error "registry overflow" s
       else .unsupported "unpack near the data stack limit" s) := by
  delta callFn
  simp only [bind_apply, isLocal_apply, h, Option.isSome_none]

  simp only [List.any_nil, Bool.false_eq_true, if_false, bind_apply, getTable_apply]
  split
  · rfl
  · split <;> rfl

def tonumberValue : Value → ToNumber
  | .num n => .num n
  | .str s => luaToNumber s
  | _ => .nil

theorem callFn_tonumber (v : Value) (s : State) (h : envGet s.env "tonumber" = none) :
    callFn (.global "tonumber") [v] s =
      match tonumberValue v with
      | .num n => .ok [.num n] s
      | .nil => .ok [.nil] s
      | .unsupported why => .unsupported why s := by
  simp only [callFn, bind_apply, isLocal_apply, h, Option.isSome_none]
  cases v with
  | str x => simp only [tonumberValue]; cases luaToNumber x <;> rfl
  | _ => rfl

theorem tonumberValue_num (n : Int) : tonumberValue (.num n) = .num n := rfl
theorem tonumberValue_nil : tonumberValue .nil = .nil := rfl

theorem tonumberValue_decimal {n : Nat} (h : n ≤ numLimit) : tonumberValue (.str (decimal n)) = .num n := by
  unfold tonumberValue
  exact luaToNumber_decimal h

theorem not_le_unpackSafe {n : Nat} (h : unpackOverflow ≤ n) : ¬ n ≤ unpackSafe := by
  have : unpackSafe = 4800 := rfl
  have : unpackOverflow = 5120 := rfl
  omega

def unpackValues (t : Table) : List Value := (List.range t.len).map fun i => t.arr.getD i .nil

theorem callFn_unpack_values (s : State) (id : Nat) (h : envGet s.env "unpack" = none) :
    callFn (.global "unpack") [.table id] s =
      (if (s.heap.getD id {}).len ≤ unpackSafe then .ok (unpackValues (s.heap.getD id {})) s
       else if (s.heap.getD id {}).len ≥ unpackOverflow then .error "registry overflow" s
       else .unsupported "unpack near the data stack limit" s) :=
  callFn_unpack id s h

theorem unpackValues_of_no_nil (t : Table) (h : ∀ v ∈ t.arr, v ≠ .nil) : unpackValues t = t.arr := by
  unfold unpackValues
  rw [Table.len_eq_length t h]
  exact unpack_eq t.arr

theorem callFn_redis_call (args : List Value) (s : State) (h : envGet s.env "redis" = none) :
    callFn (.field "redis" "call") args s = redisCall true args s := by
  delta callFn
  simp only [bind_apply, isLocal_apply, h, Option.isSome_none]
  rfl

theorem callFn_redis_pcall (args : List Value) (s : State) (h : envGet s.env "redis" = none) :
    callFn (.field "redis" "pcall") args s = redisCall false args s := by
  delta callFn
  simp only [bind_apply, isLocal_apply, h, Option.isSome_none]
  rfl

/-! ## operators -/

theorem checkNum_ok {n : Int} (h : n.natAbs ≤ numLimit) (s : State) : checkNum n s = .ok (.num n) s := by
  unfold checkNum
  simp only [Nat.not_lt.mpr h, if_false]
  rfl

theorem checkNum_big {n : Int} (h : numLimit < n.natAbs) (s : State) :
    checkNum n s = .unsupported "number beyond 2^53" s := by
  unfold checkNum
  simp only [h, if_true]
  rfl

def arithErr (a b : Value) : String := s!"cannot perform arithmetic between {a.typeName} and {b.typeName}"
def compareErr (a b : Value) : String := s!"attempt to compare {a.typeName} with {b.typeName}"

theorem binop_concat_str_str (a b : String) (s : State) :
    binop .concat (.str a) (.str b) s = .ok (.str (a ++ b)) s := rfl
theorem binop_add_num_num (x y : Int) (s : State) : binop .add (.num x) (.num y) s = checkNum (x + y) s := rfl
theorem binop_sub_num_num (x y : Int) (s : State) : binop .sub (.num x) (.num y) s = checkNum (x - y) s := rfl
theorem binop_add_nil_num (y : Int) (s : State) :
    binop .add .nil (.num y) s = .error (arithErr .nil (.num y)) s := rfl
theorem binop_add_num_nil (y : Int) (s : State) :
    binop .add (.num y) .nil s = .error (arithErr (.num y) .nil) s := rfl
theorem binop_add_nil_nil (s : State) :
    binop .add .nil .nil s = .error (arithErr .nil .nil) s := rfl
theorem binop_lt_num_num (x y : Int) (s : State) :
    binop .lt (.num x) (.num y) s = .ok (.bool (decide (x < y))) s := rfl
theorem binop_lt_nil_num (y : Int) (s : State) :
    binop .lt .nil (.num y) s = .error (compareErr .nil (.num y)) s := rfl
theorem binop_eq_apply (a b : Value) (s : State) : binop .eq a b s = .ok (.bool (decide (a = b))) s := rfl
theorem binop_ne_apply (a b : Value) (s : State) : binop .ne a b s = .ok (.bool (!decide (a = b))) s := rfl
theorem unop_neg_num (n : Int) (s : State) : unop .neg (.num n) s = .ok (.num (-n)) s := rfl

theorem unop_len_table (id : Nat) (s : State) :
    unop .len (.table id) s = .ok (.num ((s.heap.getD id {}).len : Nat)) s := rfl

theorem binop_div_exact {x y : Int} (hy : y ≠ 0) (hm : x % y = 0) (s : State) :
    binop .div (.num x) (.num y) s = checkNum (x / y) s := by
  show arith .div x y s = _
  simp only [arith, hy, if_false, hm, if_true]

theorem binop_ge_num_num (x y : Int) (s : State) :
    binop .ge (.num x) (.num y) s = .ok (.bool (decide (y ≤ x))) s := rfl
theorem binop_gt_num_num (x y : Int) (s : State) :
    binop .gt (.num x) (.num y) s = .ok (.bool (decide (y < x))) s := rfl
theorem binop_gt_num_nil (x : Int) (s : State) :
    binop .gt (.num x) .nil s = .error (compareErr (.num x) .nil) s := rfl
theorem binop_lt_num_nil (x : Int) (s : State) :
    binop .lt (.num x) .nil s = .error (compareErr (.num x) .nil) s := rfl
theorem binop_lt_nil_nil (s : State) :
    binop .lt .nil .nil s = .error (compareErr .nil .nil) s := rfl

/-! ### the messages of a failed comparison (`compareErr`, an interpolated string of Model/Lua.lean), as literals: the kernel
    evaluates the interpolation (`decide +kernel`), the elaborator's `whnf` would unfold `String` operations for seconds -/

theorem compareErr_num_nil (x : Int) :
    compareErr (.num x) .nil = "attempt to compare number with nil" := by
  show compareErr (.num 0) .nil = _
  decide +kernel
theorem compareErr_nil_num (y : Int) :
    compareErr .nil (.num y) = "attempt to compare nil with number" := by
  show compareErr .nil (.num 0) = _
  decide +kernel
theorem compareErr_nil_nil : compareErr .nil .nil = "attempt to compare nil with nil" := by
  decide +kernel

theorem binop_ge_nil_num (y : Int) (s : State) :
    binop .ge .nil (.num y) s = .error "attempt to compare nil with number" s :=
  compareErr_nil_num 0 ▸ (rfl : binop .ge .nil (.num y) s = .error (compareErr .nil (.num 0)) s)

theorem binop_div_two (n : Nat) (he : n % 2 = 0) (h : n ≤ numLimit) (s : State) :
    binop .div (.num (n : Int)) (.num 2) s = .ok (.num ((n / 2 : Nat) : Int)) s := by
  rw [binop_div_exact (by decide) (by omega), show (n : Int) / 2 = ((n / 2 : Nat) : Int) by omega]
  exact checkNum_ok (by omega) s

/-! ## `redis.call` / `redis.pcall` -/

theorem cmdArgs_nil : cmdArgs [] = some [] := rfl
theorem cmdArgs_str (a : String) (vs : List Value) :
    cmdArgs (.str a :: vs) = (cmdArgs vs).map (a :: ·) := by
  show (match strOrNum (.str a), cmdArgs vs with | some s, some ss => some (s :: ss) | _, _ => none) = _
  cases cmdArgs vs <;> rfl
theorem cmdArgs_num (n : Int) (vs : List Value) :
    cmdArgs (.num n :: vs) = (cmdArgs vs).map (renderInt n :: ·) := by
  show (match strOrNum (.num n), cmdArgs vs with | some s, some ss => some (s :: ss) | _, _ => none) = _
  cases cmdArgs vs <;> rfl

theorem cmdArgs_map_str (l : List String) : cmdArgs (l.map .str) = some l := by
  induction l with
  | nil => rfl
  | cons a l ih => rw [List.map_cons, cmdArgs_str, ih]; rfl

theorem cmdArgs_map_num (l : List Nat) :
    cmdArgs (l.map fun n : Nat => Value.num (n : Int)) = some (l.map decimal) := by
  induction l with
  | nil => rfl
  | cons a l ih => rw [List.map_cons, cmdArgs_num, ih]; rfl

theorem cmdArgs_nilArg (vs : List Value) : cmdArgs (.nil :: vs) = none := rfl
theorem cmdArgs_boolArg (b : Bool) (vs : List Value) : cmdArgs (.bool b :: vs) = none := rfl

theorem redisCall_badArgs (ff : Bool) (v : Value) (vs : List Value) (s : State) (h : cmdArgs (v :: vs) = none) :
    redisCall ff (v :: vs) s = .error "Lua redis lib command arguments must be strings or integers" s := by
  unfold redisCall
  simp only [h]
  rfl

theorem redisCall_key (ff : Bool) (name k : String) (vals : List Value) (cargs : List String) (s : State)
    (h : cmdArgs vals = some cargs) :
    redisCall ff (.str name :: .str k :: vals) s =
      match redisCommand name (k :: cargs) s.store with
      | .ok st r => (do let v ← replyToLua r; pure [v]) { s with store := st, log := k :: s.log }
      | .error msg => if ff then .error msg { s with log := k :: s.log } else .ok [.nil] { s with log := k :: s.log }
      | .unsupported why => .unsupported why { s with log := k :: s.log } := by
  unfold redisCall
  simp only [cmdArgs_str, h, Option.map_some]
  cases redisCommand name (k :: cargs) s.store <;> rfl

/-- for the result `(st', o)` of a store-level command of Model/Redis.lean (the Count-Min ties); `LuaHLL.cmdResult` at the
    end of the file is the same for the result of `redisCommand`, left as a term (the HyperLogLog and Top-K ties). -/
def cmdRes {α} (ff : Bool) (k msg : String) (f : Store → α → CmdReply) (s : State) : Store × Option α → Res (List Value)
  | (st', some a) => Res.bind (replyToLua (f st' a) { s with store := st', log := k :: s.log }) fun v => pure [v]
  | (_, none) => if ff then .error msg { s with log := k :: s.log } else .ok [.nil] { s with log := k :: s.log }

theorem cmdRes_some {α} (ff : Bool) (k msg : String) (f : Store → α → CmdReply) (s : State) (st' : Store) (a : α) :
    cmdRes ff k msg f s (st', some a) =
      Res.bind (replyToLua (f st' a) { s with store := st', log := k :: s.log }) fun v => pure [v] := rfl
theorem cmdRes_none_call {α} (k msg : String) (f : Store → α → CmdReply) (s : State) (st' : Store) :
    cmdRes true k msg f s (st', none) = .error msg { s with log := k :: s.log } := rfl
theorem cmdRes_none_pcall {α} (k msg : String) (f : Store → α → CmdReply) (s : State) (st' : Store) :
    cmdRes false k msg f s (st', none) = .ok [.nil] { s with log := k :: s.log } := rfl

theorem redisCall_cmd {α} (ff : Bool) (name k msg : String) (vals : List Value) (cargs : List String) (s : State)
    (m : Script α) (f : Store → α → CmdReply) (h : cmdArgs vals = some cargs)
    (hc : redisCommand name (k :: cargs) s.store =
      match m s.store with
      | (st', some a) => .ok st' (f st' a)
      | (_, none) => .error msg) :
    redisCall ff (.str name :: .str k :: vals) s = cmdRes ff k msg f s (m s.store) := by
  rw [redisCall_key ff name k vals cargs s h, hc]
  cases m s.store with
  | mk st' o => cases o <;> rfl

theorem replyToLua_int (n : Int) (s : State) : replyToLua (.int n) s = .ok (.num n) s := rfl
theorem replyToLua_bulk (v : String) (s : State) : replyToLua (.bulk v) s = .ok (.str v) s := rfl
theorem replyToLua_nil (s : State) : replyToLua .nil s = .ok (.bool false) s := rfl
theorem replyToLua_status (v : String) (s : State) : replyToLua (.status v) s =
    .ok (.table s.heap.length) { s with heap := s.heap ++ [{ hash := [(.str "ok", .str v)] }] } := rfl
theorem replyToLua_list (l : List String) (s : State) : replyToLua (.list l) s =
    .ok (.table s.heap.length) { s with heap := s.heap ++ [{ arr := l.map .str }] } := rfl

/-! ## the list commands `LINDEX`, `LSET`, `LRANGE`, `DEL`, `LPUSH`, `RPUSH`

  (the field `log` that every statement about `redisCall` carries is the list of keys handed to commands, Model/Lua.lean `State`) -/

theorem intArg_decimal {n : Nat} (h : n ≤ numLimit) (k : Int → CmdRes) : intArg (decimal n) k = k n := by
  unfold intArg; rw [goAtoi_decimal h]

theorem resolveIndex_nat (len c : Nat) : resolveIndex len (c : Int) = if c < len then some c else none := by
  unfold resolveIndex
  simp only [Int.natCast_nonneg, if_true, Int.toNat_natCast]

/-- `c ≤ 2^53`: the index is read with `Atoi` (`intArg`), which answers `.big` beyond; the spelling `-0`, which
    miniredis rejects for `LINDEX`, is not a `decimal c`. -/
theorem redisCommand_LINDEX (k : String) {c : Nat} (h : c ≤ numLimit) (st : Store) :
    redisCommand "LINDEX" [k, decimal c] st =
      match st k with
      | none => .ok st .nil
      | some (.list l) => (match l[c]? with | some v => .ok st (.bulk v) | none => .ok st .nil)
      | some _ => .error msgWrongType := by
  delta redisCommand
  show (intArg (decimal c) fun n => if decimal c = "-0" then CmdRes.error msgInvalidInt else _) = _
  rw [intArg_decimal h]
  have h0 : decimal c ≠ "-0" := renderInt_natCast_ne_minus_zero c
  simp only [h0, if_false, Int.natCast_nonneg, if_true, Int.toNat_natCast, liftCmd, cmdLINDEX]
  cases hk : st k with
  | none => rfl
  | some val =>
    cases val with
    | list l => simp only []; cases l[c]? <;> rfl
    | _ => rfl

theorem redisCommand_LSET (k v : String) {c : Nat} (h : c ≤ numLimit) (st : Store) :
    redisCommand "LSET" [k, decimal c, v] st =
      match st k with
      | none => .error "ERR no such key"
      | some (.list l) =>
        if c < l.length then .ok (st.set k (.list (l.set c v))) (.status "OK") else .error "ERR index out of range"
      | some _ => .error msgWrongType := by
  delta redisCommand
  show (intArg (decimal c) fun n => _) = _
  rw [intArg_decimal h]
  cases hk : st k with
  | none => rfl
  | some val =>
    cases val with
    | list l =>
      simp only [resolveIndex_nat]
      by_cases hc : c < l.length
      · simp only [hc, if_true, liftCmd, cmdLSET, hk]
      · simp only [hc, if_false]
    | _ => rfl

theorem redisCommand_LRANGE (k : String) (st : Store) :
    redisCommand "LRANGE" [k, "0", "-1"] st =
      match st k with
      | none => .ok st (.list [])
      | some (.list l) => .ok st (.list l)
      | some _ => .error msgWrongType := by
  have h0 : goAtoi "0" = .num 0 := by decide
  have h1 : goAtoi "-1" = .num (-1) := by decide
  delta redisCommand
  show (intArg "0" fun s => intArg "-1" fun e => _) = _
  simp only [intArg, h0, h1]
  cases hk : st k with
  | none => simp only [liftCmd, cmdLRANGE, hk]; rfl
  | some val =>
    cases val with
    | list l => simp only [liftCmd, cmdLRANGE, hk]; rfl
    | _ => rfl

theorem redisCommand_LRANGE_cmd (k : String) (st : Store) :
    redisCommand "LRANGE" [k, "0", "-1"] st =
      (match (cmdLRANGE k st).2 with
       | some l => .ok st (.list l)
       | none => .error msgWrongType) := by
  rw [redisCommand_LRANGE]
  unfold cmdLRANGE
  cases st k with
  | none => rfl
  | some w => cases w <;> rfl

theorem redisCommand_DEL (k : String) (st : Store) :
    redisCommand "DEL" [k] st = .ok (st.del k) (.int (if (st k).isSome then 1 else 0)) := by
  delta redisCommand
  show (let (st', n) := delAll st [k]; CmdRes.ok st' (.int n)) = _
  simp only [delAll, cmdDEL]
  cases (st k).isSome <;> rfl

theorem redisCommand_LPUSH (k v : String) (vs : List String) (st : Store) :
    redisCommand "LPUSH" (k :: v :: vs) st =
    (match cmdLPUSH k (v :: vs) st with
     | (st', some _) => .ok st' (.int (listLength st' k))
     | (_, none) => .error msgWrongType) := rfl

theorem redisCommand_RPUSH (k v : String) (vs : List String) (st : Store) :
    redisCommand "RPUSH" (k :: v :: vs) st =
    (match cmdRPUSH k (v :: vs) st with
     | (st', some _) => .ok st' (.int (listLength st' k))
     | (_, none) => .error msgWrongType) := rfl

theorem redisCommand_LPUSH_nil (k : String) (st : Store) :
    redisCommand "LPUSH" [k] st = .error (msgWrongNumber "lpush") := by
  delta redisCommand
  rfl

theorem redisCommand_RPUSH_nil (k : String) (st : Store) :
    redisCommand "RPUSH" [k] st = .error (msgWrongNumber "rpush") := by
  delta redisCommand
  rfl

def bulkReply : Option String → CmdReply
  | some v => .bulk v
  | none => .nil

/-- `LINDEX` of an absent key or beyond the list is the `false` that `tonumber` turns into `nil`. -/
def bulkValue : Option String → Value
  | some v => .str v
  | none => .bool false

theorem replyToLua_bulkReply (o : Option String) (s : State) : replyToLua (bulkReply o) s = .ok (bulkValue o) s := by
  cases o <;> rfl

theorem redisCall_LINDEX (ff : Bool) (k : String) {c : Nat} (hc : c ≤ numLimit) (s : State) :
    redisCall ff [.str "LINDEX", .str k, .num c] s =
      cmdRes ff k msgWrongType (fun _ => bulkReply) s (cmdLINDEX k c s.store) := by
  refine redisCall_cmd ff "LINDEX" k _ [.num c] [decimal c] s _ _ rfl ?_
  rw [redisCommand_LINDEX k hc, cmdLINDEX]
  cases s.store k with
  | none => rfl
  | some val =>
    cases val with
    | list l => simp only []; cases l[c]? <;> rfl
    | _ => rfl

/-- why `LSET` failed (the message is not part of the store-level model). -/
def lsetMsg (st : Store) (k : String) : String :=
  match st k with
  | none => "ERR no such key"
  | some (.list _) => "ERR index out of range"
  | some _ => msgWrongType

theorem redisCall_LSET (ff : Bool) (k : String) {c : Nat} (hc : c ≤ numLimit) (x : Nat) (s : State) :
    redisCall ff [.str "LSET", .str k, .num c, .num x] s =
      cmdRes ff k (lsetMsg s.store k) (fun _ _ => .status "OK") s (cmdLSET k c (decimal x) s.store) := by
  refine redisCall_cmd ff "LSET" k _ [.num c, .num x] [decimal c, decimal x] s _ _ rfl ?_
  rw [redisCommand_LSET k _ hc, cmdLSET, lsetMsg]
  cases s.store k with
  | none => rfl
  | some val =>
    cases val with
    | list l => simp only []; split <;> rfl
    | _ => rfl

theorem redisCall_LRANGE (ff : Bool) (k : String) (s : State) :
    redisCall ff [.str "LRANGE", .str k, .num 0, .num (-1)] s =
      cmdRes ff k msgWrongType (fun _ => .list) s (cmdLRANGE k s.store) := by
  refine redisCall_cmd ff "LRANGE" k _ [.num 0, .num (-1)] ["0", "-1"] s _ _ rfl ?_
  rw [redisCommand_LRANGE, cmdLRANGE]
  cases s.store k with
  | none => rfl
  | some val => cases val <;> rfl

theorem redisCall_DEL (ff : Bool) (k : String) (s : State) :
    redisCall ff [.str "DEL", .str k] s =
      cmdRes ff k "" (fun _ _ => .int (if (s.store k).isSome then 1 else 0)) s (cmdDEL k s.store) :=
  redisCall_cmd ff "DEL" k _ [] [] s _ _ rfl (redisCommand_DEL k s.store)

def pushMsg (cmd : String) (vs : List String) : String :=
  if vs = [] then msgWrongNumber cmd else msgWrongType

theorem redisCall_LPUSH (ff : Bool) (k : String) (vals : List Value) (vs : List String) (s : State)
    (h : cmdArgs vals = some vs) :
    redisCall ff (.str "LPUSH" :: .str k :: vals) s =
      cmdRes ff k (pushMsg "lpush" vs) (fun st' _ => .int (listLength st' k)) s (cmdLPUSH k vs s.store) := by
  refine redisCall_cmd ff "LPUSH" k _ vals vs s _ _ h ?_
  cases vs with
  | nil => rfl
  | cons v vs =>
    rw [redisCommand_LPUSH]
    cases cmdLPUSH k (v :: vs) s.store with
    | mk st' o => cases o <;> rfl

theorem redisCall_RPUSH (ff : Bool) (k : String) (vals : List Value) (vs : List String) (s : State)
    (h : cmdArgs vals = some vs) :
    redisCall ff (.str "RPUSH" :: .str k :: vals) s =
      cmdRes ff k (pushMsg "rpush" vs) (fun st' _ => .int (listLength st' k)) s (cmdRPUSH k vs s.store) := by
  refine redisCall_cmd ff "RPUSH" k _ vals vs s _ _ h ?_
  cases vs with
  | nil => rfl
  | cons v vs =>
    rw [redisCommand_RPUSH]
    cases cmdRPUSH k (v :: vs) s.store with
    | mk st' o => cases o <;> rfl

/-! ## what is claimed of a result -/

/-- `P` of the state after normal completion, `R` of an early `return` and the state it leaves, `E` of the state
    after a Lua error (`E` does not see the message, so `run_of_post` can only say `∃ msg`).  `unsupported` and out of
    fuel are `False`: a `Post` of a script's block then gives an equation for `Lua.run` without side conditions. -/
def Post (P : State → Prop) (R : List Value → State → Prop) (E : State → Prop) :
    Res (Option (List Value)) → Prop
  | .ok none s => P s
  | .ok (some vs) s => R vs s
  | .error _ s => E s
  | .unsupported _ _ => False
  | .outOfFuel _ => False

variable {P P' : State → Prop} {R R' : List Value → State → Prop} {E E' : State → Prop}

theorem Post_ok_none (s : State) : Post P R E (.ok none s) = P s := rfl
theorem Post_ok_some (vs : List Value) (s : State) : Post P R E (.ok (some vs) s) = R vs s := rfl
theorem Post_error (e : String) (s : State) : Post P R E (.error e s) = E s := rfl

theorem Post.mono {r : Res (Option (List Value))} (h : Post P R E r) (hP : ∀ s, P s → P' s)
    (hR : ∀ vs s, R vs s → R' vs s) (hE : ∀ s, E s → E' s) : Post P' R' E' r := by
  cases r with
  | ok a s =>
    cases a with
    | none => exact hP s h
    | some vs => exact hR vs s h
  | error e s => exact hE s h
  | unsupported w s => exact h
  | outOfFuel s => exact h

theorem Post.imp {r : Res (Option (List Value))} (h : Post P R E r) (hP : ∀ s, P s → P' s) : Post P' R E r :=
  h.mono hP (fun _ _ h => h) (fun _ h => h)

theorem Post.next {r : Res (Option (List Value))} {k : M (Option (List Value))}
    (h : Post (fun s => Post P R E (k s)) R E r) : Post P R E (Res.bind r (blockNext k)) := by
  cases r with
  | ok a s => cases a <;> exact h
  | error e s => exact h
  | unsupported w s => exact h
  | outOfFuel s => exact h

theorem Post.leave {n : Nat} {r : Res (Option (List Value))}
    (h : Post (fun s => P { s with env := s.env.drop (s.env.length - n) })
      (fun vs s => R vs { s with env := s.env.drop (s.env.length - n) }) E r) : Post P R E (Res.leave n r) := by
  cases r with
  | ok a s => cases a <;> exact h
  | error e s => exact h
  | unsupported w s => exact h
  | outOfFuel s => exact h

theorem Post.eq {r : Res (Option (List Value))} {t : State}
    (h : Post (fun s => s = t) (fun _ _ => False) (fun _ => False) r) : r = .ok none t := by
  cases r with
  | ok a s =>
    cases a with
    | none => exact congrArg _ h
    | some vs => exact h.elim
  | error e s => exact h.elim
  | unsupported w s => exact h.elim
  | outOfFuel s => exact h.elim

/-! ## from the result of a script to `Lua.run` -/

/-- the error message is left open (`E` does not see it); `64` is the depth `run` allows a reply made of tables. -/
theorem run_of_post {α} {fuel : Nat} {script : Block} {keys args : List String} {st : Store}
    (m : Store × Option α) (reply : α → Reply)
    (h : Post (fun _ => False)
      (fun vs s' => ∃ a, m = (s'.store, some a) ∧ toReply s'.heap 64 (vs.headD .nil) = .ok (reply a))
      (fun s' => m = (s'.store, none)) (execBlock fuel script (initState keys args st))) :
    ∃ msg, run fuel script keys args st =
      (m.1, match m.2 with
        | some a => .reply (reply a)
        | none => .error msg) := by
  unfold run runLog
  generalize execBlock fuel script (initState keys args st) = r at h
  cases r with
  | ok o s' =>
    cases o with
    | none => exact h.elim
    | some vs =>
      obtain ⟨a, rfl, ht⟩ := h
      exact ⟨"", by simp only [ht]⟩
  | error msg s' =>
    subst h
    exact ⟨msg, rfl⟩
  | unsupported w s' => exact h.elim
  | outOfFuel s' => exact h.elim

theorem run_of_post_ok {fuel : Nat} {script : Block} {keys args : List String} {st : Store} (st' : Store) (r : Reply)
    (h : Post (fun _ => False) (fun vs s' => s'.store = st' ∧ toReply s'.heap 64 (vs.headD .nil) = .ok r)
      (fun _ => False) (execBlock fuel script (initState keys args st))) :
    run fuel script keys args st = (st', .reply r) := by
  unfold run runLog
  generalize execBlock fuel script (initState keys args st) = res at h
  cases res with
  | ok o s' =>
    cases o with
    | none => exact h.elim
    | some vs => simp only [h.2, h.1]
  | error msg s' => exact h.elim
  | unsupported w s' => exact h.elim
  | outOfFuel s' => exact h.elim

/-! ## the numeric `for` by an invariant -/

/-- One round of the body needs fuel `K`; the loop needs `n + K + 1`: each round spends one unit on the loop test before
    its body runs, and the test after the last round still finds fuel.  Stated from round `k` on with `m` rounds to go,
    for the induction; `numForLoop_spec0` is the case `k = 0`. -/
theorem numForLoop_spec {x : String} {body : List Stmt} {step limit i0 : Int} (hstep : 0 < step)
    (K n : Nat) (P : Nat → State → Prop) (Q : Res (Option (List Value)) → Prop)
    (hin : ∀ j, j < n → i0 + j * step ≤ limit) (hout : limit < i0 + n * step)
    (hbody : ∀ j, j < n → ∀ s f, P j s →
      match inScope (do declare x (.num (i0 + j * step)); execBlock (f + K) body) s with
      | .ok none s' => P (j + 1) s'
      | r => Q r)
    (hend : ∀ s, P n s → Q (.ok none s)) :
    ∀ (m k F : Nat) (s : State), k + m = n → m + K + 1 ≤ F → P k s →
      Q (numForLoop F x (i0 + k * step) limit step body s) := by
  intro m
  induction m with
  | zero =>
    intro k F s hk hF hP
    obtain ⟨F', rfl⟩ : ∃ F', F = F' + 1 := ⟨F - 1, by omega⟩
    have hkn : k = n := by omega
    subst hkn
    have hc : ¬ ((0 < step ∧ i0 + (k : Int) * step ≤ limit) ∨ (step ≤ 0 ∧ limit ≤ i0 + (k : Int) * step)) := by
      intro h
      rcases h with ⟨_, h⟩ | ⟨h, _⟩
      · exact absurd hout (Int.not_lt.mpr h)
      · exact absurd hstep (Int.not_lt.mpr h)
    rw [numForLoop_succ]
    simp only [hc, if_false]
    exact hend s hP
  | succ m ih =>
    intro k F s hk hF hP
    obtain ⟨F', rfl⟩ : ∃ F', F = F' + 1 := ⟨F - 1, by omega⟩
    have hkn : k < n := by omega
    have hc : (0 < step ∧ i0 + (k : Int) * step ≤ limit) ∨ (step ≤ 0 ∧ limit ≤ i0 + (k : Int) * step) :=
      Or.inl ⟨hstep, hin k hkn⟩
    obtain ⟨f, rfl⟩ : ∃ f, F' = f + K := ⟨F' - K, by omega⟩
    have hb := hbody k hkn s f hP
    rw [numForLoop_succ]
    simp only [hc, if_true, bind_apply]
    generalize inScope (do declare x (.num (i0 + k * step)); execBlock (f + K) body) s = r at hb ⊢
    cases r with
    | ok a s' =>
      cases a with
      | none =>
        simp only at hb ⊢
        have := ih (k + 1) (f + K) s' (by omega) (by omega) hb
        have e : i0 + ((k + 1 : Nat) : Int) * step = i0 + (k : Int) * step + step := by
          rw [Int.natCast_succ, Int.add_mul, Int.one_mul, Int.add_assoc]
        rw [e] at this
        exact this
      | some vs => exact hb
    | error e s' => exact hb
    | unsupported w s' => exact hb
    | outOfFuel s' => exact hb

theorem numForLoop_spec0 {x : String} {body : List Stmt} {step limit i0 : Int} (hstep : 0 < step)
    (K n : Nat) (P : Nat → State → Prop) (Q : Res (Option (List Value)) → Prop)
    (hin : ∀ j, j < n → i0 + j * step ≤ limit) (hout : limit < i0 + n * step)
    (hbody : ∀ j, j < n → ∀ s f, P j s →
      match inScope (do declare x (.num (i0 + j * step)); execBlock (f + K) body) s with
      | .ok none s' => P (j + 1) s'
      | r => Q r)
    (hend : ∀ s, P n s → Q (.ok none s))
    (F : Nat) (s : State) (hF : n + K + 1 ≤ F) (hP : P 0 s) :
    Q (numForLoop F x i0 limit step body s) := by
  have := numForLoop_spec hstep K n P Q hin hout hbody hend n 0 F s (by omega) hF hP
  simpa using this

theorem numForLoop_post {x : String} {body : List Stmt} {step limit i0 : Int} (hstep : 0 < step)
    (K n : Nat) (I : Nat → State → Prop)
    (hin : ∀ j, j < n → i0 + j * step ≤ limit) (hout : limit < i0 + n * step)
    (hbody : ∀ j, j < n → ∀ s f, I j s →
      Post (I (j + 1)) R E (inScope (do declare x (.num (i0 + j * step)); execBlock (f + K) body) s))
    (hend : ∀ s, I n s → P s)
    (F : Nat) (s : State) (hF : n + K + 1 ≤ F) (hI : I 0 s) :
    Post P R E (numForLoop F x i0 limit step body s) := by
  refine numForLoop_spec0 hstep K n I (Post P R E) hin hout (fun j hj s f hI => ?_) hend F s hF hI
  have hb := hbody j hj s f hI
  generalize inScope (do declare x (.num (i0 + j * step)); execBlock (f + K) body) s = r at hb ⊢
  cases r with
  | ok a s' => cases a <;> exact hb
  | error e s' => exact hb
  | unsupported w s' => exact hb
  | outOfFuel s' => exact hb

theorem numForLoop_count {x : String} {body : List Stmt} (K n : Nat) (I : Nat → State → Prop)
    (hbody : ∀ j, j < n → ∀ s f, I j s →
      Post (I (j + 1)) R E (inScope (do declare x (.num ((j + 1 : Nat) : Int)); execBlock (f + K) body) s))
    (hend : ∀ s, I n s → P s)
    (F : Nat) (s : State) (hF : n + K + 1 ≤ F) (hI : I 0 s) :
    Post P R E (numForLoop F x 1 (n : Int) 1 body s) := by
  refine numForLoop_post (by decide) K n I (by intro j hj; omega) (by omega) ?_ hend F s hF hI
  intro j hj s f hI
  rw [show (1 : Int) + (j : Int) * 1 = ((j + 1 : Nat) : Int) by omega]
  exact hbody j hj s f hI

theorem numForLoop_run (x : String) (body : List Stmt) (c : Nat) (S : Nat → State) (n : Nat)
    (hbody : ∀ j, j < n → ∀ f,
      inScope (do declare x (.num ((j : Int) + 1)); execBlock (f + c) body) (S j) = .ok none (S (j + 1)))
    (F : Nat) (hF : n + c + 1 ≤ F) : numForLoop F x 1 (n : Int) 1 body (S 0) = .ok none (S n) := by
  refine numForLoop_spec0 (by decide) c n (fun j s => s = S j) (fun r => r = .ok none (S n))
    (by intro j hj; omega) (by omega) ?_ (fun s hs => by rw [hs]) F (S 0) hF rfl
  intro j hj s g hs
  rw [hs, show (1 : Int) + (j : Int) * 1 = (j : Int) + 1 by omega, hbody j hj g]

/-- a search for the first `j` without `p j`. -/
theorem numForLoop_scan (x : String) (body : List Stmt) (c : Nat) (S : State) (n : Nat) (p : Nat → Prop)
    [DecidablePred p] [Decidable (∀ j, j < n → p j)] (r : Res (Option (List Value)))
    (hr : ∀ s', r ≠ .ok none s')
    (hbody : ∀ j, j < n → ∀ f,
      inScope (do declare x (.num ((j : Int) + 1)); execBlock (f + c) body) S = if p j then .ok none S else r)
    (F : Nat) (hF : n + c + 1 ≤ F) :
    numForLoop F x 1 (n : Int) 1 body S = if ∀ j, j < n → p j then .ok none S else r := by
  refine numForLoop_spec0 (by decide) c n (fun j s => s = S ∧ ∀ i, i < j → p i)
    (fun r' => r' = if ∀ j, j < n → p j then .ok none S else r)
    (by intro j hj; omega) (by omega) ?_ (fun s hs => by rw [hs.1, if_pos hs.2]) F S hF
    ⟨rfl, fun i hi => absurd hi (Nat.not_lt_zero i)⟩
  intro j hj s g hs
  rw [hs.1, show (1 : Int) + (j : Int) * 1 = (j : Int) + 1 by omega, hbody j hj g]
  by_cases hp : p j
  · rw [if_pos hp]
    exact ⟨rfl, fun i hi => (Nat.lt_succ_iff_lt_or_eq.mp hi).elim (hs.2 i) (fun e => e ▸ hp)⟩
  · rw [if_neg hp, if_neg (fun h => hp (h j hj))]
    cases r with
    | ok a s' =>
      cases a with
      | none => exact absurd rfl (hr s')
      | some vs => rfl
    | _ => rfl

/-! ## blocks and loops, a statement or a round at a time -/

theorem execBlock_cons_none {f : Nat} {st : Stmt} {rest : List Stmt} {s s' : State}
    (h : execStmt f st s = .ok none s') :
    execBlock (f + 1) (st :: rest) s = execBlock f rest s' := by
  rw [execBlock]; simp only [bind_apply, h]

theorem execBlock_cons_error {f : Nat} {st : Stmt} {rest : List Stmt} {s s' : State} {msg : String}
    (h : execStmt f st s = .error msg s') :
    execBlock (f + 1) (st :: rest) s = .error msg s' := by
  rw [execBlock]; simp only [bind_apply, h]

theorem execBlock_cons_return {f : Nat} {st : Stmt} {rest : List Stmt} {s s' : State} {vs : List Value}
    (h : execStmt f st s = .ok (some vs) s') :
    execBlock (f + 1) (st :: rest) s = .ok (some vs) s' := by
  rw [execBlock]; simp only [bind_apply, h]; rfl

theorem execBlock_cons_ite {c : Prop} [Decidable c] {f : Nat} {st : Stmt} {rest : List Stmt}
    {s s1 s2 : State} {vs : List Value}
    (h : execStmt f st s = if c then .ok none s1 else .ok (some vs) s2) :
    execBlock (f + 1) (st :: rest) s = if c then execBlock f rest s1 else .ok (some vs) s2 := by
  split
  · rw [if_pos ‹c›] at h; exact execBlock_cons_none h
  · rw [if_neg ‹¬ c›] at h; exact execBlock_cons_return h

theorem execBlock_append (pre rest : List Stmt) (g n : Nat) (hn : n = pre.length) (σ : State) :
    execBlock (g + n) (pre ++ rest) σ =
      match execBlock (g + n) pre σ with
      | .ok none σ' => execBlock g rest σ'
      | r => r := by
  induction pre generalizing n σ with
  | nil =>
    subst hn
    cases g with
    | zero => simp [execBlock, M.outOfFuel]
    | succ g => simp [execBlock, pure, M.pure]
  | cons s pre ih =>
    subst hn
    simp only [List.length_cons, List.cons_append]
    rw [show g + (pre.length + 1) = (g + pre.length) + 1 from rfl]
    simp only [execBlock, bind, M.bind]
    cases hs : execStmt (g + pre.length) s σ with
    | ok a σ1 =>
      cases a with
      | none => simp only []; exact ih _ rfl σ1
      | some vs => rfl
    | _ => rfl

theorem execBlock_append' (b1 b2 : List Stmt) (p f : Nat) (s s' : State) (hl : b1.length = p)
    (h : execBlock (f + p) b1 s = .ok none s') :
    execBlock (f + p) (b1 ++ b2) s = execBlock f b2 s' := by
  rw [execBlock_append b1 b2 f p hl.symm s, h]

theorem execBlock_at (b : Block) (p : Nat) (hp : p < b.length) (F : Nat) (s s1 : State)
    (hpre : execBlock (F + p) (b.take p) s = .ok none s1) :
    execBlock (F + p) b s = execBlock F (b.getD p (.unsupported "") :: b.drop (p + 1)) s1 := by
  have hs : b = b.take p ++ b.getD p (.unsupported "") :: b.drop (p + 1) := by
    rw [List.getD_eq_getElem?_getD, List.getElem?_eq_getElem hp, Option.getD_some]
    simp
  conv => lhs; rw [hs]
  exact execBlock_append' _ _ p _ _ _ (List.length_take_of_le (Nat.le_of_lt hp)) hpre

/-- `hs` is `rfl` when there is no step expression. -/
theorem execStmt_numFor_eval {f : Nat} {x : String} {init limit : Expr} {step : Option Expr}
    {body : List Stmt} {s : State} {i l d : Int}
    (hi : evalExpr f init s = .ok (.num i) s) (hl : evalExpr f limit s = .ok (.num l) s)
    (hs : (match step with | some e => evalExpr f e | none => pure (.num 1)) s = .ok (.num d) s) :
    execStmt (f + 1) (.numFor x init limit step body) s = numForLoop f x i l d body s := by
  rw [execStmt_numFor]
  cases step <;> simp only [bind_apply, hi, hl, hs] at hs ⊢

theorem numForLoop_done (f : Nat) (x : String) (i limit step : Int) (body : List Stmt) (s : State)
    (hs : 0 < step) (h : limit < i) : numForLoop (f + 1) x i limit step body s = .ok none s := by
  rw [numForLoop]
  rw [if_neg (by omega)]
  rfl

theorem numForLoop_step (f : Nat) (x : String) (i limit step : Int) (body : List Stmt) (s s' : State)
    (hs : 0 < step) (h : i ≤ limit)
    (hb : inScope (do declare x (.num i); execBlock f body) s = .ok none s') :
    numForLoop (f + 1) x i limit step body s = numForLoop f x (i + step) limit step body s' := by
  rw [numForLoop]
  rw [if_pos (by omega)]
  simp only [bind_apply, hb]

theorem numForLoop_exit (f : Nat) (x : String) (i limit step : Int) (body : List Stmt) (s : State)
    (r : Res (Option (List Value))) (hs : 0 < step) (h : i ≤ limit)
    (hb : inScope (do declare x (.num i); execBlock f body) s = r)
    (hr : ∀ s', r ≠ .ok none s') :
    numForLoop (f + 1) x i limit step body s = r := by
  rw [numForLoop]
  rw [if_pos (by omega)]
  simp only [bind_apply, hb]
  cases r with
  | ok a s' =>
    cases a with
    | none => exact absurd rfl (hr s')
    | some vs => rfl
  | _ => rfl

theorem numForLoop_error (f : Nat) (x : String) (i limit step : Int) (body : List Stmt) (s s' : State)
    (msg : String) (hs : 0 < step) (h : i ≤ limit)
    (hb : inScope (do declare x (.num i); execBlock f body) s = .error msg s') :
    numForLoop (f + 1) x i limit step body s = .error msg s' :=
  numForLoop_exit f x i limit step body s _ hs h hb (fun _ h => by cases h)

/-- the body of the loop that is statement `i` of a block (`LuaHLL.forBody` of Proofs/LuaCoreHLL.lean is the same for a
    `for` statement given directly). -/
def loopBody (b : Block) (i : Nat) : Block :=
  match b[i]? with
  | some (.numFor _ _ _ _ body) => body
  | some (.ipairsFor _ _ body) => body
  | _ => []

attribute [lua_res] loopBody List.getElem?_cons_succ List.getElem?_cons_zero

/-! ## `ipairs` loops -/

theorem ipairsLoop_succ (f : Nat) (names : List String) (id i : Nat) (body : List Stmt) :
    ipairsLoop (f+1) names id i body = (do
      let tb ← getTable id
      match tb.get (.num i) with
      | .nil => pure none
      | v =>
        match ← inScope (do declareAll names [.num i, v]; execBlock f body) with
        | some vs => pure (some vs)
        | none => ipairsLoop f names id (i + 1) body) := rfl

theorem execStmt_ipairsFor (f : Nat) (names : List String) (t : Expr) (body : List Stmt) :
    execStmt (f+1) (.ipairsFor names t body) = (do
      if (← isLocal "ipairs") then M.unsupported "call of a local variable" else
      let vs ← evalList f [t]
      match vs.headD .nil with
      | .table id => ipairsLoop f names id 1 body
      | _ => M.error "bad argument #1 to ipairs (table expected)") := rfl

theorem ipairsLoop_post {names : List String} {body : List Stmt} {id : Nat}
    (K n : Nat) (vals : Nat → Value) (I : Nat → State → Prop)
    (hget : ∀ j, j < n → ∀ s, I j s → (s.heap.getD id {}).get (.num ((j + 1 : Nat) : Int)) = vals j)
    (hval : ∀ j, j < n → vals j ≠ .nil)
    (hstop : ∀ s, I n s → (s.heap.getD id {}).get (.num ((n + 1 : Nat) : Int)) = .nil)
    (hbody : ∀ j, j < n → ∀ s f, I j s →
      Post (I (j + 1)) R E
        (inScope (do declareAll names [.num ((j + 1 : Nat) : Int), vals j]; execBlock (f + K) body) s))
    (hend : ∀ s, I n s → P s)
    (F : Nat) (s : State) (hF : n + K + 1 ≤ F) (hI : I 0 s) :
    Post P R E (ipairsLoop F names id 1 body s) := by
  have from_round : ∀ (m k F : Nat) (s : State), k + m = n → m + K + 1 ≤ F → I k s →
      Post (I n) R E (ipairsLoop F names id (k + 1) body s) := by
    intro m
    induction m with
    | zero =>
      intro k F s hk hF hI
      obtain ⟨F', rfl⟩ : ∃ F', F = F' + 1 := ⟨F - 1, by omega⟩
      have hkn : k = n := by omega
      subst hkn
      rw [ipairsLoop_succ]
      simp only [bind_apply, getTable_apply]
      rw [hstop s hI]
      exact hI
    | succ m ih =>
      intro k F s hk hF hI
      obtain ⟨F', rfl⟩ : ∃ F', F = F' + 1 := ⟨F - 1, by omega⟩
      have hkn : k < n := by omega
      obtain ⟨f, rfl⟩ : ∃ f, F' = f + K := ⟨F' - K, by omega⟩
      have hb := hbody k hkn s f hI
      have hg := hget k hkn s hI
      have hv := hval k hkn
      rw [ipairsLoop_succ]
      simp only [bind_apply, getTable_apply]
      rw [hg]
      generalize vals k = v at hb hv ⊢
      cases v with
      | nil => exact absurd rfl hv
      | _ =>
        simp only [bind_apply]
        generalize inScope _ s = r at hb ⊢
        cases r with
        | ok a s' =>
          cases a with
          | none => exact ih (k + 1) (f + K) s' (by omega) (by omega) hb
          | some vs => exact hb
        | error e s' => exact hb
        | unsupported w s' => exact hb
        | outOfFuel s' => exact hb
  exact (from_round n 0 F s (by omega) hF hI).mono hend (fun _ _ h => h) (fun _ h => h)

theorem Table.get_push (arr : List Value) (h : List (Value × Value)) (v : Value)
    (hlen : arr.length + 1 < maxArrayIndex) :
    (⟨arr ++ [v], h⟩ : Table).get (.num ((arr.length + 1 : Nat) : Int)) = v := by
  rw [Table.get_num _ _ (by omega) hlen]
  simp [List.getD_eq_getElem?_getD]

attribute [lua_eval, lua_res] pure_apply error_apply unsupported_apply modify_apply
  evalExpr_litNil evalExpr_litTrue evalExpr_litFalse evalExpr_num evalExpr_str evalExpr_var
  evalExpr_index evalExpr_or evalExpr_and evalExpr_binop evalExpr_unop evalExpr_table evalExpr_call
  evalExpr_paren evalMulti_call evalMulti_litTrue evalMulti_litFalse evalMulti_num evalMulti_str
  evalMulti_var evalMulti_index evalMulti_binop evalMulti_unop evalMulti_table
  evalList_nil evalList_one evalList_cons
  execStmt_localDecl execStmt_assignVar execStmt_assignIndex execStmt_numFor execStmt_ifThen
  execStmt_ret execStmt_callStmt execBlock_nil
  envGet_cons_self envGet_cons_ne envGet_nil envSet_cons_self envSet_cons_ne envSet_nil declare_apply
  declareAll_nil declareAll_cons_nil declareAll_cons_cons
  getTable_apply putTable_apply allocTable_apply indexValue_table
  callFn_tonumber_num callFn_tonumber_bool callFn_tonumber_nil
  callFn_tostring_num callFn_redis_call callFn_redis_pcall
  binop_concat_str_str binop_add_num_num binop_sub_num_num binop_add_nil_num binop_lt_num_num
  binop_lt_nil_num binop_eq_apply binop_ne_apply unop_neg_num Option.map_some
  replyToLua_int replyToLua_bulk replyToLua_nil replyToLua_status replyToLua_list
  Table.get_one Table.get_two Table.get_three
  List.getD_cons_zero List.getD_cons_succ List.headD_cons List.headD_nil List.map_cons List.map_nil
  List.length_cons List.length_nil List.drop_succ_cons List.drop_zero
  Option.map_none Option.isSome_none Option.isSome_some
  Value.truthy ne_eq not_false_eq_true not_true_eq_false
  Nat.add_sub_cancel Bool.false_eq_true Bool.true_eq_false
  decide_true decide_false Bool.not_true Bool.not_false if_true if_false

attribute [lua_eval] bind_apply execBlock_cons readVar_apply assignVar_apply inScope_apply keysId argvId
  callFn_tonumber_str cmdArgs_nil cmdArgs_str cmdArgs_num
  eq_self List.cons_append List.nil_append indexValue_nil

attribute [lua_res] bind_run Res.bind_ok Res.bind_error
  execBlock_cons_next blockNext_none blockNext_some
  readVar_run readVarRes_some readVarRes_KEYS readVarRes_ARGV assignVar_run assignVarRes_some
  inScope_run Res.leave_ok Res.leave_error setIndex_table
  callFn_tonumber_str_run toNumRes_num toNumRes_nil callFn_unpack binop_add_num_nil binop_add_nil_nil
  redisCall_LRANGE redisCall_DEL cmdRes_some cmdRes_none_call cmdRes_none_pcall replyToLua_bulkReply
  Post_ok_none Post_ok_some Post_error renderInt_ofNat

macro "luab_simp" "[" ts:Lean.Parser.Tactic.simpLemma,* "]" : tactic =>
  `(tactic| simp only [lua_eval, String.reduceEq, String.reduceNe, ↓reduceIte, reduceCtorEq, Nat.reduceAdd,
      Nat.reduceSub, $ts,*])

macro "lua_run" "[" ts:Lean.Parser.Tactic.simpLemma,* "]" : tactic =>
  `(tactic| simp (config := { implicitDefEqProofs := false }) only [lua_res, String.reduceEq, String.reduceNe, reduceIte,
      reduceCtorEq, Nat.reduceAdd, Nat.reduceSub, $ts,*])

end Gostatix.LuaCMS

/-! ## `run` as a function of the block's result, and the result of `redisCommand` as a term

  `resultOf` and `finish` are one function under the names of the two families that rewrite with them (bucket;
  HyperLogLog / Top-K); the Count-Min ties use `run_of_post`. -/

namespace Gostatix.LuaBucket
open Gostatix.Lua Gostatix.Redis

def resultOf : Res (Option (List Value)) → Store × Outcome
  | .ok none s => (s.store, .reply .nil)
  | .ok (some vs) s =>
    (match toReply s.heap 64 (vs.headD .nil) with
     | .ok r => (s.store, .reply r)
     | .error why => (s.store, .unsupported why))
  | .error msg s => (s.store, .error msg)
  | .unsupported why s => (s.store, .unsupported why)
  | .outOfFuel s => (s.store, .outOfFuel)

theorem run_eq (fuel : Nat) (script : Block) (keys args : List String) (st : Store) :
    run fuel script keys args st = resultOf (execBlock fuel script (initState keys args st)) := by
  unfold run runLog resultOf
  cases execBlock fuel script (initState keys args st) with
  | ok a s =>
    cases a with
    | none => rfl
    | some vs => dsimp only; cases toReply s.heap 64 (vs.headD .nil) <;> rfl
  | _ => rfl

theorem resultOf_ret_true (σ : State) : resultOf (.ok (some [.bool true]) σ) = (σ.store, .reply (.int 1)) := rfl
theorem resultOf_ret_false (σ : State) : resultOf (.ok (some [.bool false]) σ) = (σ.store, .reply .nil) := rfl
theorem resultOf_ret_num (σ : State) (n : Int) :
    resultOf (.ok (some [.num n]) σ) = (σ.store, .reply (.int n)) := rfl
theorem resultOf_ret_nil (σ : State) : resultOf (.ok (some [.nil]) σ) = (σ.store, .reply .nil) := rfl
theorem resultOf_error (m : String) (σ : State) : resultOf (.error m σ) = (σ.store, .error m) := rfl

end Gostatix.LuaBucket

namespace Gostatix.LuaHLL
open Gostatix.Lua Gostatix.Redis

def finish (r : Res (Option (List Value))) : Store × Outcome :=
  match r with
  | .ok none s => (s.store, .reply .nil)
  | .ok (some vs) s =>
    (match toReply s.heap 64 (vs.headD .nil) with
     | .ok r => (s.store, .reply r)
     | .error why => (s.store, .unsupported why))
  | .error msg s => (s.store, .error msg)
  | .unsupported why s => (s.store, .unsupported why)
  | .outOfFuel s => (s.store, .outOfFuel)

theorem finish_eq_resultOf : finish = LuaBucket.resultOf := by
  funext r
  cases r with
  | ok a s => cases a <;> rfl
  | _ => rfl

theorem run_eq_finish (fuel : Nat) (script : Block) (keys args : List String) (st : Store) :
    run fuel script keys args st = finish (execBlock fuel script (initState keys args st)) :=
  finish_eq_resultOf ▸ LuaBucket.run_eq fuel script keys args st

theorem finish_true (s : State) : finish (.ok (some [.bool true]) s) = (s.store, .reply (.int 1)) := rfl
theorem finish_false (s : State) : finish (.ok (some [.bool false]) s) = (s.store, .reply .nil) := rfl
theorem finish_error (msg : String) (s : State) : finish (.error msg s) = (s.store, .error msg) := rfl

/-- `k` is the key argument (logged); cf. `LuaCMS.cmdRes`. -/
def cmdResult (ff : Bool) (s : State) (k : String) : CmdRes → Res (List Value)
  | .ok st r => (replyToLua r >>= fun v => pure [v]) { s with log := k :: s.log, store := st }
  | .error msg => if ff then .error msg { s with log := k :: s.log } else .ok [.nil] { s with log := k :: s.log }
  | .unsupported why => .unsupported why { s with log := k :: s.log }

theorem cmdResult_ok (ff : Bool) (s : State) (k : String) (st : Store) (r : CmdReply) :
    cmdResult ff s k (.ok st r) =
      (replyToLua r >>= fun v => pure [v]) { s with log := k :: s.log, store := st } := rfl
theorem cmdResult_error_call (s : State) (k : String) (msg : String) :
    cmdResult true s k (.error msg) = .error msg { s with log := k :: s.log } := rfl
theorem cmdResult_error_pcall (s : State) (k : String) (msg : String) :
    cmdResult false s k (.error msg) = .ok [.nil] { s with log := k :: s.log } := rfl

end Gostatix.LuaHLL

namespace Gostatix.LuaCMS
open Gostatix.Lua Gostatix.Redis

theorem redisCall_str_key (ff : Bool) (name k : String) (rest : List Value) (s : State) :
    redisCall ff (.str name :: .str k :: rest) s =
      match cmdArgs rest with
      | some cs => LuaHLL.cmdResult ff s k (redisCommand name (k :: cs) s.store)
      | none => .error "Lua redis lib command arguments must be strings or integers" s := by
  cases h : cmdArgs rest with
  | none => simp only [redisCall, cmdArgs, strOrNum, h]; rfl
  | some cs =>
    rw [redisCall_key ff name k rest cs s h]
    show _ = LuaHLL.cmdResult ff s k (redisCommand name (k :: cs) s.store)
    cases redisCommand name (k :: cs) s.store <;> rfl

end Gostatix.LuaCMS
