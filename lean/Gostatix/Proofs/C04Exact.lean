/-
  Gostatix.Proofs.C04Exact — helper lemmas for Gostatix/Props/C04Exact.lean.

  If some row `r` holds the cell of `x` free of every OTHER element of the history, the estimate
  of `x` after the history is exactly its true count (generalises `C03_exact_single`); the
  converses for histories with positive counts; `offer` at `k = 0` on the empty heap.
-/
import Gostatix.Props.C03
import Gostatix.Proofs.TopKE2E
namespace Gostatix.CMS

section
variable {E : Type} [DecidableEq E]
variable (pos : E → List Nat) (h : List (E × Nat)) (x : E) (r : Nat)

theorem weight_eq_trueCount_of_free (hfree : ∀ ec ∈ h, ec.1 ≠ x → (pos ec.1).getD r 0 ≠ (pos x).getD r 0) :
    weight pos h r ((pos x).getD r 0) = trueCount h x := by
  unfold weight trueCount
  congr 2
  apply List.filter_congr
  intro ec hec
  by_cases e : ec.1 = x
  · simp [e]
  · have := hfree ec hec e
    simp only [e, this, decide_false]

/-- **exact estimate from one collision-free row**: from the fresh `rows × cols` sketch, if row
    `r < rows` keeps the cell of `x` apart from the cells of all other elements of `h`, then
    `Count(x)` after `h` is the true count of `x` in `h`. -/
theorem count_exact_of_free_row (pos : E → List Nat) (rows cols : Nat) (hpos : PosOK pos rows cols)
    (h : List (E × Nat)) (x : E) (r : Nat) (hr : r < rows)
    (hfree : ∀ ec ∈ h, ec.1 ≠ x → (pos ec.1).getD r 0 ≠ (pos x).getD r 0) :
    (run pos (CMS.new rows cols) h).count (pos x) = trueCount h x := by
  apply Nat.le_antisymm
  · have hs' := foldl_update_shape pos rows cols _ (new_shape rows cols) h
    apply count_le _ _ _ r (by unfold run; rw [hs'.1]; exact hr) (by rw [(hpos x).1]; exact hr)
    unfold run
    rw [foldl_update_cell pos rows cols hpos _ (new_shape rows cols) h r _ hr, new_cell,
      weight_eq_trueCount_of_free pos h x r hfree]
    omega
  · exact C03_lower pos rows cols h x (by omega) hpos

theorem le_trueCount_of_mem (ec : E × Nat) (hec : ec ∈ h) :
    ec.2 ≤ trueCount h ec.1 := by
  induction h with
  | nil => cases hec
  | cons a h ih =>
    rw [trueCount_cons]
    rcases List.mem_cons.1 hec with rfl | hec
    · simp
    · exact Nat.le_trans (ih hec) (Nat.le_add_left _ _)

theorem free_of_weight_eq_trueCount (hc : ∀ ec ∈ h, 1 ≤ ec.2)
    (hw : weight pos h r ((pos x).getD r 0) = trueCount h x) :
    ∀ ec ∈ h, ec.1 ≠ x → (pos ec.1).getD r 0 ≠ (pos x).getD r 0 := by
  induction h with
  | nil => intro ec hec; cases hec
  | cons a h ih =>
    rw [weight_cons, trueCount_cons] at hw
    have hle : trueCount h x ≤ weight pos h r ((pos x).getD r 0) := trueCount_le_weight pos h x r
    have ha := hc a (by simp)
    have hc' : ∀ ec ∈ h, 1 ≤ ec.2 := fun ec hec => hc ec (List.mem_cons_of_mem _ hec)
    by_cases e : a.1 = x
    · have e2 : (pos a.1).getD r 0 = (pos x).getD r 0 := by rw [e]
      rw [if_pos e2, if_pos e] at hw
      have := ih hc' (by omega)
      intro ec hec hne
      rcases List.mem_cons.1 hec with rfl | hec
      · exact absurd e hne
      · exact this ec hec hne
    · rw [if_neg e] at hw
      by_cases e2 : (pos a.1).getD r 0 = (pos x).getD r 0
      · rw [if_pos e2] at hw; omega
      · rw [if_neg e2] at hw
        have := ih hc' (by omega)
        intro ec hec hne
        rcases List.mem_cons.1 hec with rfl | hec
        · exact e2
        · exact this ec hec hne

/-- **converse of `count_exact_of_free_row`** for positive counts: if `Count(x)` is the true
    count of `x` and `x` was inserted, some row keeps the cell of `x` free of
    all other elements of the history. -/
theorem free_row_of_count_exact (pos : E → List Nat) (rows cols : Nat) (hpos : PosOK pos rows cols)
    (h : List (E × Nat)) (x : E) (hc : ∀ ec ∈ h, 1 ≤ ec.2) (hx : ∃ ec ∈ h, ec.1 = x)
    (he : (run pos (CMS.new rows cols) h).count (pos x) = trueCount h x) :
    ∃ r, r < rows ∧ ∀ ec ∈ h, ec.1 ≠ x → (pos ec.1).getD r 0 ≠ (pos x).getD r 0 := by
  have hs' := foldl_update_shape pos rows cols _ (new_shape rows cols) h
  by_cases hrows : 1 ≤ rows
  · obtain ⟨r, h1, _, h3⟩ := count_attained (run pos (CMS.new rows cols) h) (pos x)
      (by unfold run; rw [hs'.1]; exact hrows) (by rw [(hpos x).1]; exact hrows)
    have h1' : r < rows := by unfold run at h1; rwa [hs'.1] at h1
    refine ⟨r, h1', free_of_weight_eq_trueCount pos h x r hc ?_⟩
    rw [h3] at he
    unfold run at he
    rw [foldl_update_cell pos rows cols hpos _ (new_shape rows cols) h r _ h1', new_cell] at he
    omega
  · exfalso
    have h0 : (run pos (CMS.new rows cols) h).count (pos x) = 0 := by
      show minInit (cells _ _) = 0
      rw [cells_eq_nil_of_rows _ _ (by unfold run; rw [hs'.1]; omega)]; rfl
    obtain ⟨ec, hec, rfl⟩ := hx
    have := le_trueCount_of_mem h ec hec
    have := hc ec hec
    omega

end
end Gostatix.CMS

namespace Gostatix.TopK

theorem sketchEvents_free_of_exact (pos : String → List Nat) (rows cols : Nat)
    (hpos : CMS.PosOK pos rows cols) (h : List (String × Nat)) (hc : ∀ o ∈ h, 1 ≤ o.2)
    (hx : Exact (sketchEvents pos (CMS.new rows cols) h)) :
    ∀ i (hi : i < h.length), ∃ r, r < rows ∧
      ∀ ec ∈ h.take (i + 1), ec.1 ≠ h[i].1 → (pos ec.1).getD r 0 ≠ (pos h[i].1).getD r 0 := by
  intro i hi
  have := hx i (by rw [sketchEvents_length]; exact hi)
  rw [sketchEvents_getElem pos _ h i hi, sketchEvents_take, sketchEvents_trueTotal] at this
  have hmem : h[i] ∈ h.take (i + 1) := by
    rw [List.mem_take_iff_getElem]
    exact ⟨i, by omega, rfl⟩
  exact CMS.free_row_of_count_exact pos rows cols hpos _ _
    (fun ec hec => hc ec (List.mem_of_mem_take hec)) ⟨h[i], hmem, rfl⟩ this

theorem offer_zero_empty (x : String) (f : Nat) : offer 0 #[] x f = #[] := by
  simp [offer, GoHeap.indexOf, GoHeap.push, GoHeap.up, GoHeap.pop, GoHeap.swap, GoHeap.down]

end Gostatix.TopK
