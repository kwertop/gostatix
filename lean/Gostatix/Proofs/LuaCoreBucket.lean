/-
  Gostatix.Proofs.LuaCoreBucket — what the bucket ties need beyond Proofs/LuaCore.lean (namespace `Gostatix.LuaBucket`):
  the commands the Count-Min scripts do not use (`GET`, `LPOS`, `INCRBY`, `LSET` of a string) as `redis.call` /
  `redis.pcall` see them, in closed form on an arbitrary interpreter state; the hand model's parsers on the spellings
  `renderInt` writes; additions to the simp set `lua_eval`, which hold for everything downstream of this module.
-/
import Gostatix.Model.Lua
import Gostatix.Proofs.RedisBucket
import Gostatix.Proofs.LuaCore
namespace Gostatix.LuaBucket
open Gostatix.Lua
open Gostatix.Redis Gostatix.LuaCMS

theorem goAtoi_decimal (n : Nat) (h : n ≤ numLimit) : goAtoi (decimal n) = .num n :=
  LuaCMS.goAtoi_decimal h

theorem parseInt_renderInt (n : Int) : parseInt (renderInt n) = some n := by
  cases n with
  | ofNat m => exact parseInt_decimal m
  | negSucc m =>
    unfold parseInt
    rw [renderInt_toList_neg]
    simp only [String.ofList_toList, parseDecimal_decimal]
    rfl

theorem parseIntStrict_renderInt (n : Int) : parseIntStrict (renderInt n) = some n := by
  unfold parseIntStrict
  rw [parseInt_renderInt]
  simp only [if_true]

theorem redisCommand_GET (k : String) (st : Store) :
    redisCommand "GET" [k] st =
      liftCmd (cmdGET k) (fun r => match r with | some v => .bulk v | none => .nil) msgWrongType st := rfl

theorem redisCommand_LPOS (k e : String) (st : Store) :
    redisCommand "LPOS" [k, e] st =
      liftCmd (cmdLPOS k e) (fun r => match r with | some i => .int i | none => .nil) msgWrongType st := rfl

theorem redisCommand_LPUSH1 (k v : String) (st : Store) :
    redisCommand "LPUSH" [k, v] st =
      (match cmdLPUSH k [v] st with
       | (st', some _) => .ok st' (.int (listLength st' k))
       | (_, none) => .error msgWrongType) := rfl

theorem redisCommand_LSET (k i v : String) (st : Store) :
    redisCommand "LSET" [k, i, v] st =
      intArg i fun n =>
        match st k with
        | none => .error "ERR no such key"
        | some (.list l) =>
          (match resolveIndex l.length n with
           | some j => liftCmd (cmdLSET k j v) (fun _ => .status "OK") "ERR index out of range" st
           | none => .error "ERR index out of range")
        | some _ => .error msgWrongType := rfl

theorem redisCommand_INCRBY (k d : String) (st : Store) :
    redisCommand "INCRBY" [k, d] st = intArg d fun d => cmdINCRBYmr k d st := rfl

theorem redisCommand_DEL1 (k : String) (st : Store) :
    redisCommand "DEL" [k] st = .ok (st.del k) (.int ((if (st k).isSome then 1 else 0 : Nat) + 0 : Nat)) := rfl

theorem toReply_true (h : List Table) (d : Nat) : toReply h (d + 1) (.bool true) = .ok (.int 1) := rfl
theorem toReply_false (h : List Table) (d : Nat) : toReply h (d + 1) (.bool false) = .ok .nil := rfl
theorem toReply_nil (h : List Table) (d : Nat) : toReply h (d + 1) .nil = .ok .nil := rfl
theorem toReply_num (h : List Table) (d : Nat) (n : Int) : toReply h (d + 1) (.num n) = .ok (.int n) := rfl

/-! ## additions to the simp set `lua_eval`

  They hold for every module that imports this one (Proofs/LuaBucket.lean and what builds on it).  `callFn_tonumber`
  (`tonumber` as the function `tonumberValue`, for an argument that is a variable) has priority `high`: there it
  replaces the core's `callFn_tonumber_str/_num/_bool/_nil` for a literal argument as well.  `M.bind_apply` is needed
  because `numForLoop_eq` of Proofs/LuaBucket.lean states the loop body with `M.bind`, not with `do`. -/

attribute [lua_eval] M.bind_apply tonumberValue_num tonumberValue_nil binop_ge_num_num binop_ge_nil_num
attribute [lua_eval high] callFn_tonumber

/-- the Lua value `redis.pcall('GET', k)` gives. -/
def getValue (st : Store) (k : String) : Value :=
  match st k with
  | none => .bool false
  | some (.str b) => .str (latin1 b)
  | some _ => .nil

@[lua_eval] theorem redisCall_GET (k : String) (s : State) :
    redisCall false [.str "GET", .str k] s = .ok [getValue s.store k] { s with log := k :: s.log } := by
  rw [LuaCMS.redisCall_key false "GET" k [] [] s rfl, redisCommand_GET]
  unfold liftCmd cmdGET getValue
  cases s.store k with
  | none => rfl
  | some v => cases v <;> rfl

/-- the Lua value of an `LPOS` reply. -/
def posValue : Option Nat → Value
  | some i => .num i
  | none => .bool false

theorem cmdLPOS_eq (k e : String) (st : Store) :
    cmdLPOS k e st = (st, (listAt st k).map fun l => lpos l e) := by
  unfold cmdLPOS listAt
  cases st k with
  | none => rfl
  | some v => cases v <;> rfl

theorem cmdLRANGE_eq (k : String) (st : Store) : cmdLRANGE k st = (st, listAt st k) := by
  unfold cmdLRANGE listAt
  cases st k with
  | none => rfl
  | some v => cases v <;> rfl

theorem redisCall_LPOS (ff : Bool) (k e : String) (s : State) :
    redisCall ff [.str "LPOS", .str k, .str e] s =
      match listAt s.store k with
      | some l => .ok [posValue (lpos l e)] { s with log := k :: s.log }
      | none =>
        if ff then .error msgWrongType { s with log := k :: s.log } else .ok [.nil] { s with log := k :: s.log } := by
  rw [LuaCMS.redisCall_key ff "LPOS" k [.str e] [e] s rfl, redisCommand_LPOS]
  unfold liftCmd
  rw [cmdLPOS_eq]
  cases listAt s.store k with
  | none => rfl
  | some l => simp only [Option.map_some]; cases lpos l e <;> rfl

theorem list_of_listAt {st : Store} {k : String} {l : List String} (h : listAt st k = some l) (hl : l ≠ []) :
    st k = some (.list l) := by
  unfold listAt at h
  split at h
  · exact absurd (Option.some.inj h).symm hl
  · rename_i l' hk; rw [hk, Option.some.inj h]
  · exact absurd h (by simp)

theorem cmdLPUSH1_ok (st : Store) (k v : String) (l : List String) (h : listAt st k = some l) :
    cmdLPUSH k [v] st = (st.set k (.list (v :: l)), some ()) := by
  unfold listAt at h
  unfold cmdLPUSH
  split at h
  · rename_i hk; cases h; simp [hk]
  · rename_i l' hk; cases h; simp [hk]
  · exact absurd h (by simp)

/-- `LSET k i v` with a string value at a position inside the list, with the state it leaves spelled out (the core's
    `LuaCMS.redisCall_LSET` is for a numeric value and any position, through `cmdLSET`). -/
theorem redisCall_LSET (ff : Bool) (k v : String) (i : Nat) (l : List String) (st : Store) (H : List Table)
    (env : List (String × Value)) (log : List String)
    (h : st k = some (.list l)) (hi : i < l.length) (hn : i ≤ numLimit) :
    redisCall ff [.str "LSET", .str k, .num i, .str v] ⟨st, H, env, log⟩ =
      .ok [.table H.length]
        ⟨st.set k (.list (l.set i v)), H ++ [{ hash := [(.str "ok", .str "OK")] }], env, k :: log⟩ := by
  rw [LuaCMS.redisCall_key ff "LSET" k [.num i, .str v] [decimal i, v] _ rfl, LuaCMS.redisCommand_LSET k v hn]
  simp only [h, hi, if_true]
  rfl

/-- miniredis' `INCRBY` (value read with `Atoi`) and the hand model's (canonical spellings only)
    do the same on the stored string `s` with the increment `d`. -/
def IncrAgrees (s : String) (d : Int) : Prop :=
  match parseIntStrict s with
  | some n => goAtoi s = .num n ∧ (n + d).natAbs ≤ numLimit
  | none => goAtoi s = .nan

theorem incrAgrees_renderInt (n d : Int) (h1 : n.natAbs ≤ numLimit) (h2 : (n + d).natAbs ≤ numLimit) :
    IncrAgrees (renderInt n) d := by
  unfold IncrAgrees; rw [parseIntStrict_renderInt]; exact ⟨goAtoi_renderInt n h1, h2⟩

theorem cmdINCRBYmr_agrees (k : String) (d : Int) (st : Store)
    (h : ∀ b, st k = some (.str b) → IncrAgrees (latin1 b) d) :
    (∃ n, cmdINCRBYmr k d st = .ok (cmdINCRBY k d st).1 (.int n)) ∨
    (∃ m, cmdINCRBYmr k d st = .error m ∧ (cmdINCRBY k d st).1 = st) := by
  unfold cmdINCRBYmr cmdINCRBY
  cases hk : st k with
  | none => exact Or.inl ⟨d, rfl⟩
  | some v =>
    cases v with
    | str b =>
      have hb := h b hk
      unfold IncrAgrees at hb
      cases hp : parseIntStrict (latin1 b) with
      | none =>
        rw [hp] at hb
        simp only [hb, hp]
        exact Or.inr ⟨_, rfl, trivial⟩
      | some n =>
        rw [hp] at hb
        simp only [hb.1, hp, if_neg (Nat.not_lt.mpr hb.2)]
        exact Or.inl ⟨_, rfl⟩
    | _ => exact Or.inr ⟨_, rfl, rfl⟩

/-- `redis.pcall('INCRBY', k, d)` on a counter on which the two `INCRBY`s agree: whatever it
    returns, it leaves the hand model's store. -/
theorem redisCall_INCRBY (k : String) (d : Int) (st : Store) (hd : d.natAbs ≤ numLimit)
    (h : ∀ b, st k = some (.str b) → IncrAgrees (latin1 b) d) :
    ∃ w, ∀ (H : List Table) (env : List (String × Value)) (log : List String),
      redisCall false [.str "INCRBY", .str k, .num d] ⟨st, H, env, log⟩ =
        .ok [w] ⟨(cmdINCRBY k d st).1, H, env, k :: log⟩ := by
  have hcmd : redisCommand "INCRBY" [k, renderInt d] st = cmdINCRBYmr k d st := by
    simp only [redisCommand_INCRBY, intArg, goAtoi_renderInt d hd]
  rcases cmdINCRBYmr_agrees k d st h with ⟨n, hn⟩ | ⟨m, hm, hst⟩
  · refine ⟨.num n, fun H env log => ?_⟩
    rw [LuaCMS.redisCall_key false "INCRBY" k [.num d] [renderInt d] _ rfl, hcmd, hn]
    rfl
  · refine ⟨.nil, fun H env log => ?_⟩
    rw [LuaCMS.redisCall_key false "INCRBY" k [.num d] [renderInt d] _ rfl, hcmd, hm, hst]
    rfl

theorem execBlock_nil (f : Nat) (σ : State) : execBlock (f + 1) [] σ = .ok none σ :=
  congrFun (LuaCMS.execBlock_nil f) σ

theorem execStmt_ret_true (f : Nat) (σ : State) :
    execStmt (f + 4) (.ret [.litTrue]) σ = .ok (some [.bool true]) σ := rfl

theorem execStmt_ret_false (f : Nat) (σ : State) :
    execStmt (f + 4) (.ret [.litFalse]) σ = .ok (some [.bool false]) σ := rfl

end Gostatix.LuaBucket
