/-
  Gostatix.Proofs.Conc — interleavings of threads of atomic steps.  Steps that all commute: the
  result depends on the multiset of steps.  Only steps of DIFFERENT threads commute: every
  interleaving still equals running the threads one after another (the order inside a thread is
  fixed by its program).  Mutex-guarded calls (`acq ; body ; rel`): in a schedule valid for the
  mutex only the holder moves inside its critical section, so the bodies run in lock-acquisition
  order.  At the end, outside `Conc`: the single-step alphabets of the three sketches.
-/
import Gostatix.Model.Conc
import Gostatix.Model.Bloom
import Gostatix.Model.CMS
import Gostatix.Proofs.HLL
import Gostatix.Proofs.Rows
namespace Gostatix.Conc

universe u v

theorem foldl_perm_of_commute_inv {σ : Type u} {α : Type v} {f : σ → α → σ} (I : σ → Prop)
    {l₁ l₂ : List α} (p : l₁.Perm l₂)
    (hp : ∀ s, I s → ∀ a ∈ l₁, I (f s a))
    (hc : ∀ s, I s → ∀ a ∈ l₁, ∀ b ∈ l₁, f (f s a) b = f (f s b) a)
    (s : σ) (hs : I s) : l₁.foldl f s = l₂.foldl f s := by
  induction p generalizing s with
  | nil => rfl
  | cons a _ ih =>
    exact ih (fun s hs b hb => hp s hs b (List.mem_cons_of_mem _ hb))
      (fun s hs b hb c hc' => hc s hs b (List.mem_cons_of_mem _ hb) c (List.mem_cons_of_mem _ hc'))
      _ (hp s hs a List.mem_cons_self)
  | swap a b l =>
    simp only [List.foldl_cons]
    rw [hc s hs b List.mem_cons_self a (List.mem_cons_of_mem _ List.mem_cons_self)]
  | trans p1 _ ih1 ih2 =>
    rw [ih1 hp hc s hs]
    exact ih2 (fun s hs a ha => hp s hs a (p1.mem_iff.2 ha))
      (fun s hs a ha b hb => hc s hs a (p1.mem_iff.2 ha) b (p1.mem_iff.2 hb)) s hs

theorem foldl_perm_of_commute_on {σ : Type u} {α : Type v} {f : σ → α → σ} {l₁ l₂ : List α}
    (p : l₁.Perm l₂) (hc : ∀ a ∈ l₁, ∀ b ∈ l₁, ∀ s, f (f s a) b = f (f s b) a) (s : σ) :
    l₁.foldl f s = l₂.foldl f s :=
  foldl_perm_of_commute_inv (fun _ => True) p (fun _ _ _ _ => trivial)
    (fun s _ a ha b hb => hc a ha b hb s) s trivial

theorem foldl_perm_of_commute {σ : Type u} {α : Type v} {f : σ → α → σ} (hc : Commute f)
    {l₁ l₂ : List α} (p : l₁.Perm l₂) (s : σ) : l₁.foldl f s = l₂.foldl f s :=
  foldl_perm_of_commute_on p (fun a _ b _ s => hc s a b) s

theorem exec_perm_of_commute {σ : Type u} {α : Type v} {f : σ → α → σ} (hc : Commute f)
    {l₁ l₂ : List α} (p : l₁.Perm l₂) (s : σ) : exec f s l₁ = exec f s l₂ :=
  foldl_perm_of_commute hc p s

theorem execThreads_eq_exec_flatten {σ : Type u} {α : Type v} (f : σ → α → σ) (s : σ)
    (ts : List (List α)) : execThreads f s ts = exec f s ts.flatten := by
  simp only [execThreads, exec, List.foldl_flatten]

theorem flatten_perm_of_getElem? {α : Type u} {ts : List (List α)} {i : Nat} {a : α} {t : List α}
    (h : ts[i]? = some (a :: t)) : ts.flatten.Perm (a :: (ts.set i t).flatten) := by
  induction ts generalizing i with
  | nil => cases h
  | cons x xs ih =>
    cases i with
    | zero => cases h; exact .refl _
    | succ i => exact (List.Perm.append_left x (ih h)).trans List.perm_middle

theorem Interleaving.perm {α : Type u} {ts : List (List α)} {w : List α} (h : Interleaving ts w) :
    w.Perm ts.flatten := by
  induction h with
  | done ts he => rw [List.flatten_eq_nil_iff.2 he]
  | step ts i a t w hg _ ih =>
    exact (List.Perm.cons a ih).trans (flatten_perm_of_getElem? hg).symm

theorem Interleaving.sublist {α : Type u} {ts : List (List α)} {w : List α} (h : Interleaving ts w) :
    ∀ t ∈ ts, t.Sublist w := by
  induction h with
  | done ts he => intro t ht; rw [he t ht]; exact List.Sublist.refl _
  | step ts i a t w hg _ ih =>
    intro t' ht'
    obtain ⟨j, hj⟩ := List.mem_iff_getElem?.1 ht'
    by_cases e : i = j
    · subst e
      cases hg.symm.trans hj
      have hlt := (List.getElem?_eq_some_iff.1 hg).1
      exact (ih t (List.mem_of_getElem? (List.getElem?_set_self hlt))).cons_cons a
    · exact (ih t' (List.mem_of_getElem? ((List.getElem?_set_ne e).trans hj))).cons a

/-- when every step of thread `i` carries the tag `i`, the projection of the schedule on tag `i`
    is thread `i`'s step list -/
theorem Interleaving.filter_tag {α : Type u} {ts : List (List α)} {w : List α} (tag : α → Nat)
    (h : Interleaving ts w)
    (htag : ∀ i t, ts[i]? = some t → ∀ a ∈ t, tag a = i) :
    ∀ i, w.filter (fun a => tag a == i) = (ts[i]?).getD [] := by
  induction h with
  | done ts he =>
    intro i
    cases hi : ts[i]? with
    | none => rfl
    | some t => rw [he t (List.mem_of_getElem? hi)]; rfl
  | step ts i a t w hg _ ih =>
    have hlt := (List.getElem?_eq_some_iff.1 hg).1
    have htag' : ∀ j t', (ts.set i t)[j]? = some t' → ∀ b ∈ t', tag b = j := by
      intro j t' hj b hb
      by_cases e : i = j
      · subst e
        rw [List.getElem?_set_self hlt] at hj; cases hj
        exact htag i (a :: t) hg b (List.mem_cons_of_mem _ hb)
      · rw [List.getElem?_set_ne e] at hj
        exact htag j t' hj b hb
    have ha : tag a = i := htag i (a :: t) hg a List.mem_cons_self
    intro j
    rw [List.filter_cons, ih htag' j, ha]
    by_cases e : i = j
    · subst e; rw [List.getElem?_set_self hlt, hg, if_pos (beq_self_eq_true i)]; rfl
    · rw [List.getElem?_set_ne e, if_neg (mt beq_iff_eq.1 e)]

theorem Interleaving.shift {α : Type u} {ts : List (List α)} {w : List α} (h : Interleaving ts w) :
    Interleaving ([] :: ts) w := by
  induction h with
  | done ts he => exact .done _ (by intro t ht; cases ht with | head => rfl | tail _ h => exact he t h)
  | step ts i a t w hg _ ih => exact .step _ (i + 1) a t w hg ih

theorem Interleaving.cons_thread {α : Type u} {ts : List (List α)} {w : List α} (t : List α)
    (h : Interleaving ts w) : Interleaving (t :: ts) (t ++ w) := by
  induction t with
  | nil => exact h.shift
  | cons a t ih => exact .step _ 0 a t _ rfl ih

theorem Interleaving.sequential {α : Type u} (ts : List (List α)) : Interleaving ts ts.flatten := by
  induction ts with
  | nil => exact .done _ (fun _ h => nomatch h)
  | cons t ts ih => exact ih.cons_thread t

theorem Interleaving.swap {α : Type u} (a b : List α) : Interleaving [a, b] (b ++ a) := by
  induction b with
  | nil => simpa using Interleaving.sequential [a, []]
  | cons x b ih => exact .step _ 1 x b _ (by simp) (by simpa using ih)

theorem Interleaving.of_pick {α : Type u} {ts : List (List α)} {is : List Nat} {w : List α}
    (h : pick ts is = some w) : Interleaving ts w := by
  induction is generalizing ts w with
  | nil =>
    simp only [pick] at h
    split at h
    · next he =>
      cases h
      exact .done _ fun t ht => List.isEmpty_iff.1 (List.all_eq_true.1 he t ht)
    · cases h
  | cons i is ih =>
    simp only [pick] at h
    split at h
    · next a t hg =>
      obtain ⟨w', hp, rfl⟩ := Option.map_eq_some_iff.1 h
      exact .step _ i a t w' hg (ih hp)
    · cases h

theorem exec_interleaving_of_commute {σ : Type u} {α : Type v} {f : σ → α → σ} (hc : Commute f)
    {ts : List (List α)} {w : List α} (h : Interleaving ts w) (s : σ) :
    exec f s w = execThreads f s ts := by
  rw [execThreads_eq_exec_flatten]
  exact exec_perm_of_commute hc h.perm s

theorem exec_comm_list {σ : Type u} {α : Type v} (f : σ → α → σ) (a : α) (x : List α)
    (hc : ∀ b ∈ x, ∀ s, f (f s b) a = f (f s a) b) (s : σ) :
    f (exec f s x) a = exec f (f s a) x := by
  induction x generalizing s with
  | nil => rfl
  | cons b x ih =>
    show f (exec f (f s b) x) a = exec f (f (f s a) b) x
    rw [ih (fun c hc' => hc c (List.mem_cons_of_mem _ hc')), hc b List.mem_cons_self]

theorem exec_flatten_pick {σ : Type u} {α : Type v} (f : σ → α → σ) :
    ∀ (ts : List (List α)) (i : Nat) (a : α) (t : List α), ts[i]? = some (a :: t) →
      (∀ j : Nat, j < i → ∀ b ∈ (ts[j]?).getD [], ∀ s, f (f s b) a = f (f s a) b) →
      ∀ s, exec f s ts.flatten = exec f (f s a) (ts.set i t).flatten := by
  intro ts
  induction ts with
  | nil => intro i a t h; cases h
  | cons x xs ih =>
    intro i a t hg hc s
    cases i with
    | zero => cases hg; rfl
    | succ i =>
      have h0 := exec_comm_list f a x (fun b hb => hc 0 (Nat.succ_pos _) b hb) s
      have := ih i a t hg (fun j hj b hb => hc (j + 1) (Nat.succ_lt_succ hj) b hb) (exec f s x)
      simp only [List.flatten_cons, List.set_cons_succ, exec, List.foldl_append] at this h0 ⊢
      rw [this, h0]

/-- **independent threads**: if every step of thread `i` commutes with every step of every other
    thread `j` (in every state), then every interleaving ends in the state of running the threads
    one after another.  Nothing is required of two steps of the same thread. -/
theorem exec_interleaving_of_indep {σ : Type u} {α : Type v} (f : σ → α → σ)
    {ts : List (List α)} {w : List α} (hi : Interleaving ts w)
    (hc : ∀ i j : Nat, i ≠ j → ∀ a ∈ (ts[i]?).getD [], ∀ b ∈ (ts[j]?).getD [], ∀ s,
      f (f s a) b = f (f s b) a) (s : σ) :
    exec f s w = exec f s ts.flatten := by
  induction hi generalizing s with
  | done ts he =>
    have : ts.flatten = [] := by simpa [List.flatten_eq_nil_iff] using he
    rw [this]
  | step ts i a t w hg _ ih =>
    have hlt : i < ts.length := (List.getElem?_eq_some_iff.1 hg).1
    have hmem : ∀ j : Nat, ∀ b ∈ ((ts.set i t)[j]?).getD [], b ∈ (ts[j]?).getD [] := by
      intro j b hb
      by_cases e : i = j
      · subst e
        simp only [List.getElem?_set_self hlt, Option.getD_some] at hb
        rw [hg]; exact List.mem_cons_of_mem _ hb
      · rw [List.getElem?_set_ne e] at hb; exact hb
    have ih' := ih (fun i' j' hne a' ha' b' hb' s' =>
      hc i' j' hne a' (hmem i' a' ha') b' (hmem j' b' hb') s') (f s a)
    show exec f (f s a) w = _
    rw [ih']
    symm
    apply exec_flatten_pick f ts i a t hg
    intro j hj b hb s'
    exact hc j i (Nat.ne_of_lt hj) b hb a (by rw [hg]; exact List.mem_cons_self) s'

theorem drop_eq_cons {α : Type u} {l : List α} {k : Nat} {a : α} {r : List α}
    (h : l.drop k = a :: r) : l[k]? = some a ∧ l.drop (k + 1) = r := by
  constructor
  · have := List.getElem?_drop (xs := l) (i := k) (j := 0)
    rw [h] at this; exact this.symm
  · rw [← List.drop_drop, h]; rfl


def bump (pc : Nat → Nat) (i : Nat) : Nat → Nat := fun j => if j = i then pc i + 1 else pc j

theorem bump_self (pc : Nat → Nat) (i : Nat) : bump pc i i = pc i + 1 := if_pos rfl
theorem bump_ne (pc : Nat → Nat) {i j : Nat} (h : j ≠ i) : bump pc i j = pc j := if_neg h

/-- `Inv pc s` relates the shared state to the number `pc j` of steps each thread `j` has executed.
    If the next step of any thread keeps it, it holds after every interleaving, with every thread
    at the end of its program. -/
theorem inv_interleaving {σ : Type u} {α : Type v} (f : σ → α → σ) (progs : List (List α))
    (Inv : (Nat → Nat) → σ → Prop)
    (hstep : ∀ pc s i p a, Inv pc s → progs[i]? = some p → p[pc i]? = some a →
      Inv (bump pc i) (f s a))
    {w : List α} (hi : Interleaving progs w) {s : σ} (h0 : Inv (fun _ => 0) s) :
    ∃ pc, (∀ i p, progs[i]? = some p → p.length ≤ pc i) ∧ Inv pc (exec f s w) := by
  -- the induction runs over what is left of the threads: `p.drop (pc j)`
  suffices h : ∀ ts w, Interleaving ts w → ∀ pc s,
      (∀ j : Nat, ts[j]? = (progs[j]?).map (List.drop (pc j))) → Inv pc s →
      ∃ pc, (∀ i p, progs[i]? = some p → p.length ≤ pc i) ∧ Inv pc (exec f s w) from
    h progs w hi _ s (fun j => by cases progs[j]? <;> rfl) h0
  intro ts w hi
  induction hi with
  | done ts he =>
    intro pc s hts hI
    refine ⟨pc, fun i p hp => ?_, hI⟩
    have hm : p.drop (pc i) ∈ ts := List.mem_iff_getElem?.2 ⟨i, by rw [hts, hp]; rfl⟩
    exact List.drop_eq_nil_iff.1 (he _ hm)
  | step ts i a t w hg _ ih =>
    intro pc s hts hI
    have hlt : i < ts.length := (List.getElem?_eq_some_iff.1 hg).1
    rw [hts, Option.map_eq_some_iff] at hg
    obtain ⟨p, hp, hd⟩ := hg
    obtain ⟨hget, hdrop⟩ := drop_eq_cons hd
    refine ih (bump pc i) (f s a) (fun j => ?_) (hstep pc s i p a hI hp hget)
    by_cases e : j = i
    · subst e; rw [List.getElem?_set_self hlt, hp, bump_self, ← hdrop]; rfl
    · rw [List.getElem?_set_ne (fun x => e x.symm), bump_ne pc e]; exact hts j

/-- calls `i, i+1, …, i+k-1` of thread `t`: what a thread that has made `i` calls has left of its
    program, the form in which `bodiesOf_eq_acqOrderFrom` speaks of the threads -/
def callsFrom (t : Nat) : Nat → Nat → List Act
  | _, 0 => []
  | i, k + 1 => .acq t :: .body t i :: .rel t :: callsFrom t (i + 1) k

theorem flatMap_range' (t i k : Nat) : (List.range' i k).flatMap (call t) = callsFrom t i k := by
  induction k generalizing i with
  | zero => rfl
  | succ k ih => rw [List.range'_succ, List.flatMap_cons, ih]; rfl

theorem prog_eq_callsFrom (t n : Nat) : prog t n = callsFrom t 0 n := by
  rw [prog, List.range_eq_range', flatMap_range']

theorem mem_prog_tid {t n : Nat} {a : Act} (h : a ∈ prog t n) : a.tid = t := by
  obtain ⟨i, _, hi⟩ := List.mem_flatMap.1 h
  simp only [call, List.mem_cons, List.not_mem_nil, or_false] at hi
  rcases hi with rfl | rfl | rfl <;> rfl

theorem progsFrom_getElem? (t : Nat) (ns : List Nat) (i : Nat) :
    (progsFrom t ns)[i]? = (ns[i]?).map (fun n => prog (t + i) n) := by
  induction ns generalizing t i with
  | nil => rfl
  | cons n ns ih =>
    cases i with
    | zero => rfl
    | succ i => rw [progsFrom, List.getElem?_cons_succ, ih, Nat.add_right_comm, Nat.add_assoc]; rfl

def Act.callId? : Act → Option CallId
  | .body t i => some (t, i)
  | _ => none

theorem bodiesOf_eq_filterMap (w : List Act) : bodiesOf w = w.filterMap Act.callId? := by
  induction w with
  | nil => rfl
  | cons a w ih => cases a <;> simp only [bodiesOf, List.filterMap_cons, Act.callId?, ih]

theorem bodiesOf_filter (w : List Act) (t : Nat) :
    (bodiesOf w).filter (fun c => c.1 == t) = bodiesOf (w.filter (fun a => a.tid == t)) := by
  rw [bodiesOf_eq_filterMap, bodiesOf_eq_filterMap, List.filter_filterMap, List.filterMap_filter]
  refine congrArg (List.filterMap · w) (funext fun a => ?_)
  cases a with
  | body u i => rfl
  | acq u => exact (ite_self _).symm
  | rel u => exact (ite_self _).symm

theorem bodiesOf_append (a b : List Act) : bodiesOf (a ++ b) = bodiesOf a ++ bodiesOf b := by
  simp only [bodiesOf_eq_filterMap, List.filterMap_append]

theorem bodiesOf_perm {a b : List Act} (p : a.Perm b) : (bodiesOf a).Perm (bodiesOf b) := by
  simp only [bodiesOf_eq_filterMap, p.filterMap]

theorem bodiesOf_callsFrom (t i k : Nat) :
    bodiesOf (callsFrom t i k) = (List.range' i k).map (fun j => (t, j)) := by
  induction k generalizing i with
  | zero => rfl
  | succ k ih => rw [callsFrom, List.range'_succ, List.map_cons, ← ih]; rfl

theorem bodiesOf_prog (t n : Nat) : bodiesOf (prog t n) = (List.range n).map (fun j => (t, j)) := by
  rw [prog_eq_callsFrom, bodiesOf_callsFrom, List.range_eq_range']

theorem bodiesOf_flatten_progsFrom (t : Nat) (ns : List Nat) :
    bodiesOf (progsFrom t ns).flatten = callIdsFrom t ns := by
  induction ns generalizing t with
  | nil => rfl
  | cons n ns ih => rw [progsFrom, List.flatten_cons, bodiesOf_append, bodiesOf_prog, ih, callIdsFrom]

theorem progs_tagged (ns : List Nat) :
    ∀ (i : Nat) (t : List Act), (progs ns)[i]? = some t → ∀ a ∈ t, Act.tid a = i := by
  intro i t h a ha
  rw [progs, progsFrom_getElem?] at h
  obtain ⟨n, _, rfl⟩ := Option.map_eq_some_iff.1 h
  rw [Nat.zero_add] at ha
  exact mem_prog_tid ha

theorem prog_zero (t : Nat) : prog t 0 = [] := rfl

theorem proj_progs {ns : List Nat} {w : List Act} (hi : Interleaving (progs ns) w) (t : Nat) :
    w.filter (fun a => a.tid == t) = prog t ((ns[t]?).getD 0) := by
  rw [hi.filter_tag Act.tid (progs_tagged ns) t, progs, progsFrom_getElem?, Nat.zero_add]
  cases ns[t]? <;> rfl

/-! ### the key lemma: in a valid schedule the bodies run in lock-acquisition order -/

/-- what is left of the critical section in progress: nothing while the mutex is free; for a
    holder `t` its `rel`, preceded by the body of its call while that has not run -/
def Pending : Option Nat → List Act → Prop
  | none, pre => pre = []
  | some t, pre => pre = [.rel t] ∨ ∃ i, pre = [.body t i, .rel t]

/-- The schedule `w` continues a run in which `h` holds the mutex and has `pre` left of its
    critical section, and every thread `u` has made `cnt u` calls and has some more to make.  A
    thread that does not hold the mutex has `acq` as its next action, which `validFrom` refuses
    while the mutex is held: only the holder moves, and the sections do not overlap. -/
theorem bodiesOf_eq_acqOrderFrom (w : List Act) (h : Option Nat) (pre : List Act) (cnt : Nat → Nat)
    (hpre : Pending h pre) (hval : validFrom h w = true)
    (hidle : ∀ u, h ≠ some u → ∃ k, w.filter (fun a => a.tid == u) = callsFrom u (cnt u) k)
    (hheld : ∀ t, h = some t → ∃ k, w.filter (fun a => a.tid == t) = pre ++ callsFrom t (cnt t) k) :
    bodiesOf w = bodiesOf pre ++ acqOrderFrom cnt w := by
  induction w generalizing h pre cnt with
  | nil =>
    cases h with
    | none => rw [show pre = [] from hpre]; rfl
    | some t =>
      obtain ⟨k, hk⟩ := hheld t rfl
      rcases hpre with rfl | ⟨i, rfl⟩ <;> cases hk
  | cons a w ih =>
    -- `t0` moves; the other threads have left what they had
    obtain ⟨t0, ht0⟩ : ∃ t0, a.tid = t0 := ⟨_, rfl⟩
    have hself : (a :: w).filter (fun a => a.tid == t0) = a :: w.filter (fun a => a.tid == t0) :=
      List.filter_cons_of_pos (by simpa using ht0)
    have hoth : ∀ u, t0 ≠ u →
        (a :: w).filter (fun a => a.tid == u) = w.filter (fun a => a.tid == u) :=
      fun u hu => List.filter_cons_of_neg (by simpa [ht0] using hu)
    cases a with
    | acq t =>
      obtain rfl : t = t0 := ht0
      cases h with
      | some t' => cases hval
      | none =>
        obtain rfl : pre = [] := hpre
        obtain ⟨k, hk⟩ := hidle t nofun
        rw [hself] at hk
        cases k with
        | zero => cases hk
        | succ k =>
          injection hk with _ hk
          refine ih (some t) [.body t (cnt t), .rel t] _ (Or.inr ⟨cnt t, rfl⟩) hval
            (fun u hu => ?_) (fun t' ht' => ?_)
          · have e : t ≠ u := fun e => hu (e ▸ rfl)
            obtain ⟨k', hk'⟩ := hidle u nofun
            exact ⟨k', by simp only [← hoth u e, hk', if_neg (Ne.symm e)]⟩
          · cases ht'
            exact ⟨k, by simp only [hk, if_pos]; rfl⟩
    | body t i =>
      obtain rfl : t = t0 := ht0
      by_cases hh : h = some t
      · subst hh
        obtain ⟨k, hk⟩ := hheld t rfl
        rw [hself] at hk
        rcases hpre with rfl | ⟨j, rfl⟩
        · cases hk
        · injection hk with hi hk
          injection hi with _ hi
          subst hi
          refine congrArg ((t, i) :: ·) (ih (some t) [.rel t] cnt (Or.inl rfl) hval
            (fun u hu => ?_) (fun t' ht' => ?_))
          · rw [← hoth u fun e => hu (e ▸ rfl)]; exact hidle u hu
          · cases ht'; exact ⟨k, hk⟩
      · obtain ⟨k, hk⟩ := hidle t hh
        rw [hself] at hk
        cases k <;> cases hk
    | rel t =>
      obtain rfl : t = t0 := ht0
      by_cases hh : h = some t
      · subst hh
        obtain ⟨k, hk⟩ := hheld t rfl
        rw [hself] at hk
        rcases hpre with rfl | ⟨j, rfl⟩
        · injection hk with _ hk
          refine ih none [] cnt rfl hval (fun u _ => ?_) nofun
          by_cases e : t = u
          · subst e; exact ⟨k, hk⟩
          · rw [← hoth u e]; exact hidle u fun h' => e (Option.some.inj h')
        · cases hk
      · obtain ⟨k, hk⟩ := hidle t hh
        rw [hself] at hk
        cases k <;> cases hk

/-- **mutual exclusion ⇒ serial order.**  In every schedule of guarded calls that is valid for
    the mutex, the bodies run exactly in the order in which the mutex was acquired. -/
theorem bodies_eq_acqOrder {ns : List Nat} {w : List Act} (hi : Interleaving (progs ns) w)
    (hv : validMutex w) : bodiesOf w = acqOrder w :=
  bodiesOf_eq_acqOrderFrom w none [] (fun _ => 0) rfl hv
    (fun u _ => ⟨_, by rw [proj_progs hi u, prog_eq_callsFrom]⟩) nofun

section
variable {σ : Type u} {ρ : Type v}

theorem exec_stepAct_eq (threads : List (List (σ → σ × ρ))) (r : σ × List (CallId × ρ))
    (w : List Act) : exec (stepAct threads) r w = exec (runCall threads) r (bodiesOf w) := by
  induction w generalizing r with
  | nil => rfl
  | cons a w ih =>
    cases a <;> simp only [exec, List.foldl_cons, stepAct, bodiesOf] <;> exact ih _

end

theorem callIdsFrom_eq_flatMap (t : Nat) (ns : List Nat) :
    callIdsFrom t ns = (ns.zipIdx t).flatMap fun p => (List.range p.1).map fun i => (p.2, i) := by
  induction ns generalizing t with
  | nil => rfl
  | cons n ns ih => rw [callIdsFrom, ih, List.zipIdx_cons, List.flatMap_cons]

theorem mem_callIdsFrom (t : Nat) (ns : List Nat) (c : CallId) :
    c ∈ callIdsFrom t ns ↔ t ≤ c.1 ∧ ∃ n, ns[c.1 - t]? = some n ∧ c.2 < n := by
  rw [callIdsFrom_eq_flatMap, List.mem_flatMap]
  constructor
  · rintro ⟨⟨n, u⟩, hp, hc⟩
    obtain ⟨i, hi, rfl⟩ := List.mem_map.1 hc
    obtain ⟨hle, hg⟩ := List.mem_zipIdx_iff_le_and_getElem?_sub.1 hp
    exact ⟨hle, n, hg, List.mem_range.1 hi⟩
  · rintro ⟨hle, n, hg, hlt⟩
    exact ⟨(n, c.1), List.mem_zipIdx_iff_le_and_getElem?_sub.2 ⟨hle, hg⟩,
      List.mem_map.2 ⟨c.2, List.mem_range.2 hlt, rfl⟩⟩

theorem callIdsFrom_nodup (t : Nat) (ns : List Nat) : (callIdsFrom t ns).Nodup := by
  induction ns generalizing t with
  | nil => exact .nil
  | cons n ns ih =>
    rw [callIdsFrom, List.nodup_append]
    refine ⟨?_, ih _, ?_⟩
    · exact List.Pairwise.map _ (fun a b (h : a ≠ b) e => h (by cases e; rfl)) List.nodup_range
    · intro a ha b hb e
      subst e
      obtain ⟨i, _, rfl⟩ := List.mem_map.1 ha
      exact Nat.not_succ_le_self t ((mem_callIdsFrom _ _ _).1 hb).1

section calls
variable {σ : Type u} {ρ : Type v}

theorem sched_calls (threads : List (List (σ → σ × ρ))) (t : Nat) :
    (((threads.map List.length)[t]?).getD 0) = ((threads[t]?).getD []).length := by
  rw [List.getElem?_map]; cases threads[t]? <;> rfl


theorem acqOrder_perm_allCalls {ns : List Nat} {w : List Act} (hi : Interleaving (progs ns) w)
    (hv : validMutex w) : (acqOrder w).Perm (allCalls ns) := by
  rw [← bodies_eq_acqOrder hi hv, allCalls, ← bodiesOf_flatten_progsFrom]
  exact bodiesOf_perm hi.perm


theorem filterMap_getElem?_range {β : Type u} (l : List β) :
    (List.range l.length).filterMap (fun i => l[i]?) = l := by
  induction l with
  | nil => rfl
  | cons a l ih =>
    simp only [List.length_cons, List.range_succ_eq_map, List.filterMap_cons, List.getElem?_cons_zero,
      List.filterMap_map]
    congr 1


theorem filterMap_bodyAt_callIdsFrom (all ths : List (List (σ → σ × ρ))) (t : Nat)
    (h : ∀ i, all[t + i]? = ths[i]?) :
    (callIdsFrom t (ths.map List.length)).filterMap (bodyAt all) = ths.flatten := by
  induction ths generalizing t with
  | nil => rfl
  | cons x xs ih =>
    have hx : (bodyAt all ∘ fun i => (t, i)) = fun i => x[i]? := by
      funext i
      show (match all[t]? with | some calls => calls[i]? | none => none) = _
      rw [show all[t]? = some x from h 0]
    rw [List.map_cons, callIdsFrom, List.filterMap_append, List.filterMap_map, hx,
      filterMap_getElem?_range,
      ih (t + 1) fun i => by rw [Nat.add_right_comm, Nat.add_assoc]; exact h (i + 1)]
    rfl


theorem execSerial_state (threads : List (List (σ → σ × ρ))) (r : σ × List (CallId × ρ))
    (order : List CallId) :
    (exec (runCall threads) r order).1
      = (order.filterMap (bodyAt threads)).foldl (fun s f => (f s).1) r.1 := by
  induction order generalizing r with
  | nil => rfl
  | cons c order ih =>
    simp only [exec, List.foldl_cons] at ih ⊢
    rw [ih]
    cases hb : bodyAt threads c with
    | none => simp [runCall, hb]
    | some f => simp [runCall, hb]

end calls

end Gostatix.Conc

namespace Gostatix
open Conc

/-- one `SETBIT p 1` -/
def setBit (bs : List Bool) (p : Nat) : List Bool := bs.set p true

theorem setBit_commute : Commute setBit := by
  intro s a b
  by_cases e : a = b
  · subst e; rfl
  · exact List.set_comm true true e

theorem setBit_idem (bs : List Bool) (p : Nat) : setBit (setBit bs p) p = setBit bs p := by
  simp [setBit]

theorem setBits_eq_exec (bits : List Bool) (ps : List Nat) : Bloom.setBits bits ps = exec setBit bits ps := rfl

theorem Bloom.insert_commute : Commute Bloom.insert := by
  intro b p q
  simp only [Bloom.insert, setBits_eq_exec, exec, ← List.foldl_append]
  congr 1
  exact foldl_perm_of_commute setBit_commute List.perm_append_comm _

/-- a whole Count-Min update (one Lua script) -/
def cmsStep (s : CMS) (u : List Nat × Nat) : CMS := s.update u.1 u.2

theorem CMS.updRows_comm (m : List (List Nat)) (p q : List Nat) (c d : Nat) :
    CMS.updRows (CMS.updRows m p c) q d = CMS.updRows (CMS.updRows m q d) p c := by
  rw [CMS.updRows_eq, CMS.updRows_eq, CMS.updRows_eq, CMS.updRows_eq]
  exact Rows.updWith_comm _ _ (fun n => Nat.add_right_comm n d c) m p q

theorem cmsStep_commute : Commute cmsStep := by
  intro s a b
  simp only [cmsStep, CMS.update, CMS.updRows_comm]

theorem HLL.upd_commute : Commute HLL.upd := HLL.upd_comm

end Gostatix
