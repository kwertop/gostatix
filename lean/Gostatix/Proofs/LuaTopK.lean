/-
  Gostatix.Proofs.LuaTopK — the extracted scripts of top_k_redis.go (`importHeapScript`, `equals`), run by the
  interpreter of Model/Lua.lean and compared with their models (`zaddAll` below, `withScores` of the two sorted
  sets), in the pieces and with the tools of Proofs/LuaHLL.lean (see its header); the theorems for the outside
  are in Props/LuaHLL.lean.  The names live in the namespace `Gostatix.LuaHLL` as well: the Top-K scripts share
  the states (`mergeT`, `strTable`) and the outcome views of the HyperLogLog ones.
-/
import Gostatix.Proofs.LuaHLL
import Gostatix.Model.Json
namespace Gostatix.LuaHLL
open Gostatix Gostatix.Lua Gostatix.Redis Gostatix.Generated.LuaScripts Gostatix.LuaCMS

/-! ## `importHeapScript` (top_k_redis.go, `importHeap`) -/

/-- the script's commands on the store: `ZADD key score element` for the pairs, in order; the
    first failing one (key of the wrong type) aborts. -/
def zaddAll (key : String) : List (String × Nat) → Script Unit
  | [] => Script.pure ()
  | (x, f) :: ps => cmdZADD key x f >>=ₛ fun _ => zaddAll key ps

/-- `ARGV` of `importHeap`: element, count, element, count, … -/
def heapArgs : List (String × Nat) → List String
  | [] => []
  | (x, f) :: ps => x :: decimal f :: heapArgs ps

theorem heapArgs_length (ps : List (String × Nat)) : (heapArgs ps).length = 2 * ps.length := by
  induction ps with
  | nil => rfl
  | cons p ps ih => obtain ⟨x, f⟩ := p; simp [heapArgs, ih]; omega

/-- the state of `importHeapScript` in its loop: `ARGV` is `A`, `vals2` holds `v2`, `extra` are the
    tables allocated so far, `lg` the command log. -/
def heapS (st : Store) (key : String) (A : Table) (extra : List Table) (v2 : Value) (lg : List String) : State :=
  { store := st
    heap := { arr := [.str key] } :: A :: extra
    env := [("vals2", v2), ("key", .str key)]
    log := lg }

def heapBody : List Stmt := forBody (top_k_redis_importHeapScript.getD 2 (.unsupported ""))

section heapPrefix
variable (f : Nat) (st : Store) (key : String) (A : Table)

theorem heap_prefix_zset (l : List String)
    (h1 : redisCommand "ZRANGE" [key, "0", "-1"] st = .ok st (.list l)) :
    execBlock (f + 10 + 2) (top_k_redis_importHeapScript.take 2)
        { store := st, heap := [{ arr := [.str key] }, A], env := [], log := [] } =
      .ok none (heapS st key A [strTable l] (.table 2) [key]) := by
  simp only [top_k_redis_importHeapScript, List.take]
  lua_simp_hll [heapS, strTable, h1]

theorem heap_prefix_error (msg : String)
    (h1 : redisCommand "ZRANGE" [key, "0", "-1"] st = .error msg) :
    execBlock (f + 10 + 2) (top_k_redis_importHeapScript.take 2)
        { store := st, heap := [{ arr := [.str key] }, A], env := [], log := [] } =
      .ok none (heapS st key A [] .nil [key]) := by
  simp only [top_k_redis_importHeapScript, List.take]
  lua_simp_hll [heapS, h1]

theorem heap_for (extra : List Table) (v2 : Value)
    (lg : List String) (n : Nat) (hlen : A.len = n) :
    execStmt (f + 6) (top_k_redis_importHeapScript.getD 2 (.unsupported "")) (heapS st key A extra v2 lg) =
      numForLoop (f + 5) "i" 1 (n : Int) 2 heapBody (heapS st key A extra v2 lg) :=
  execStmt_numFor_eval (f := f + 5) (body := heapBody) (by lua_simp_hll) (by lua_simp_hll [heapS, hlen])
    (by lua_simp_hll)

end heapPrefix

section body
variable (f : Nat) (st : Store) (key : String) (A : Table) (extra : List Table) (v2 : Value)
    (lg : List String) (i : Int) (x sc : String)
    (hi : ¬ (i + 1).natAbs > numLimit)
    (hg1 : A.get (.num i) = .str x) (hg2 : A.get (.num (i + 1)) = .str sc)
include hi hg1 hg2

theorem heap_body_ok (st' : Store) (c : Int)
    (hz : redisCommand "ZADD" [key, sc, x] st = .ok st' (.int c)) :
    inScope (do declare "i" (.num i); execBlock (f + 10) heapBody) (heapS st key A extra v2 lg) =
      .ok none (heapS st' key A extra v2 (key :: lg)) := by
  simp only [top_k_redis_importHeapScript, heapBody, forBody, List.getD_cons_succ, List.getD_cons_zero]
  lua_simp_hll [heapS, arith, checkNum, hi, hg1, hg2, hz]

theorem heap_body_error (msg : String)
    (hz : redisCommand "ZADD" [key, sc, x] st = .error msg) :
    ∃ s', inScope (do declare "i" (.num i); execBlock (f + 10) heapBody) (heapS st key A extra v2 lg) =
      .error msg s' ∧ s'.store = st := by
  simp only [top_k_redis_importHeapScript, heapBody, forBody, List.getD_cons_succ, List.getD_cons_zero]
  lua_simp_hll [heapS, arith, checkNum, hi, hg1, hg2, hz]
  exact ⟨_, rfl, rfl⟩

end body

theorem cmdZADD_cases (k x : String) (v : Nat) (st : Store) :
    (∃ st1 n, cmdZADD k x v st = (st1, some n)) ∨ cmdZADD k x v st = (st, none) := by
  unfold cmdZADD
  cases zsetAt st k with
  | none => right; rfl
  | some z => left; exact ⟨_, _, rfl⟩

theorem heap_loop (key : String) (extra : List Table) (v2 : Value) (all : List String) (L : Nat)
    (hL : L < maxArrayIndex) :
    ∀ (ps : List (String × Nat)) (k : Nat) (pre : List String) (st : Store) (lg : List String),
      all = pre ++ heapArgs ps → pre.length = 2 * k → 2 * k + 2 * ps.length = L →
      (∀ p ∈ ps, p.2 ≤ numLimit) → ∀ f,
      match zaddAll key ps st with
      | (st', some _) =>
        ∃ lg', numForLoop (f + ps.length + 11) "i" (((2 * k : Nat) : Int) + 1) (L : Int) 2 heapBody
            (heapS st key (strTable all) extra v2 lg) =
          .ok none (heapS st' key (strTable all) extra v2 lg')
      | (st', none) =>
        ∃ s', numForLoop (f + ps.length + 11) "i" (((2 * k : Nat) : Int) + 1) (L : Int) 2 heapBody
            (heapS st key (strTable all) extra v2 lg) = .error msgWrongType s' ∧ s'.store = st' := by
  have hmax : maxArrayIndex = 67108864 := rfl
  have hlim : numLimit = 2 ^ 53 := rfl
  intro ps
  induction ps with
  | nil =>
    intro k pre st lg hall hpre hkL hsc f
    exact ⟨lg, numForLoop_done _ _ _ _ _ _ _ (by omega) (by simp at hkL; omega)⟩
  | cons p ps ih =>
    obtain ⟨x, v⟩ := p
    intro k pre st lg hall hpre hkL hsc f
    simp only [List.length_cons] at hkL
    have hv : v ≤ numLimit := hsc (x, v) List.mem_cons_self
    have hle : (((2 * k : Nat) : Int) + 1) ≤ (L : Int) := by omega
    have hi : ¬ ((((2 * k : Nat) : Int) + 1) + 1).natAbs > numLimit := by omega
    have hall1 : all = pre ++ x :: (decimal v :: heapArgs ps) := by rw [hall]; rfl
    have hall2 : all = (pre ++ [x]) ++ decimal v :: heapArgs ps := by rw [hall1]; simp
    have hall3 : all = (pre ++ [x, decimal v]) ++ heapArgs ps := by rw [hall1]; simp
    have hg1 : (strTable all).get (.num (((2 * k : Nat) : Int) + 1)) = .str x := by
      rw [hall1]; exact strTable_get_cons pre x _ (2 * k) hpre (by omega)
    have hg2 : (strTable all).get (.num ((((2 * k : Nat) : Int) + 1) + 1)) = .str (decimal v) := by
      have e : (((2 * k : Nat) : Int) + 1) + 1 = ((2 * k + 1 : Nat) : Int) + 1 := by omega
      rw [e, hall2]
      exact strTable_get_cons (pre ++ [x]) (decimal v) _ (2 * k + 1) (by simp [hpre]) (by omega)
    have hcmd := redisCommand_ZADD_nat key x v hv st
    have efuel : f + (ps.length + 1) + 11 = (f + ps.length + 11) + 1 := by omega
    have efuel2 : f + ps.length + 11 = (f + ps.length + 1) + 10 := by omega
    have enext : (((2 * k : Nat) : Int) + 1) + 2 = ((2 * (k + 1) : Nat) : Int) + 1 := by omega
    have hmodel : zaddAll key ((x, v) :: ps) st = (cmdZADD key x v >>=ₛ fun _ => zaddAll key ps) st := rfl
    simp only [List.length_cons]
    rw [efuel, hmodel]
    rcases cmdZADD_cases key x v st with ⟨st1, n, h1⟩ | h1
    · rw [h1] at hcmd
      simp only at hcmd
      have hbody := heap_body_ok (f + ps.length + 1) st key (strTable all) extra v2 lg _ x (decimal v)
        hi hg1 hg2 st1 _ hcmd
      rw [← efuel2] at hbody
      rw [numForLoop_step _ _ _ _ _ _ _ _ (by omega) hle hbody, enext, Script.bind_ok h1]
      exact ih (k + 1) (pre ++ [x, decimal v]) st1 (key :: lg) hall3 (by simp [hpre]; omega) (by omega)
        (fun p hp => hsc p (List.mem_cons_of_mem _ hp)) f
    · rw [h1] at hcmd
      simp only at hcmd
      obtain ⟨s', hbody, hs'⟩ := heap_body_error (f + ps.length + 1) st key (strTable all) extra v2 lg _ x
        (decimal v) hi hg1 hg2 _ hcmd
      rw [← efuel2] at hbody
      rw [Script.bind_err h1]
      exact ⟨s', numForLoop_error _ _ _ _ _ _ _ _ _ (by omega) hle hbody, hs'⟩

theorem importHeap_eq (st : Store) (key : String) (ps : List (String × Nat)) (f : Nat)
    (hlen : 2 * ps.length < maxArrayIndex) (hsc : ∀ p ∈ ps, p.2 ≤ numLimit) :
    run (f + ps.length + 15) top_k_redis_importHeapScript [key] (heapArgs ps) st =
      ((zaddAll key ps st).1, unitOutcome (zaddAll key ps st).2 msgWrongType) := by
  have hA : (strTable (heapArgs ps)).len = 2 * ps.length := by rw [strTable_len, heapArgs_length]
  -- the loop, from either state the prefix can leave
  have hloop : ∀ (extra : List Table) (v2 : Value),
      finish (execBlock (f + ps.length + 12 + 1)
        (top_k_redis_importHeapScript.getD 2 (.unsupported "") :: top_k_redis_importHeapScript.drop (2 + 1))
        (heapS st key (strTable (heapArgs ps)) extra v2 [key])) =
      ((zaddAll key ps st).1, unitOutcome (zaddAll key ps st).2 msgWrongType) := by
    intro extra v2
    have hl := heap_loop key extra v2 (heapArgs ps) (2 * ps.length) hlen ps 0 [] st [key] rfl rfl
      (by omega) hsc f
    simp only [Nat.mul_zero, Int.natCast_zero, Int.zero_add] at hl
    have hfor := heap_for (f + ps.length + 6) st key _ extra v2 [key] _ hA
    cases hz : zaddAll key ps st with
    | mk st' r =>
      rw [hz] at hl
      cases r with
      | some u =>
        obtain ⟨lg', hx⟩ := hl
        rw [execBlock_cons_none (f := f + ps.length + 12) (hfor.trans hx)]
        exact finish_ret_true (f + ps.length + 7) _
      | none =>
        obtain ⟨s', hx, hs'⟩ := hl
        rw [execBlock_cons_error (f := f + ps.length + 12) (hfor.trans hx), finish_error, hs']
        rfl
  rw [run_eq_finish]
  have hzr := redisCommand_ZRANGE_all key st
  cases hz : zsetAt st key with
  | none =>
    rw [hz] at hzr
    exact (congrArg finish (execBlock_at _ 2 (by decide) (f + ps.length + 12 + 1) _ _
      (heap_prefix_error _ st key _ _ hzr))).trans (hloop _ _)
  | some z =>
    rw [hz] at hzr
    exact (congrArg finish (execBlock_at _ 2 (by decide) (f + ps.length + 12 + 1) _ _
      (heap_prefix_zset _ st key _ _ hzr))).trans (hloop _ _)

theorem zsetAt_zsetPut (st : Store) (k : String) (z : List HElem) : zsetAt (zsetPut st k z) k = some z := by
  unfold zsetPut zsetAt
  by_cases h : z = []
  · simp [h, Store.del]
  · simp [h, Store.set]

theorem zsetPut_ne (st : Store) (k k' : String) (z : List HElem) (h : k' ≠ k) : zsetPut st k z k' = st k' := by
  unfold zsetPut
  split
  · simp [Store.del, h]
  · simp [Store.set, h]

theorem zaddAll_zset (key : String) : ∀ (ps : List (String × Nat)) (st : Store) (z : List HElem),
    zsetAt st key = some z →
    ∃ st', zaddAll key ps st = (st', some ()) ∧
      zsetAt st' key = some (ps.foldl (fun z e => TopK.zadd z e.1 e.2) z) ∧
      ∀ k, k ≠ key → st' k = st k := by
  intro ps
  induction ps with
  | nil => intro st z hz; exact ⟨st, rfl, hz, fun _ _ => rfl⟩
  | cons p ps ih =>
    obtain ⟨x, f⟩ := p
    intro st z hz
    have h1 : cmdZADD key x f st = (zsetPut st key (TopK.zadd z x f), some (if (zscore z x).isSome then 0 else 1)) := by
      unfold cmdZADD; rw [hz]
    obtain ⟨st', h2, h3, h4⟩ := ih (zsetPut st key (TopK.zadd z x f)) _ (zsetAt_zsetPut _ _ _)
    refine ⟨st', ?_, h3, ?_⟩
    · show (cmdZADD key x f >>=ₛ fun _ => zaddAll key ps) st = _
      rw [Script.bind_ok h1, h2]
    · intro k hk; rw [h4 k hk, zsetPut_ne _ _ _ _ hk]

theorem json_insertSorted_eq (lt : HElem → HElem → Bool) (x : HElem) (l : List HElem) :
    Json.insertSorted lt x l = TopK.insertSorted lt x l := by
  induction l with
  | nil => rfl
  | cons y ys ih => simp only [Json.insertSorted, TopK.insertSorted, ih]

/-- the Json-level `ZADD` (Model/Json.lean) with the bytewise order of member names is
    `TopK.zadd` (Model/TopK.lean). -/
theorem json_zadd_eq (z : List HElem) (x : String) (f : Nat) :
    Json.zadd (fun a b : String => decide (a < b)) z x f = TopK.zadd z x f := by
  unfold Json.zadd TopK.zadd
  rw [json_insertSorted_eq]
  have e1 : Json.zLt (fun a b : String => decide (a < b)) = TopK.zLt := by
    funext a b; simp [Json.zLt, TopK.zLt]
  have e2 : (fun e : String × Nat => decide (e.1 ≠ x)) = (fun e : HElem => e.1 != x) := by
    funext e; by_cases h : e.1 = x <;> simp [h]
  rw [e1, e2]

theorem json_importHeap_eq (z : List HElem) (ps : List (String × Nat)) :
    Json.importHeap (fun a b : String => decide (a < b)) z ps =
      ps.foldl (fun z e => TopK.zadd z e.1 e.2) z := by
  unfold Json.importHeap
  congr 1
  funext z e
  exact json_zadd_eq z e.1 e.2

/-! ## `equals` (top_k_redis.go, `compareHeaps`) -/

section compareHeaps
variable (f : Nat) (st : Store) (key1 key2 : String) (k : Nat)

def tkBody : List Stmt := forBody (top_k_redis_equals.getD 6 (.unsupported ""))

theorem tk_prefix (w1 w2 : List String)
    (h1 : redisCommand "ZRANGE" [key1, "0", "-1", "WITHSCORES"] st = .ok st (.list w1))
    (h2 : redisCommand "ZRANGE" [key2, "0", "-1", "WITHSCORES"] st = .ok st (.list w2)) :
    execBlock (f + 10 + 5) (top_k_redis_equals.take 5) (initState [key1, key2] [decimal k] st) =
      .ok none (mergeT st key1 key2 k (strTable w1) (strTable w2)) := by
  simp only [top_k_redis_equals, List.take]
  lua_simp_hll [mergeT, strTable, h1, h2]

/-- `if #vals1 ~= #vals2 then return false end`. -/
theorem tk_if (T1 T2 : Table) (n1 n2 : Nat)
    (h1 : T1.len = n1) (h2 : T2.len = n2) :
    execStmt (f + 6) (top_k_redis_equals.getD 5 (.unsupported "")) (mergeT st key1 key2 k T1 T2) =
      if n1 = n2 then .ok none (mergeT st key1 key2 k T1 T2)
      else .ok (some [.bool false]) (mergeT st key1 key2 k T1 T2) := by
  simp only [top_k_redis_equals, List.getD_cons_succ, List.getD_cons_zero]
  lua_simp_hll [mergeT, h1, h2, Value.num.injEq, Int.natCast_inj]
  by_cases hn : n1 = n2 <;> lua_simp_hll [hn]

theorem tk_for (T1 T2 : Table) (n : Nat)
    (h1 : T1.len = n) :
    execStmt (f + 6) (top_k_redis_equals.getD 6 (.unsupported "")) (mergeT st key1 key2 k T1 T2) =
      numForLoop (f + 5) "i" 1 (n : Int) 1 tkBody (mergeT st key1 key2 k T1 T2) :=
  execStmt_numFor_eval (f := f + 5) (body := tkBody) (by lua_simp_hll) (by lua_simp_hll [mergeT, h1]) rfl

theorem tk_body (T1 T2 : Table) (i : Int)
    (v1 v2 : Value) (hg1 : T1.get (.num i) = v1) (hg2 : T2.get (.num i) = v2) :
    inScope (do declare "i" (.num i); execBlock (f + 8) tkBody) (mergeT st key1 key2 k T1 T2) =
      if v1 = v2 then .ok none (mergeT st key1 key2 k T1 T2)
      else .ok (some [.bool false]) (mergeT st key1 key2 k T1 T2) := by
  simp only [top_k_redis_equals, tkBody, forBody, List.getD_cons_succ, List.getD_cons_zero]
  lua_simp_hll [mergeT, hg1, hg2]
  by_cases hv : v1 = v2 <;> lua_simp_hll [hv]

theorem optStr_inj (o1 o2 : Option String) :
    (match o1 with | some a => Value.str a | none => Value.nil) =
      (match o2 with | some a => Value.str a | none => Value.nil) ↔ o1 = o2 := by
  cases o1 <;> cases o2 <;> simp

theorem tk_loop (w1 w2 : List String)
    (hl : w1.length = w2.length) (hn : w1.length < maxArrayIndex) (F : Nat) (hF : w1.length + 9 ≤ F) :
    numForLoop F "i" 1 (w1.length : Int) 1 tkBody
        (mergeT st key1 key2 k (strTable w1) (strTable w2)) =
      (if w1 = w2 then Res.ok none (mergeT st key1 key2 k (strTable w1) (strTable w2))
       else Res.ok (some [.bool false]) (mergeT st key1 key2 k (strTable w1) (strTable w2))) := by
  rw [numForLoop_scan "i" tkBody 8 _ w1.length (fun j => w1[j]? = w2[j]?)
    (.ok (some [.bool false]) (mergeT st key1 key2 k (strTable w1) (strTable w2))) (fun _ h => by cases h)
    (fun j hj f => by
      rw [tk_body f st key1 key2 k _ _ _ _ _ (strTable_get w1 j (by omega)) (strTable_get w2 j (by omega))]
      exact ite_congr (propext (optStr_inj _ _)) (fun _ => rfl) (fun _ => rfl)) F hF]
  refine ite_congr (propext ⟨fun h => List.ext_getElem? fun i => ?_, fun h j _ => by rw [h]⟩)
    (fun _ => rfl) (fun _ => rfl)
  rcases Nat.lt_or_ge i w1.length with hi | hi
  · exact h i hi
  · rw [List.getElem?_eq_none hi, List.getElem?_eq_none (hl ▸ hi)]

theorem withScores_length (z : List HElem) : (withScores z).length = 2 * z.length := by
  induction z with
  | nil => rfl
  | cons e z ih => simp only [withScores, List.foldr_cons, List.length_cons] at ih ⊢; omega

theorem topkEquals_eq (z1 z2 : List HElem)
    (h1 : zsetAt st key1 = some z1) (h2 : zsetAt st key2 = some z2)
    (hn : 2 * z1.length < maxArrayIndex) :
    run (f + 2 * z1.length + 17) top_k_redis_equals [key1, key2] [decimal k] st =
      (st, boolOutcome (some (decide (withScores z1 = withScores z2)))) := by
  have hs2 : top_k_redis_equals.drop (5 + 1) =
      top_k_redis_equals.getD 6 (.unsupported "") :: top_k_redis_equals.drop 7 := rfl
  have hw1 := withScores_length z1
  have hw2 := withScores_length z2
  generalize hW1 : withScores z1 = w1 at *
  generalize hW2 : withScores z2 = w2 at *
  have hz1 : redisCommand "ZRANGE" [key1, "0", "-1", "WITHSCORES"] st = .ok st (.list w1) := by
    rw [redisCommand_ZRANGE_withscores, h1]; simp only [hW1]
  have hz2 : redisCommand "ZRANGE" [key2, "0", "-1", "WITHSCORES"] st = .ok st (.list w2) := by
    rw [redisCommand_ZRANGE_withscores, h2]; simp only [hW2]
  rw [← hw1] at hn ⊢
  have hat : execBlock (f + w1.length + 17) top_k_redis_equals (initState [key1, key2] [decimal k] st) = _ :=
    execBlock_at _ 5 (by decide) (f + w1.length + 10 + 1 + 1) _ _ (tk_prefix _ st key1 key2 k w1 w2 hz1 hz2)
  rw [run_eq_finish, hat, execBlock_cons_ite (f := f + w1.length + 10 + 1)
    (tk_if (f + w1.length + 5) st key1 key2 k _ _ _ _ (strTable_len w1) (strTable_len w2))]
  by_cases hl : w1.length = w2.length
  · rw [if_pos hl, hs2, execBlock_cons_ite (f := f + w1.length + 10)
      ((tk_for (f + w1.length + 4) st key1 key2 k _ _ _ (strTable_len w1)).trans
        (tk_loop st key1 key2 k w1 w2 hl hn _ (by omega)))]
    by_cases hw : w1 = w2
    · rw [if_pos hw]
      exact (finish_ret_true (f + w1.length + 5) _).trans (by simp [hw, boolOutcome]; rfl)
    · rw [if_neg hw]; simp [hw, boolOutcome]; rfl
  · have hw : w1 ≠ w2 := fun h => hl (by rw [h])
    rw [if_neg hl]; simp [hw, boolOutcome]; rfl

end compareHeaps

end Gostatix.LuaHLL
