/-
  Gostatix.Proofs.C02Concrete — byte-level ("exact mode") histories of a cuckoo filter and their
  reduction to the abstract histories of Proofs/CuckooHistory.lean.

  `insertB / lookupB / removeB` are `Insert / Lookup / Remove` of the Go code on the element BYTES:
  they call `Cuckoo.positions c.n c.fpl data` (the model of `getPositions`, reading the number of
  buckets and the fingerprint length from the filter itself) and pass the three results, as they
  are, to `Cuckoo.insert / lookup / remove` with the eviction map `altOf hashStr c.n` — exactly
  what `Driver.lean` (`cuckooStep`) runs against the Go implementation.
  The third component of `positions` is used as returned; that it equals `alt i1 fp` is a lemma
  (`positions_alt`), not part of the definition.
  The byte-level vocabulary (`stepB`, `runB`, `okInsertsB`, …) re-reads `c.n` and `c.fpl` at every
  step, as the Go methods do; that it is the abstract vocabulary on the translated history
  (`h.map (toCOp n fpl)`) is `histB_eq`, valid for elements that pass the length check.
-/
import Gostatix.Proofs.CuckooMem
import Gostatix.Proofs.CuckooRedis
set_option linter.unusedSectionVars false
namespace Gostatix.Cuckoo

/-- the fingerprint length `fpl` is usable for the element `data`: at least one digit, at most the
    number of decimal digits of the element's hash -/
def ValidData (fpl : Nat) (data : List UInt8) : Prop :=
  1 ≤ fpl ∧ fpl ≤ (toString (Murmur.getHash data)).length

theorem positions_of_le (n fpl : Nat) (data : List UInt8)
    (h : fpl ≤ (toString (Murmur.getHash data)).length) :
    positions n fpl data =
      (String.ofList ((toString (Murmur.getHash data)).toList.take fpl), Murmur.getHash data % n,
        (Murmur.getHash data % n ^^^
          hashStr (String.ofList ((toString (Murmur.getHash data)).toList.take fpl))) % n) := by
  have h' : ¬ fpl > (toString (Murmur.getHash data)).length := by omega
  simp only [positions, h', ↓reduceIte]

/-- `positions` when the length check fails (the Go callers ignore the error) -/
theorem positions_of_gt (n fpl : Nat) (data : List UInt8)
    (h : (toString (Murmur.getHash data)).length < fpl) : positions n fpl data = ("", 0, 0) := by
  have h' : fpl > (toString (Murmur.getHash data)).length := h
  simp only [positions, h', ↓reduceIte]

/-- the second index is the alternate bucket of the first (needs only the length check) -/
theorem positions_alt (n fpl : Nat) (data : List UInt8)
    (h : fpl ≤ (toString (Murmur.getHash data)).length) :
    (positions n fpl data).2.2
      = altOf hashStr n (positions n fpl data).2.1 (positions n fpl data).1 := by
  rw [positions_of_le n fpl data h]; rfl

theorem positions_fp_ne (n fpl : Nat) (data : List UInt8) (h : ValidData fpl data) :
    (positions n fpl data).1 ≠ "" := by
  obtain ⟨h1, h2⟩ := h
  rw [positions_of_le n fpl data h2]
  simp only [ne_eq, String.ofList_eq_empty_iff, List.take_eq_nil_iff, String.toList_eq_nil_iff]
  intro hc
  rcases hc with hc | hc
  · omega
  · rw [hc] at h2; simp at h2; omega

theorem positions_i1_lt (n fpl : Nat) (data : List UInt8) (hn : 0 < n)
    (h : fpl ≤ (toString (Murmur.getHash data)).length) : (positions n fpl data).2.1 < n := by
  rw [positions_of_le n fpl data h]; exact Nat.mod_lt _ hn

theorem positions_i2_lt (n fpl : Nat) (data : List UInt8) (hn : 0 < n)
    (h : fpl ≤ (toString (Murmur.getHash data)).length) : (positions n fpl data).2.2 < n := by
  rw [positions_of_le n fpl data h]; exact Nat.mod_lt _ hn

theorem altOf_lt {F : Type} (H : F → Nat) (n : Nat) (hn : 0 < n) (j : Nat) (f : F) :
    altOf H n j f < n := Nat.mod_lt _ hn

/-- which `fpl` pass the length check: `hash ≥ 10^(fpl-1)` (always, for one digit) -/
theorem le_digits_iff (fpl hash : Nat) (h1 : 1 ≤ fpl) :
    fpl ≤ (toString hash).length ↔ fpl = 1 ∨ 10 ^ (fpl - 1) ≤ hash := by
  rw [Nat.toString_eq_repr]
  by_cases h : fpl = 1
  · subst h
    have := @Nat.length_repr_pos hash
    simp; omega
  · have hk : 0 < fpl - 1 := by omega
    have := @Nat.length_repr_le_iff hash (fpl - 1) hk
    constructor
    · intro hl; right
      apply Nat.le_of_not_lt; intro hc
      have := this.mpr hc; omega
    · intro hr
      rcases hr with hr | hr
      · exact absurd hr h
      · apply Nat.le_of_not_lt; intro hc
        have h2 : hash.repr.length ≤ fpl - 1 := by omega
        have := this.mp h2; omega

/-- decided on the hash value: the kernel is slow at the decimal string of a 64-bit number -/
instance (fpl : Nat) (data : List UInt8) : Decidable (ValidData fpl data) :=
  decidable_of_iff (1 ≤ fpl ∧ (fpl = 1 ∨ 10 ^ (fpl - 1) ≤ Murmur.getHash data))
    ⟨fun ⟨h1, h2⟩ => ⟨h1, (le_digits_iff fpl _ h1).mpr h2⟩,
      fun ⟨h1, h2⟩ => ⟨h1, (le_digits_iff fpl _ h1).mp h2⟩⟩

theorem digits_getHash_le (data : List UInt8) : (toString (Murmur.getHash data)).length ≤ 20 := by
  rw [Nat.toString_eq_repr, Nat.length_repr_le_iff (by decide)]
  have : Murmur.getHash data < 2^64 := by
    unfold Murmur.getHash; exact UInt64.toNat_lt _
  have : (2:Nat)^64 < 10^20 := by decide
  omega

/-- one operation of a byte-level history; an insert carries its mode and random choices -/
inductive BOp where
  | insert (data : List UInt8) (destructive side : Bool) (slots : List Nat)
  | remove (data : List UInt8)
  | lookup (data : List UInt8)
  deriving Repr, DecidableEq

/-- the operation's element passes the fingerprint-length check, slot choices are slot indices -/
def ValidBOp (fpl s : Nat) : BOp → Prop
  | .insert data _ _ slots => ValidData fpl data ∧ ∀ x ∈ slots, x < s
  | .remove data => ValidData fpl data
  | .lookup data => ValidData fpl data

instance (fpl s : Nat) : DecidablePred (ValidBOp fpl s) := fun op => by
  cases op <;> unfold ValidBOp <;> infer_instance

def NonDestructiveB : List BOp → Prop
  | [] => True
  | .insert _ d _ _ :: h => d = false ∧ NonDestructiveB h
  | _ :: h => NonDestructiveB h

instance instDecidableNonDestructiveB : (h : List BOp) → Decidable (NonDestructiveB h)
  | [] => isTrue trivial
  | .insert _ d _ _ :: h =>
    have := instDecidableNonDestructiveB h
    inferInstanceAs (Decidable (d = false ∧ NonDestructiveB h))
  | .remove _ :: h => instDecidableNonDestructiveB h
  | .lookup _ :: h => instDecidableNonDestructiveB h

/-- the abstract operation `getPositions` turns a byte-level operation into -/
def toCOp (n fpl : Nat) : BOp → COp String
  | .insert data d side slots =>
    .insert (positions n fpl data).1 (positions n fpl data).2.1 d side slots
  | .remove data => .remove (positions n fpl data).1 (positions n fpl data).2.1
  | .lookup data => .lookup (positions n fpl data).1 (positions n fpl data).2.1

/-- elements with the same key as `data`: same fingerprint, and the first bucket of `data` is one of
    their two candidate buckets (as returned by `positions`).
    (The fingerprints are compared as character lists — the same thing as comparing the strings,
    `String.toList_inj` — because the kernel evaluates `List Char` equality structurally, whereas
    `String.decEq` makes it compare two unevaluated hash computations.) -/
def sameKey (n fpl : Nat) (data : List UInt8) : List UInt8 → Bool :=
  fun d => decide ((positions n fpl d).1.toList = (positions n fpl data).1.toList ∧
    ((positions n fpl data).2.1 = (positions n fpl d).2.1 ∨
     (positions n fpl data).2.1 = (positions n fpl d).2.2))

def allData : List UInt8 → Bool := fun _ => true

def thisData (data : List UInt8) : List UInt8 → Bool := fun d => decide (d = data)

section
variable {B : Type} [Inhabited B] {o : BucketOps B String}

/-- `Insert(data, destructive)` -/
def insertB (o : BucketOps B String) (c : Cuckoo B) (data : List UInt8) (d side : Bool)
    (slots : List Nat) : CRes (Cuckoo B) :=
  insert o (altOf hashStr c.n) c (positions c.n c.fpl data).1 (positions c.n c.fpl data).2.1
    (positions c.n c.fpl data).2.2 d side slots

/-- `Lookup(data)` -/
def lookupB (o : BucketOps B String) (c : Cuckoo B) (data : List UInt8) : Bool :=
  lookup o c (positions c.n c.fpl data).1 (positions c.n c.fpl data).2.1
    (positions c.n c.fpl data).2.2

/-- `Remove(data)` -/
def removeB (o : BucketOps B String) (c : Cuckoo B) (data : List UInt8) : Cuckoo B × Bool :=
  remove o c (positions c.n c.fpl data).1 (positions c.n c.fpl data).2.1
    (positions c.n c.fpl data).2.2

/-- run one operation: new state and the Boolean the Go method returns -/
def stepB (o : BucketOps B String) (c : Cuckoo B) : BOp → Cuckoo B × Bool
  | .insert data d side slots => ((insertB o c data d side slots).val, (insertB o c data d side slots).isOk)
  | .remove data => removeB o c data
  | .lookup data => (c, lookupB o c data)

def runB (o : BucketOps B String) (c : Cuckoo B) (h : List BOp) : Cuckoo B :=
  h.foldl (fun c op => (stepB o c op).1) c

@[simp] theorem runB_nil (c : Cuckoo B) : runB o c [] = c := rfl
@[simp] theorem runB_cons (c : Cuckoo B) (op : BOp) (h : List BOp) :
    runB o c (op :: h) = runB o (stepB o c op).1 h := rfl

theorem runB_append (c : Cuckoo B) (h h' : List BOp) :
    runB o c (h ++ h') = runB o (runB o c h) h' := List.foldl_append

def insHitB (o : BucketOps B String) (sel : List UInt8 → Bool) (c : Cuckoo B) : BOp → Nat
  | .insert data d side slots =>
    if (insertB o c data d side slots).isOk = true ∧ sel data = true then 1 else 0
  | _ => 0

def remHitB (o : BucketOps B String) (sel : List UInt8 → Bool) (c : Cuckoo B) : BOp → Nat
  | .remove data => if (removeB o c data).2 = true ∧ sel data = true then 1 else 0
  | _ => 0

def okInsertsB (o : BucketOps B String) (sel : List UInt8 → Bool) : Cuckoo B → List BOp → Nat
  | _, [] => 0
  | c, op :: h => insHitB o sel c op + okInsertsB o sel (stepB o c op).1 h

def okRemovesB (o : BucketOps B String) (sel : List UInt8 → Bool) : Cuckoo B → List BOp → Nat
  | _, [] => 0
  | c, op :: h => remHitB o sel c op + okRemovesB o sel (stepB o c op).1 h

def OpSafeB (o : BucketOps B String) (c : Cuckoo B) : BOp → Prop
  | .insert data true side slots => (insertB o c data true side slots).isOk = true
  | _ => True

def NoDestructiveFailB (o : BucketOps B String) : Cuckoo B → List BOp → Prop
  | _, [] => True
  | c, op :: h => OpSafeB o c op ∧ NoDestructiveFailB o (stepB o c op).1 h

instance instDecidableOpSafeB (o : BucketOps B String) (c : Cuckoo B) :
    (op : BOp) → Decidable (OpSafeB o c op)
  | .insert data true side slots =>
    inferInstanceAs (Decidable ((insertB o c data true side slots).isOk = true))
  | .insert _ false _ _ => isTrue trivial
  | .remove _ => isTrue trivial
  | .lookup _ => isTrue trivial

instance instDecidableNoDestructiveFailB (o : BucketOps B String) :
    (c : Cuckoo B) → (h : List BOp) → Decidable (NoDestructiveFailB o c h)
  | _, [] => isTrue trivial
  | c, op :: h =>
    have := instDecidableNoDestructiveFailB o (stepB o c op).1 h
    inferInstanceAs (Decidable (OpSafeB o c op ∧ NoDestructiveFailB o (stepB o c op).1 h))

theorem BOp.le_digits {fpl s : Nat} {op : BOp} (hv : ValidBOp fpl s op) :
    match op with
    | .insert data _ _ _ => fpl ≤ (toString (Murmur.getHash data)).length
    | .remove data => fpl ≤ (toString (Murmur.getHash data)).length
    | .lookup data => fpl ≤ (toString (Murmur.getHash data)).length := by
  cases op with
  | insert data d side slots => exact hv.1.2
  | remove data => exact hv.2
  | lookup data => exact hv.2

theorem stepB_eq (c : Cuckoo B) (op : BOp) (s : Nat) (hv : ValidBOp c.fpl s op) :
    stepB o c op = step o (altOf hashStr c.n) c (toCOp c.n c.fpl op) := by
  have hd := BOp.le_digits hv
  cases op with
  | insert data d side slots =>
    simp only [stepB, insertB, toCOp, step, ← positions_alt c.n c.fpl data hd]
  | remove data =>
    simp only [stepB, removeB, toCOp, step, ← positions_alt c.n c.fpl data hd]
  | lookup data =>
    simp only [stepB, lookupB, toCOp, step, ← positions_alt c.n c.fpl data hd]

def SelAgree (n fpl : Nat) (selB : List UInt8 → Bool) (sel : String → Nat → Bool) : BOp → Prop
  | .insert data _ _ _ => selB data = sel (positions n fpl data).1 (positions n fpl data).2.1
  | .remove data => selB data = sel (positions n fpl data).1 (positions n fpl data).2.1
  | .lookup _ => True

theorem selAgree_all (n fpl : Nat) (op : BOp) : SelAgree n fpl allData allSel op := by
  cases op <;> simp [SelAgree, allData, allSel]

theorem opB_eq (c : Cuckoo B) (op : BOp) (s : Nat) (selB : List UInt8 → Bool)
    (sel : String → Nat → Bool) (hv : ValidBOp c.fpl s op) (hs : SelAgree c.n c.fpl selB sel op) :
    stepB o c op = step o (altOf hashStr c.n) c (toCOp c.n c.fpl op) ∧
    insHitB o selB c op = insHit o (altOf hashStr c.n) sel c (toCOp c.n c.fpl op) ∧
    remHitB o selB c op = remHit o (altOf hashStr c.n) sel c (toCOp c.n c.fpl op) ∧
    (OpSafeB o c op → OpSafe o (altOf hashStr c.n) c (toCOp c.n c.fpl op)) := by
  have hd := BOp.le_digits hv
  cases op with
  | insert data d side slots =>
    have e := positions_alt c.n c.fpl data hd
    refine ⟨stepB_eq c _ s hv, ?_, rfl, ?_⟩
    · simp only [insHitB, insertB, toCOp, insHit, ← e]
      rw [show selB data = _ from hs]
      rfl
    · cases d with
      | false => exact fun _ => trivial
      | true =>
        simp only [OpSafeB, insertB, toCOp, OpSafe, ← e]
        exact id
  | remove data =>
    have e := positions_alt c.n c.fpl data hd
    refine ⟨stepB_eq c _ s hv, rfl, ?_, fun _ => trivial⟩
    simp only [remHitB, removeB, toCOp, remHit, ← e]
    rw [show selB data = _ from hs]
    rfl
  | lookup data => exact ⟨stepB_eq c _ s hv, rfl, rfl, fun _ => trivial⟩

theorem stepB_params (c : Cuckoo B) (op : BOp) : SameParams c (stepB o c op).1 := by
  cases op with
  | insert data d side slots => exact insert_params _ c _ _ _ d side slots
  | remove data => exact remove_params c _ _ _
  | lookup data => exact SameParams.refl c

theorem runB_params (c : Cuckoo B) (h : List BOp) : SameParams c (runB o c h) := by
  induction h generalizing c with
  | nil => exact SameParams.refl c
  | cons op h ih => exact (stepB_params c op).trans (ih _)

/-- **a byte-level history is its translation**: same run, same counts, and no failing
    destructive insert on either side -/
theorem histB_eq (n fpl s : Nat) (selB : List UInt8 → Bool) (sel : String → Nat → Bool)
    (c : Cuckoo B) (h : List BOp) (hn : c.n = n) (hf : c.fpl = fpl)
    (hv : ∀ op ∈ h, ValidBOp fpl s op) (hs : ∀ op ∈ h, SelAgree n fpl selB sel op) :
    runB o c h = run o (altOf hashStr n) c (h.map (toCOp n fpl)) ∧
    okInsertsB o selB c h = okInserts o (altOf hashStr n) sel c (h.map (toCOp n fpl)) ∧
    okRemovesB o selB c h = okRemoves o (altOf hashStr n) sel c (h.map (toCOp n fpl)) ∧
    (NoDestructiveFailB o c h → NoDestructiveFail o (altOf hashStr n) c (h.map (toCOp n fpl))) := by
  induction h generalizing c with
  | nil => exact ⟨rfl, rfl, rfl, fun _ => trivial⟩
  | cons op h ih =>
    subst hn hf
    obtain ⟨e1, e2, e3, e4⟩ :=
      opB_eq c op s selB sel (hv op List.mem_cons_self) (hs op List.mem_cons_self)
    have hp := stepB_params (o := o) c op
    obtain ⟨i1, i2, i3, i4⟩ := ih (stepB o c op).1 hp.1 hp.2.2.1
      (fun op' hop => hv op' (List.mem_cons_of_mem _ hop))
      (fun op' hop => hs op' (List.mem_cons_of_mem _ hop))
    rw [e1] at i1 i2 i3 i4
    refine ⟨?_, ?_, ?_, fun hsafe => ⟨e4 hsafe.1, i4 (e1 ▸ hsafe.2)⟩⟩
    · rw [runB_cons, List.map_cons, run_cons, e1, i1]
    · rw [okInsertsB, List.map_cons, okInserts, e1, e2, i2]
    · rw [okRemovesB, List.map_cons, okRemoves, e1, e3, i3]

theorem runB_eq (n fpl s : Nat) (c : Cuckoo B) (h : List BOp) (hn : c.n = n) (hf : c.fpl = fpl)
    (hv : ∀ op ∈ h, ValidBOp fpl s op) :
    runB o c h = run o (altOf hashStr n) c (h.map (toCOp n fpl)) :=
  (histB_eq n fpl s allData allSel c h hn hf hv fun op _ => selAgree_all n fpl op).1

theorem noDestructiveFailB_eq (n fpl s : Nat) (c : Cuckoo B) (h : List BOp) (hn : c.n = n)
    (hf : c.fpl = fpl) (hv : ∀ op ∈ h, ValidBOp fpl s op) (hsafe : NoDestructiveFailB o c h) :
    NoDestructiveFail o (altOf hashStr n) c (h.map (toCOp n fpl)) :=
  (histB_eq n fpl s allData allSel c h hn hf hv fun op _ => selAgree_all n fpl op).2.2.2 hsafe

theorem nonDestructive_map (n fpl : Nat) (h : List BOp) (hnd : NonDestructiveB h) :
    NonDestructive (h.map (toCOp n fpl)) := by
  induction h with
  | nil => trivial
  | cons op h ih =>
    cases op with
    | insert data d side slots => exact ⟨hnd.1, ih hnd.2⟩
    | remove data => exact ih hnd
    | lookup data => exact ih hnd

theorem validOp_map (n fpl s : Nat) (hn : 0 < n) (h : List BOp) (hv : ∀ op ∈ h, ValidBOp fpl s op) :
    ∀ op ∈ h.map (toCOp n fpl), ValidOp "" n s op := by
  intro op hop
  obtain ⟨b, hb, rfl⟩ := List.mem_map.mp hop
  have hvb := hv b hb
  cases b with
  | insert data d side slots =>
    exact ⟨positions_fp_ne n fpl data hvb.1, positions_i1_lt n fpl data hn hvb.1.2, hvb.2⟩
  | remove data => exact ⟨positions_fp_ne n fpl data hvb, positions_i1_lt n fpl data hn hvb.2⟩
  | lookup data => exact ⟨positions_fp_ne n fpl data hvb, positions_i1_lt n fpl data hn hvb.2⟩

theorem selAgree_sameKey (n fpl s : Nat) (data : List UInt8) (op : BOp) (hv : ValidBOp fpl s op) :
    SelAgree n fpl (sameKey n fpl data)
      (keySel (altOf hashStr n) (positions n fpl data).1 (positions n fpl data).2.1) op := by
  have hd := BOp.le_digits hv
  cases op with
  | insert d _ _ _ =>
    simp only [SelAgree, sameKey, keySel, ← positions_alt n fpl d hd, String.toList_inj]
  | remove d =>
    simp only [SelAgree, sameKey, keySel, ← positions_alt n fpl d hd, String.toList_inj]
  | lookup d => trivial

theorem sameKey_self (n fpl : Nat) (data : List UInt8) : sameKey n fpl data data = true := by
  simp [sameKey]

theorem okInsertsB_mono (sel sel' : List UInt8 → Bool) (hss : ∀ d, sel d = true → sel' d = true)
    (c : Cuckoo B) (h : List BOp) : okInsertsB o sel c h ≤ okInsertsB o sel' c h := by
  induction h generalizing c with
  | nil => exact Nat.le_refl _
  | cons op h ih =>
    have := ih (stepB o c op).1
    have h1 : insHitB o sel c op ≤ insHitB o sel' c op := by
      cases op with
      | insert data d side slots =>
        simp only [insHitB]
        split
        · rename_i hc; rw [if_pos ⟨hc.1, hss _ hc.2⟩]; exact Nat.le_refl _
        · exact Nat.zero_le _
      | remove data => exact Nat.le_refl _
      | lookup data => exact Nat.le_refl _
    simp only [okInsertsB]; omega

theorem okInsertsB_thisData_le (n fpl : Nat) (data : List UInt8) (c : Cuckoo B) (h : List BOp) :
    okInsertsB o (thisData data) c h ≤ okInsertsB o (sameKey n fpl data) c h :=
  okInsertsB_mono _ _ (fun d hd => by
    rw [of_decide_eq_true hd]; exact sameKey_self n fpl data) c h

/-! ### byte-level histories from a table without a stored fingerprint, any lawful bucket -/

section
variable (L : LawfulBucket o "") (n bsize fpl : Nat) (c0 : Cuckoo B) (h : List BOp)
  (hn : 0 < n) (hb : 0 < bsize) (hI : Inv L n bsize c0) (hf : c0.fpl = fpl)
  (hv : ∀ op ∈ h, ValidBOp fpl bsize op)
include hn hb hI hf hv

/-- **no false negative on byte strings**, for every `n` on which the alternate-bucket map of the
    code is an involution and every history whose translation has no failing destructive insert -/
theorem no_false_negative_bytes
    (hInv : ∀ j f, j < n → altOf hashStr n j f < n ∧ altOf hashStr n (altOf hashStr n j f) f = j)
    (hz : ∀ j g, j < n → g ≠ "" → cntB L c0.buckets j g = 0)
    (hsafe : NoDestructiveFail o (altOf hashStr n) c0 (h.map (toCOp n fpl)))
    (data : List UInt8) (hd : ValidData fpl data)
    (hlive : okRemovesB o (sameKey n fpl data) c0 h < okInsertsB o (sameKey n fpl data) c0 h) :
    lookupB o (runB o c0 h) data = true := by
  have hp := runB_params (o := o) c0 h
  obtain ⟨e1, e2, e3, _⟩ := histB_eq n fpl bsize (sameKey n fpl data)
    (keySel (altOf hashStr n) (positions n fpl data).1 (positions n fpl data).2.1) c0 h hI.2.1 hf hv
    fun op hop => selAgree_sameKey n fpl bsize data op (hv op hop)
  unfold lookupB
  rw [hp.1.trans hI.2.1, hp.2.2.1.trans hf, positions_alt n fpl data hd.2, e1]
  rw [e2, e3] at hlive
  exact no_false_negative_of_live L (altOf hashStr n) n bsize hInv hb c0 _ hI
    (validOp_map n fpl bsize hn h hv) hsafe hz _ _ (positions_fp_ne n fpl data hd)
    (positions_i1_lt n fpl data hn hd.2) hlive

theorem length_exact_bytes (h0 : c0.length = 0) :
    (runB o c0 h).length = occ "" (allSlots L (runB o c0 h).buckets) ∧
    (runB o c0 h).length + okRemovesB o allData c0 h = okInsertsB o allData c0 h := by
  obtain ⟨e1, e2, e3, _⟩ := histB_eq n fpl bsize allData allSel c0 h hI.2.1 hf hv
    fun op _ => selAgree_all n fpl op
  rw [e1, e2, e3]
  exact length_exact L (altOf hashStr n) n bsize (fun j f _ => altOf_lt hashStr n hn j f) hb c0 _ hI
    (validOp_map n fpl bsize hn h hv) h0

end

end
end Gostatix.Cuckoo
