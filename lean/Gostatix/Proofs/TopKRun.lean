/-
  Gostatix.Proofs.TopKRun — glue between the executable model `TopK.insert` (sketch + heap) and
  the specification: the event history of a run, the heap of the run as a fold of `offer`, and
  the monotonicity half of `EstOK` discharged from the sketch.
-/
import Gostatix.Proofs.TopKMem
import Gostatix.Proofs.TopKCMS
namespace Gostatix.TopK

/-- the events `(x, c, estimate after the update)` of a run of `Insert(x, c)` calls starting
    from sketch `s`; `posOf x` are the sketch positions of `x` -/
def sketchEvents (posOf : String → List Nat) (s : CMS) : List (String × Nat) → List (Event String)
  | [] => []
  | (x, c) :: ops =>
    ⟨x, c, (s.update (posOf x) c).count (posOf x)⟩ :: sketchEvents posOf (s.update (posOf x) c) ops

def runInserts (posOf : String → List Nat) (t : TopK) (ops : List (String × Nat)) : TopK :=
  ops.foldl (fun t o => t.insert o.1 (posOf o.1) o.2) t

variable (posOf : String → List Nat) (t : TopK) (s : CMS) (ops : List (String × Nat))

theorem runInserts_k :
    (runInserts posOf t ops).k = t.k := by
  induction ops generalizing t with
  | nil => rfl
  | cons o ops ih => simp only [runInserts, List.foldl_cons] at *; rw [ih]; rfl

theorem runInserts_heap :
    (runInserts posOf t ops).heap =
      (sketchEvents posOf t.sketch ops).foldl (fun h e => offer t.k h e.x e.f) t.heap := by
  induction ops generalizing t with
  | nil => rfl
  | cons o ops ih =>
    obtain ⟨x, c⟩ := o
    simp only [runInserts, List.foldl_cons, sketchEvents] at *
    rw [ih]
    rfl

theorem sketchEvents_ge (e : Event String) (he : e ∈ sketchEvents posOf s ops) :
    s.count (posOf e.x) ≤ e.f := by
  induction ops generalizing s with
  | nil => cases he
  | cons o ops ih =>
    obtain ⟨x, c⟩ := o
    simp only [sketchEvents, List.mem_cons] at he
    rcases he with rfl | he
    · exact CMS.count_update_ge s (posOf x) (posOf x) c
    · exact Nat.le_trans (CMS.count_update_ge s (posOf x) (posOf e.x) c) (ih _ he)

theorem sketchEvents_mono :
    (sketchEvents posOf s ops).Pairwise (fun a b => a.x = b.x → a.f ≤ b.f) := by
  induction ops generalizing s with
  | nil => simp [sketchEvents]
  | cons o ops ih =>
    obtain ⟨x, c⟩ := o
    simp only [sketchEvents, List.pairwise_cons]
    refine ⟨?_, ih _⟩
    intro e he hx
    have := sketchEvents_ge posOf _ ops e he
    have hx' : x = e.x := hx
    rw [← hx'] at this
    exact this

/-- `EstOK` from its two halves: the Count-Min bounds at every insert (`C03_lower`, `C03_upper`)
    and the monotonicity of the estimates of one element. -/
theorem estOK_of_bounds_mono (evs : List (Event String))
    (hb : ∀ i (h : i < evs.length),
      trueTotal (evs.take (i + 1)) evs[i].x ≤ evs[i].f ∧ evs[i].f ≤ total (evs.take (i + 1)))
    (hm : evs.Pairwise (fun a b => a.x = b.x → a.f ≤ b.f)) : EstOK evs := by
  refine ⟨hb, ?_⟩
  intro j hj i hi
  exact (List.pairwise_iff_getElem.1 hm) i j (Nat.lt_trans hi hj) hj hi

end Gostatix.TopK
