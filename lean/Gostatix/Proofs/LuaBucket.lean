/-
  Gostatix.Proofs.LuaBucket — evaluation lemmas for the extracted cuckoo bucket scripts
  (Generated/LuaScripts.lean: bucket_redis_*, cuckoo_filter_redis_initCuckooFilterRedis) under the
  interpreter of Model/Lua.lean.  The four loop-free scripts: one lemma per path through the script
  (which path is taken depends on what the Redis commands find), each a single run of `luab_simp`
  with the replies in closed form; the hand models (Model/RedisCuckoo.lean) case by case.  The two
  loops: the statements before the loop, a numeric-`for` lemma, the loop body.  `numForLoop_eq` is
  the loop rule of this family: the body is given as a FUNCTION of index and state (`loopModel`), so
  that the whole loop equals a recursive function that can be compared with `Equals.forFrom`
  (`equals`); the core's `numForLoop_spec` (Proofs/LuaCore.lean) is the same induction for an
  invariant and a postcondition (`initCuckooFilterRedis` uses it through `numForLoop_post`).
  Fuel `f + 20` in the path lemmas: no path nests deeper than 20 interpreter calls, and
  `lua_*_eq` (Props/LuaBucket.lean) ask for `20 ≤ fuel`.
-/
import Gostatix.Generated.LuaScripts
import Gostatix.Proofs.LuaCoreBucket
import Gostatix.Proofs.Equals
namespace Gostatix.LuaBucket
open Gostatix.Lua
open Gostatix.Redis Gostatix.Generated.LuaScripts Gostatix.LuaCMS

/-- the reply for the Boolean a script returns: `true` is the integer 1, `false` is nil. -/
def boolReply (b : Bool) : Reply := if b then .int 1 else .nil

/-- the outcome that corresponds to the result of a hand model `Script Bool`: an abort is a Lua
    error with the given message. -/
def boolOutcome (err : String) : Option Bool → Outcome
  | some b => .reply (boolReply b)
  | none => .error err

def counterInt (st : Store) (k : String) : Option Int :=
  match st k with
  | some (.str b) => parseInt (latin1 b)
  | _ => none

/-- Lua `tonumber` and the hand model's `parseInt` read the same thing in `s`. -/
def TonumberAgrees (s : String) : Prop :=
  luaToNumber s = match parseInt s with | some n => .num n | none => .nil

theorem tonumberAgrees_renderInt (n : Int) (h : n.natAbs ≤ numLimit) : TonumberAgrees (renderInt n) := by
  unfold TonumberAgrees; rw [luaToNumber_renderInt n h, parseInt_renderInt]

theorem try_GET_luaInt {α} (st : Store) (k : String) (g : Int → Script α) :
    (Script.try_ (cmdGET k) >>=ₛ fun r => luaInt (r.getD none) >>=ₛ g) st =
      match counterInt st k with
      | some n => g n st
      | none => (st, none) := by
  unfold counterInt
  cases h : st k with
  | none => simp [Script.bind, Script.try_, cmdGET, h, luaInt]
  | some v =>
    cases v with
    | str b => cases hp : parseInt (latin1 b) <;> simp [Script.bind, Script.try_, cmdGET, h, luaInt, hp]
    | _ => simp [Script.bind, Script.try_, cmdGET, h, luaInt]

theorem tonumber_getValue (st : Store) (k : String)
    (hnum : ∀ b, st k = some (.str b) → TonumberAgrees (latin1 b)) :
    tonumberValue (getValue st k) = match counterInt st k with | some n => .num n | none => .nil := by
  unfold counterInt getValue
  cases h : st k with
  | none => rfl
  | some v =>
    cases v with
    | str b => exact hnum b h
    | _ => rfl

theorem isFree_nil (f : Nat) (st : Store) (bk : String) (size : Nat) (hsize : size ≤ numLimit)
    (hv : tonumberValue (getValue st (bk ++ "_len")) = .nil) :
    resultOf (execBlock (f + 20) bucket_redis_isFreeScript (initState [bk] [decimal size] st)) =
      (st, .error "attempt to compare nil with number") := by
  unfold bucket_redis_isFreeScript initState
  luab_simp [hv, tonumberValue_decimal hsize, resultOf_error]

theorem isFree_full (f : Nat) (st : Store) (bk : String) (size : Nat) (n : Int) (hsize : size ≤ numLimit)
    (hv : tonumberValue (getValue st (bk ++ "_len")) = .num n) (hn : (size : Int) ≤ n) :
    resultOf (execBlock (f + 20) bucket_redis_isFreeScript (initState [bk] [decimal size] st)) =
      (st, .reply .nil) := by
  unfold bucket_redis_isFreeScript initState
  luab_simp [hv, tonumberValue_decimal hsize, hn, resultOf_ret_false]

theorem isFree_free (f : Nat) (st : Store) (bk : String) (size : Nat) (n : Int) (hsize : size ≤ numLimit)
    (hv : tonumberValue (getValue st (bk ++ "_len")) = .num n) (hn : ¬ (size : Int) ≤ n) :
    resultOf (execBlock (f + 20) bucket_redis_isFreeScript (initState [bk] [decimal size] st)) =
      (st, .reply (.int 1)) := by
  unfold bucket_redis_isFreeScript initState
  luab_simp [hv, tonumberValue_decimal hsize, hn, resultOf_ret_true]

/-- what the hand model's `bucketStoreElement` leaves. -/
def storeElem (st : Store) (bk e : String) : Store :=
  match listAt st bk with
  | none => st
  | some l =>
    match lpos l "" with
    | none => st.set bk (.list (e :: l))
    | some i => st.set bk (.list (l.set i e))

theorem lpos_contains {l : List String} {e : String} {i : Nat} (h : lpos l e = some i) :
    l.contains e = true := by
  unfold lpos at h
  split at h
  · assumption
  · exact absurd h (by simp)

theorem lpos_lt {l : List String} {e : String} {i : Nat} (h : lpos l e = some i) : i < l.length := by
  have := contains_idxOf_lt (lpos_contains h)
  unfold lpos at h
  rw [if_pos (lpos_contains h)] at h
  simp only [Option.some.injEq] at h; omega

theorem list_of_lpos {st : Store} {k e : String} {l : List String} {i : Nat} (hl : listAt st k = some l)
    (hp : lpos l e = some i) : st k = some (.list l) :=
  list_of_listAt hl (List.ne_nil_of_length_pos (Nat.zero_lt_of_lt (lpos_lt hp)))

/-! the paths through `addElement`: the counter is no number; the bucket is full; there is no free
    slot (`LPUSH`); there is one (`LSET`) -/

theorem addElement_nil (f : Nat) (st : Store) (bk e : String) (size : Nat) (hsize : size ≤ numLimit)
    (hv : tonumberValue (getValue st (bk ++ "_len")) = .nil) :
    resultOf (execBlock (f + 20) bucket_redis_addElement (initState [bk] [e, decimal size] st)) =
      (st, .error "attempt to compare nil with number") := by
  unfold bucket_redis_addElement initState
  luab_simp [hv, tonumberValue_decimal hsize, resultOf_error]

theorem addElement_full (f : Nat) (st : Store) (bk e : String) (size : Nat) (n : Int) (hsize : size ≤ numLimit)
    (hv : tonumberValue (getValue st (bk ++ "_len")) = .num n) (hn : (size : Int) ≤ n) :
    resultOf (execBlock (f + 20) bucket_redis_addElement (initState [bk] [e, decimal size] st)) =
      (st, .reply .nil) := by
  unfold bucket_redis_addElement initState
  luab_simp [hv, tonumberValue_decimal hsize, hn, resultOf_ret_false]

theorem addElement_push (f : Nat) (st : Store) (bk e : String) (size : Nat) (n : Int) (l : List String)
    (hsize : size ≤ numLimit) (hv : tonumberValue (getValue st (bk ++ "_len")) = .num n)
    (hn : ¬ (size : Int) ≤ n) (hl : listAt st bk = some l) (hp : lpos l "" = none)
    (hinc : ∀ b, storeElem st bk e (bk ++ "_len") = some (.str b) → IncrAgrees (latin1 b) 1) :
    resultOf (execBlock (f + 20) bucket_redis_addElement (initState [bk] [e, decimal size] st)) =
      ((cmdINCRBY (bk ++ "_len") 1 (storeElem st bk e)).1, .reply (.int 1)) := by
  have hs : storeElem st bk e = st.set bk (.list (e :: l)) := by unfold storeElem; rw [hl]; simp only [hp]
  rw [hs] at hinc ⊢
  obtain ⟨w, hw⟩ := redisCall_INCRBY (bk ++ "_len") 1 _ (by decide) hinc
  unfold bucket_redis_addElement initState
  luab_simp [hv, tonumberValue_decimal hsize, hn, redisCall_LPOS, hl, hp, posValue, hw, resultOf_ret_true,
    LuaCMS.redisCall_LPUSH false bk [.str e] [e] _ rfl, cmdLPUSH1_ok st bk e l hl, LuaCMS.cmdRes_some,
    LuaCMS.Res.bind_ok]

theorem addElement_set (f : Nat) (st : Store) (bk e : String) (size : Nat) (n : Int) (l : List String)
    (i : Nat) (hsize : size ≤ numLimit) (hv : tonumberValue (getValue st (bk ++ "_len")) = .num n)
    (hn : ¬ (size : Int) ≤ n) (hl : listAt st bk = some l) (hp : lpos l "" = some i) (hi : i ≤ numLimit)
    (hinc : ∀ b, storeElem st bk e (bk ++ "_len") = some (.str b) → IncrAgrees (latin1 b) 1) :
    resultOf (execBlock (f + 20) bucket_redis_addElement (initState [bk] [e, decimal size] st)) =
      ((cmdINCRBY (bk ++ "_len") 1 (storeElem st bk e)).1, .reply (.int 1)) := by
  have hs : storeElem st bk e = st.set bk (.list (l.set i e)) := by unfold storeElem; rw [hl]; simp only [hp]
  rw [hs] at hinc ⊢
  obtain ⟨w, hw⟩ := redisCall_INCRBY (bk ++ "_len") 1 _ (by decide) hinc
  unfold bucket_redis_addElement initState
  luab_simp [hv, tonumberValue_decimal hsize, hn, redisCall_LPOS, hl, hp, posValue, hw,
    redisCall_LSET false bk e i l st _ _ _ (list_of_lpos hl hp) (lpos_lt hp) hi, resultOf_ret_true]

/-! `addElement` cut at its statements: the state after the first four (`guardState`), the three
    statements between the guard and the `INCRBY` (`addMid`), the state after them (`addState`), and
    what `addMid` does on a key of the wrong type.  The path lemmas above do not go through these;
    they describe the same run statement by statement. -/

/-- the state after the first four statements of `isFree`/`addElement` (ARGV = `args`, the counter
    read as `v`). -/
def guardState (st : Store) (bk : String) (args : List String) (size : Nat) (v : Value) : State :=
  { store := st, heap := [{ arr := [.str bk] }, { arr := args.map .str }],
    env := [("size", .str (decimal size)), ("bucketLength", v),
            ("lenKey", .str (bk ++ "_len")), ("key", .str bk)],
    log := [bk ++ "_len"] }

@[simp] theorem guardState_store (st : Store) (bk : String) (args : List String) (size : Nat) (v : Value) :
    (guardState st bk args size v).store = st := rfl

def addMid : List Stmt := [
  .localDecl ["element"] [.index (.var "ARGV") (.num 1)],
  .localDecl ["pos"] [.call (.field "redis" "pcall") [.str "LPOS", .var "key", .str ""]],
  .ifThen (.binop .eq (.var "pos") (.litFalse)) [
    .callStmt (.field "redis" "pcall") [.str "LPUSH", .var "key", .var "element"]
  ] [
    .callStmt (.field "redis" "pcall") [.str "LSET", .var "key", .call (.global "tonumber") [.var "pos"], .var "element"]
  ]]


/-- the state after `addMid`: `p` is the value of `pos`, `extra` the tables allocated so far. -/
def addState (st' : Store) (bk e : String) (size : Nat) (v p : Value) (extra : List Table) : State :=
  { store := st',
    heap := [{ arr := [.str bk] }, { arr := [.str e, .str (decimal size)] }] ++ extra,
    env := [("pos", p), ("element", .str e), ("size", .str (decimal size)), ("bucketLength", v),
            ("lenKey", .str (bk ++ "_len")), ("key", .str bk)],
    log := [bk, bk, bk ++ "_len"] }

@[simp] theorem addState_store (st' : Store) (bk e : String) (size : Nat) (v p : Value) (extra : List Table) :
    (addState st' bk e size v p extra).store = st' := rfl

/-- miniredis' `pcall` answers nil for the failed `LPOS`, and nil is no argument for `LSET`. -/
theorem addMid_wrongtype (f : Nat) (st : Store) (bk e : String) (size : Nat) (v : Value)
    (h : listAt st bk = none) :
    execBlock (f + 13) addMid (guardState st bk [e, decimal size] size v) =
      .error "Lua redis lib command arguments must be strings or integers"
        { guardState st bk [e, decimal size] size v with
          env := ("pos", .nil) :: ("element", .str e) :: (guardState st bk [e, decimal size] size v).env,
          log := [bk, bk ++ "_len"] } := by
  unfold addMid guardState
  luab_simp [redisCall_LPOS, h, redisCall_badArgs, cmdArgs_nilArg]

theorem bucketStoreElement_eq (st : Store) (bk e : String) :
    bucketStoreElement bk e st = (storeElem st bk e, some ()) := by
  unfold bucketStoreElement storeElem
  simp only [Script.bind, Script.try_, cmdLPOS_eq]
  cases hl : listAt st bk with
  | none => rfl
  | some l =>
    cases hp : lpos l "" with
    | none => simp only [Option.map_some, hp, Script.bind, Script.try_, cmdLPUSH1_ok st bk e l hl, Script.pure]
    | some i =>
      simp only [Option.map_some, hp, Script.bind, Script.try_, cmdLSET, list_of_lpos hl hp, lpos_lt hp, if_true,
        Script.pure]

theorem bucketAddScript_eq (st : Store) (bk e : String) (size : Nat) :
    bucketAddScript bk size e st =
      match counterInt st (bk ++ "_len") with
      | none => (st, none)
      | some n =>
        if (size : Int) ≤ n then (st, some false)
        else ((cmdINCRBY (bk ++ "_len") 1 (storeElem st bk e)).1, some true) := by
  unfold bucketAddScript bucketLenKey
  rw [try_GET_luaInt]
  cases counterInt st (bk ++ "_len") with
  | none => rfl
  | some n =>
    simp only [ge_iff_le]
    by_cases hn : (size : Int) ≤ n
    · simp only [hn, if_true]; rfl
    · simp only [hn, if_false, Script.bind, bucketStoreElement_eq, Script.try_, Script.pure]

theorem storeElem_other (st : Store) (bk e k : String) (hk : k ≠ bk) : storeElem st bk e k = st k := by
  unfold storeElem
  cases listAt st bk with
  | none => rfl
  | some l => dsimp only; cases lpos l "" <;> exact Store.set_ne _ _ hk

/-- the interpreter's states during `removeElement` (`env` = the locals declared so far), for
    describing a run of it statement by statement. -/
def remState (st' : Store) (bk e : String) (env : List (String × Value)) (extra : List Table)
    (log : List String) : State :=
  { store := st', heap := [{ arr := [.str bk] }, { arr := [.str e] }] ++ extra, env := env, log := log }

@[simp] theorem remState_store (st' : Store) (bk e : String) (env : List (String × Value))
    (extra : List Table) (log : List String) : (remState st' bk e env extra log).store = st' := rfl


/-! the paths through `removeElement`: the key is no list; the element is absent; it is found -/

theorem removeElement_wrongtype (f : Nat) (st : Store) (bk e : String) (hl : listAt st bk = none) :
    resultOf (execBlock (f + 20) bucket_redis_removeElement (initState [bk] [e] st)) =
      (st, .error msgWrongType) := by
  unfold bucket_redis_removeElement initState
  luab_simp [redisCall_LPOS, hl, resultOf_error]

/-- the `false` that `LPOS` answers for an absent element is no argument for `LSET`. -/
theorem removeElement_absent (f : Nat) (st : Store) (bk e : String) (l : List String)
    (hl : listAt st bk = some l) (hp : lpos l e = none) :
    resultOf (execBlock (f + 20) bucket_redis_removeElement (initState [bk] [e] st)) =
      (st, .error "Lua redis lib command arguments must be strings or integers") := by
  unfold bucket_redis_removeElement initState
  luab_simp [redisCall_LPOS, hl, hp, posValue, redisCall_badArgs, cmdArgs_boolArg, resultOf_error]

theorem removeElement_found (f : Nat) (st : Store) (bk e : String) (l : List String) (i : Nat)
    (hl : listAt st bk = some l) (hp : lpos l e = some i) (hi : i ≤ numLimit)
    (hinc : ∀ b, (st.set bk (.list (l.set i ""))) (bk ++ "_len") = some (.str b) →
      IncrAgrees (latin1 b) (-1)) :
    resultOf (execBlock (f + 20) bucket_redis_removeElement (initState [bk] [e] st)) =
      ((cmdINCRBY (bk ++ "_len") (-1) (st.set bk (.list (l.set i "")))).1, .reply (.int 1)) := by
  obtain ⟨w, hw⟩ := redisCall_INCRBY (bk ++ "_len") (-1) _ (by decide) hinc
  unfold bucket_redis_removeElement initState
  luab_simp [redisCall_LPOS, hl, hp, posValue, hw, resultOf_ret_true,
    redisCall_LSET true bk "" i l st _ _ _ (list_of_lpos hl hp) (lpos_lt hp) hi]

def removeError (st : Store) (bk : String) : String :=
  if listAt st bk = none then msgWrongType
  else "Lua redis lib command arguments must be strings or integers"

theorem bucketRemove_eq (st : Store) (bk e : String) :
    bucketRemove bk e st =
      match listAt st bk with
      | some l =>
        (match lpos l e with
         | some i => ((cmdINCRBY (bk ++ "_len") (-1) (st.set bk (.list (l.set i "")))).1, some true)
         | none => (st, none))
      | none => (st, none) := by
  unfold bucketRemove bucketLenKey
  simp only [Script.bind, cmdLPOS_eq]
  cases hl : listAt st bk with
  | none => rfl
  | some l =>
    cases hp : lpos l e with
    | none => simp only [Option.map_some, hp, Script.fail]
    | some i =>
      simp only [Option.map_some, hp, cmdLSET, list_of_lpos hl hp, lpos_lt hp, if_true, Script.try_, Script.pure]

/-- the outcome that corresponds to the hand model's result (`none` = a nil reply, which the Go
    side's `.Int64()` turns into an error). -/
def lookupOutcome : Option Int → Outcome
  | some i => .reply (.int i)
  | none => .reply .nil

theorem exists_wrongtype (f : Nat) (st : Store) (bk e : String) (hl : listAt st bk = none) :
    resultOf (execBlock (f + 20) bucket_redis_exists (initState [bk] [e] st)) = (st, .reply .nil) := by
  unfold bucket_redis_exists initState
  luab_simp [redisCall_LPOS, hl, resultOf_ret_nil]

theorem exists_absent (f : Nat) (st : Store) (bk e : String) (l : List String)
    (hl : listAt st bk = some l) (hp : lpos l e = none) :
    resultOf (execBlock (f + 20) bucket_redis_exists (initState [bk] [e] st)) = (st, .reply (.int (-1))) := by
  unfold bucket_redis_exists initState
  luab_simp [redisCall_LPOS, hl, hp, posValue, resultOf_ret_num]

theorem exists_found (f : Nat) (st : Store) (bk e : String) (l : List String) (i : Nat)
    (hl : listAt st bk = some l) (hp : lpos l e = some i) :
    resultOf (execBlock (f + 20) bucket_redis_exists (initState [bk] [e] st)) = (st, .reply (.int i)) := by
  unfold bucket_redis_exists initState
  luab_simp [redisCall_LPOS, hl, hp, posValue, resultOf_ret_num]

/-- `n` iterations of a loop body given as a function of the loop variable and the state,
    starting at `i`, step 1; a body that returns (or fails) ends the loop. -/
def loopModel (bodyM : Int → State → Res (Option (List Value))) :
    Nat → Int → State → Res (Option (List Value))
  | 0, _, s => .ok none s
  | n + 1, i, s =>
    match bodyM i s with
    | .ok none s' => loopModel bodyM n (i + 1) s'
    | r => r

/-- General loop lemma: if on every state satisfying `Inv` the body of `for x = i, limit do body end`
    (run in its own scope with `x` declared, with any fuel `≥ c`) computes `bodyM j`, and `bodyM`
    preserves `Inv` when it does not return, then the loop from `i` to `i + n - 1` with fuel
    `≥ n + c + 1` computes `loopModel bodyM n i`. -/
theorem numForLoop_eq (x : String) (body : List Stmt)
    (bodyM : Int → State → Res (Option (List Value))) (Inv : State → Prop) (c : Nat)
    (hbody : ∀ g, c ≤ g → ∀ j s, Inv s →
      inScope (M.bind (declare x (.num j)) fun _ => execBlock g body) s = bodyM j s)
    (hinv : ∀ j s s', Inv s → bodyM j s = .ok none s' → Inv s')
    (n : Nat) (i limit : Int) (hlimit : limit = i + n - 1) (s : State) (hs : Inv s)
    (fuel : Nat) (hfuel : n + c + 1 ≤ fuel) :
    numForLoop fuel x i limit 1 body s = loopModel bodyM n i s := by
  induction n generalizing i s fuel with
  | zero =>
    obtain ⟨fuel, rfl⟩ : ∃ g, fuel = g + 1 := ⟨fuel - 1, by omega⟩
    have hc : ¬ ((0 < (1 : Int) ∧ i ≤ limit) ∨ ((1 : Int) ≤ 0 ∧ limit ≤ i)) := by omega
    simp only [numForLoop, hc, if_false, loopModel]; rfl
  | succ n ih =>
    obtain ⟨fuel, rfl⟩ : ∃ g, fuel = g + 1 := ⟨fuel - 1, by omega⟩
    have hc : (0 < (1 : Int) ∧ i ≤ limit) ∨ ((1 : Int) ≤ 0 ∧ limit ≤ i) := by omega
    simp only [numForLoop, hc, if_true, loopModel, bind, M.bind]
    rw [hbody fuel (by omega) i s hs]
    cases hb : bodyM i s with
    | ok a s' =>
      cases a with
      | none =>
        simp only []
        exact ih (i + 1) (by omega) s' (hinv i s s' hs hb) fuel (by omega)
      | some vs => rfl
    | _ => rfl

def equalsPrefix : List Stmt := [
  .localDecl ["key1"] [.index (.var "KEYS") (.num 1)],
  .localDecl ["key2"] [.index (.var "KEYS") (.num 2)],
  .localDecl ["size"] [.index (.var "ARGV") (.num 1)],
  .localDecl ["vals1"] [.call (.field "redis" "pcall") [.str "LRANGE", .var "key1", .num 0, .unop .neg (.num 1)]],
  .localDecl ["vals2"] [.call (.field "redis" "pcall") [.str "LRANGE", .var "key2", .num 0, .unop .neg (.num 1)]]]

/-- `if vals1[i] ~= vals2[i] then return false end` -/
def equalsBody : List Stmt := LuaCMS.loopBody bucket_redis_equals 5

def equalsFor : Stmt := .numFor "i" (.num 1) (.call (.global "tonumber") [.var "size"]) none equalsBody

theorem equals_split : bucket_redis_equals = equalsPrefix ++ [equalsFor, .ret [.litTrue]] := rfl

/-- the state when the loop starts: the two `LRANGE` replies are the tables 2 and 3. -/
def equalsState (st : Store) (bk1 bk2 : String) (size : Nat) (l1 l2 : List String) : State :=
  { store := st,
    heap := [{ arr := [.str bk1, .str bk2] }, { arr := [.str (decimal size)] },
             { arr := l1.map .str }, { arr := l2.map .str }],
    env := [("vals2", .table 3), ("vals1", .table 2), ("size", .str (decimal size)),
            ("key2", .str bk2), ("key1", .str bk1)],
    log := [bk2, bk1] }

theorem equalsPrefix_exec (f : Nat) (st : Store) (bk1 bk2 : String) (size : Nat) (l1 l2 : List String)
    (h1 : listAt st bk1 = some l1) (h2 : listAt st bk2 = some l2) :
    execBlock (f + 15) equalsPrefix (initState [bk1, bk2] [decimal size] st) =
      .ok none (equalsState st bk1 bk2 size l1 l2) := by
  unfold equalsPrefix equalsState initState
  luab_simp [LuaCMS.redisCall_LRANGE, cmdLRANGE_eq, h1, h2, LuaCMS.cmdRes_some, LuaCMS.Res.bind_ok]

theorem equalsFor_start (f : Nat) (st : Store) (bk1 bk2 : String) (size : Nat) (l1 l2 : List String)
    (hsize : size ≤ numLimit) :
    execStmt (f + 10) equalsFor (equalsState st bk1 bk2 size l1 l2) =
      numForLoop (f + 9) "i" 1 size 1 equalsBody (equalsState st bk1 bk2 size l1 l2) := by
  unfold equalsFor equalsState
  luab_simp [tonumberValue_decimal hsize]

/-- entry `j` (1-based, any integer) of the Lua table an `LRANGE` reply becomes. -/
def tableEntry (l : List String) (j : Int) : Value := Table.get { arr := l.map .str } (.num j)

def equalsBodyM (l1 l2 : List String) (j : Int) (s : State) : Res (Option (List Value)) :=
  if tableEntry l1 j = tableEntry l2 j then .ok none s else .ok (some [.bool false]) s


theorem equalsBody_exec (g : Nat) (hg : 8 ≤ g) (st : Store) (bk1 bk2 : String) (size : Nat)
    (l1 l2 : List String) (j : Int) :
    inScope (M.bind (declare "i" (.num j)) fun _ => execBlock g equalsBody)
        (equalsState st bk1 bk2 size l1 l2) =
      equalsBodyM l1 l2 j (equalsState st bk1 bk2 size l1 l2) := by
  obtain ⟨f, rfl⟩ : ∃ f, g = f + 8 := ⟨g - 8, by omega⟩
  unfold equalsBody LuaCMS.loopBody bucket_redis_equals equalsState equalsBodyM tableEntry
  by_cases h : Table.get { arr := l1.map .str } (.num j) = Table.get { arr := l2.map .str } (.num j)
  · luab_simp [h, List.getElem?_cons_succ, List.getElem?_cons_zero]
  · luab_simp [h, List.getElem?_cons_succ, List.getElem?_cons_zero]

theorem tableEntry_succ (l : List String) (k : Nat) :
    tableEntry l ((k : Int) + 1) =
      if k + 1 < maxArrayIndex then (match l[k]? with | some s => .str s | none => .nil) else .nil := by
  unfold tableEntry Table.get arrayPos
  by_cases h : k + 1 < maxArrayIndex
  · have h' : (1 : Int) ≤ (k : Int) + 1 ∧ (k : Int) + 1 < (maxArrayIndex : Int) := by omega
    have h2 : ((k : Int) + 1).toNat - 1 = k := by omega
    simp only [h', and_self, if_true, h, h2, LuaCMS.getD_map_str]
    rfl
  · have h' : ¬ ((1 : Int) ≤ (k : Int) + 1 ∧ (k : Int) + 1 < (maxArrayIndex : Int)) := by omega
    simp only [h', if_false, h]; rfl

theorem tableEntry_eq_iff (l1 l2 : List String) (k : Nat)
    (h : k + 1 < maxArrayIndex ∨ (l1.length < maxArrayIndex ∧ l2.length < maxArrayIndex)) :
    tableEntry l1 ((k : Int) + 1) = tableEntry l2 ((k : Int) + 1) ↔ l1[k]? = l2[k]? := by
  rw [tableEntry_succ, tableEntry_succ]
  by_cases hk : k + 1 < maxArrayIndex
  · simp only [hk, if_true]
    cases l1[k]? <;> cases l2[k]? <;> simp
  · simp only [hk, if_false, true_iff]
    rcases h with h | ⟨h1, h2⟩
    · exact absurd h hk
    · rw [List.getElem?_eq_none (by omega), List.getElem?_eq_none (by omega)]

theorem equals_loopModel (l1 l2 : List String) (s : State) (n k : Nat)
    (h : k + n < maxArrayIndex ∨ (l1.length < maxArrayIndex ∧ l2.length < maxArrayIndex)) :
    loopModel (equalsBodyM l1 l2) n ((k : Int) + 1) s =
      match Equals.forFrom (Equals.luaIdxEq l1 l2) k n with
      | some true => .ok none s
      | _ => .ok (some [.bool false]) s := by
  induction n generalizing k with
  | zero => rfl
  | succ n ih =>
    have hk := tableEntry_eq_iff l1 l2 k (h.imp (by omega) id)
    unfold loopModel Equals.forFrom equalsBodyM Equals.luaIdxEq
    by_cases he : l1[k]? = l2[k]?
    · simp only [hk.mpr he, if_true, he, decide_true]
      have := ih (k + 1) (h.imp (by omega) id)
      rw [show ((k + 1 : Nat) : Int) + 1 = (k : Int) + 1 + 1 from by omega] at this
      exact this
    · simp only [mt hk.mp he, if_false, he, decide_false]

theorem forFrom_luaIdxEq_ne_none {α : Type} [DecidableEq α] (l1 l2 : List α) (k n : Nat) :
    Equals.forFrom (Equals.luaIdxEq l1 l2) k n ≠ none := by
  rcases Equals.forFrom_cases (Equals.luaIdxEq l1 l2) k n with ⟨h, _⟩ | ⟨j, _, _, h⟩ <;> rw [h] <;>
    exact Option.some_ne_none _

theorem equals_exec (fuel : Nat) (st : Store) (bk1 bk2 : String) (size : Nat) (l1 l2 : List String)
    (hfuel : size + 16 ≤ fuel) (hsize : size ≤ numLimit)
    (h1 : listAt st bk1 = some l1) (h2 : listAt st bk2 = some l2)
    (hidx : size < maxArrayIndex ∨ (l1.length < maxArrayIndex ∧ l2.length < maxArrayIndex)) :
    resultOf (execBlock fuel bucket_redis_equals (initState [bk1, bk2] [decimal size] st)) =
      (st, boolOutcome "" (Equals.forN size (Equals.luaIdxEq l1 l2))) := by
  obtain ⟨f, rfl⟩ : ∃ f, fuel = f + 16 := ⟨fuel - 16, by omega⟩
  have hf : size ≤ f := by omega
  rw [equals_split, execBlock_append _ _ (f + 11) 5 rfl, equalsPrefix_exec _ st bk1 bk2 size l1 l2 h1 h2]
  simp only []
  rw [LuaCMS.execBlock_cons, LuaCMS.bind_apply, equalsFor_start _ st bk1 bk2 size l1 l2 hsize]
  rw [numForLoop_eq "i" equalsBody (equalsBodyM l1 l2)
    (fun s => s = equalsState st bk1 bk2 size l1 l2) 8
    (fun g hg j s hs => by subst hs; exact equalsBody_exec g hg st bk1 bk2 size l1 l2 j)
    (fun j s s' hs hb => by
      subst hs
      unfold equalsBodyM at hb
      split at hb
      · cases hb; rfl
      · cases hb)
    size 1 size (by omega) _ rfl (f + 9) (by omega)]
  have hm := equals_loopModel l1 l2 (equalsState st bk1 bk2 size l1 l2) size 0 (hidx.imp (by omega) id)
  rw [show ((0 : Nat) : Int) + 1 = 1 from rfl] at hm
  rw [hm]
  unfold Equals.forN
  have hne := forFrom_luaIdxEq_ne_none l1 l2 0 size
  cases hr : Equals.forFrom (Equals.luaIdxEq l1 l2) 0 size with
  | none => exact absurd hr hne
  | some b =>
    cases b with
    | true => 
      luab_simp [resultOf_ret_true]
      rfl
    | false => rfl

def initPrefix : List Stmt := [
  .localDecl ["key"] [.index (.var "KEYS") (.num 1)],
  .localDecl ["size"] [.index (.var "ARGV") (.num 1)],
  .localDecl ["bucketSize"] [.index (.var "ARGV") (.num 2)],
  .callStmt (.field "redis" "call") [.str "DEL", .var "key"]]

/-- `redis.call('LPUSH', key, KEYS[i])` -/
def initBody : List Stmt := LuaCMS.loopBody cuckoo_filter_redis_initCuckooFilterRedis 4

def initFor : Stmt :=
  .numFor "i" (.num 2) (.binop .add (.call (.global "tonumber") [.var "size"]) (.num 1)) none initBody

theorem init_split :
    cuckoo_filter_redis_initCuckooFilterRedis = initPrefix ++ [initFor, .ret [.litTrue]] := rfl

/-- the states of the loop (the prime: not the interpreter's `initState`): only the store and the
    log change. -/
def initState' (st' : Store) (key : String) (bks : List String) (a1 a2 : String) (log : List String) :
    State :=
  { store := st',
    heap := [{ arr := .str key :: bks.map .str }, { arr := [.str a1, .str a2] }],
    env := [("bucketSize", .str a2), ("size", .str a1), ("key", .str key)],
    log := log }


theorem initPrefix_exec (f : Nat) (st : Store) (key : String) (bks : List String) (a1 a2 : String) :
    execBlock (f + 14) initPrefix (initState (key :: bks) [a1, a2] st) =
      .ok none (initState' (st.del key) key bks a1 a2 [key]) := by
  unfold initPrefix initState' initState
  luab_simp [LuaCMS.redisCall_DEL, cmdDEL, LuaCMS.cmdRes_some, LuaCMS.Res.bind_ok]

theorem initFor_start (f : Nat) (st' : Store) (key : String) (bks : List String) (n : Nat) (a2 : String)
    (log : List String) (hn : n + 1 ≤ numLimit) :
    execStmt (f + 10) initFor (initState' st' key bks (decimal n) a2 log) =
      numForLoop (f + 9) "i" 2 ((n : Int) + 1) 1 initBody (initState' st' key bks (decimal n) a2 log) := by
  have hc : ((n : Int) + 1).natAbs ≤ numLimit := by omega
  unfold initFor initState'
  luab_simp [tonumberValue_decimal (show n ≤ numLimit by omega), LuaCMS.checkNum_ok hc]

theorem initBody_step (f : Nat) (st' : Store) (key : String) (bks : List String) (a1 a2 : String)
    (log l : List String) (v : String) (j : Int) (hl : listAt st' key = some l)
    (hv : Table.get { arr := .str key :: bks.map .str } (.num j) = .str v) :
    inScope (do declare "i" (.num j); execBlock (f + 8) initBody) (initState' st' key bks a1 a2 log) =
      .ok none (initState' (st'.set key (.list (v :: l))) key bks a1 a2 (key :: log)) := by
  unfold initBody LuaCMS.loopBody cuckoo_filter_redis_initCuckooFilterRedis initState'
  luab_simp [hv, LuaCMS.redisCall_LPUSH true key [.str v] [v] _ rfl, cmdLPUSH1_ok st' key v l hl,
    LuaCMS.cmdRes_some, LuaCMS.Res.bind_ok, List.getElem?_cons_succ, List.getElem?_cons_zero]

/-- the store after `LPUSH key bk` for every `bk` of `bks`, in order. -/
def pushAll (key : String) (bks : List String) (st : Store) : Store :=
  bks.foldl (fun st bk => st.set key (.list (bk :: (listAt st key).getD []))) st

theorem pushAll_snoc (key : String) (bks : List String) (bk : String) (st : Store) :
    pushAll key (bks ++ [bk]) st =
      (pushAll key bks st).set key (.list (bk :: (listAt (pushAll key bks st) key).getD [])) := by
  unfold pushAll; rw [List.foldl_append]; rfl

theorem listAt_set_self (st : Store) (k : String) (l : List String) :
    listAt (st.set k (.list l)) k = some l := by
  unfold listAt; rw [Store.set_self]

theorem pushAll_listAt (key : String) (bks : List String) (st : Store) (h : listAt st key ≠ none) :
    listAt (pushAll key bks st) key ≠ none := by
  induction bks generalizing st with
  | nil => exact h
  | cons bk bks ih => exact ih _ (by rw [listAt_set_self]; exact Option.some_ne_none _)

theorem keysTable_entry (key : String) (bks : List String) (k : Nat) (hk : k < bks.length)
    (hlen : bks.length + 1 < maxArrayIndex) :
    Table.get { arr := .str key :: bks.map .str } (.num ((k : Int) + 2)) = .str bks[k] := by
  unfold Table.get arrayPos
  have h' : (1 : Int) ≤ (k : Int) + 2 ∧ (k : Int) + 2 < (maxArrayIndex : Int) := by omega
  have h2 : ((k : Int) + 2).toNat - 1 = k + 1 := by omega
  simp only [h', and_self, if_true, h2, List.getD_cons_succ, LuaCMS.getD_map_str]
  rw [List.getElem?_eq_getElem hk]

/-- the loop through `LuaCMS.numForLoop_post`: before round `j` the first `j` bucket keys are pushed. -/
theorem init_exec (fuel : Nat) (st : Store) (key : String) (bks : List String) (a2 : String)
    (hfuel : bks.length + 15 ≤ fuel) (hlen : bks.length + 1 < maxArrayIndex) :
    resultOf (execBlock fuel cuckoo_filter_redis_initCuckooFilterRedis
        (initState (key :: bks) [decimal bks.length, a2] st)) =
      (pushAll key bks (st.del key), .reply (.int 1)) := by
  obtain ⟨f, rfl⟩ : ∃ f, fuel = f + 15 := ⟨fuel - 15, by omega⟩
  have hnum : bks.length + 1 ≤ numLimit := by
    have : maxArrayIndex ≤ numLimit := by decide
    omega
  have h0 : listAt (st.del key) key ≠ none := by
    unfold listAt; rw [Store.del_self]; exact Option.some_ne_none _
  rw [init_split, execBlock_append _ _ (f + 11) 4 rfl, initPrefix_exec]
  simp only []
  rw [LuaCMS.execBlock_cons, LuaCMS.bind_apply, initFor_start _ _ key bks bks.length a2 _ hnum]
  have hloop := LuaCMS.Post.eq <| LuaCMS.numForLoop_post (x := "i") (body := initBody) (step := 1)
    (limit := (bks.length : Int) + 1) (i0 := 2) (by decide) 8 bks.length
    (fun j s => s = initState' (pushAll key (bks.take j) (st.del key)) key bks (decimal bks.length) a2
      (List.replicate j key ++ [key]))
    (fun j hj => by omega) (by omega)
    (fun j hj s g hs => by
      obtain ⟨l, hl⟩ := Option.ne_none_iff_exists'.mp (pushAll_listAt key (bks.take j) _ h0)
      rw [hs, show (2 : Int) + (j : Int) * 1 = (j : Int) + 2 from by omega,
        initBody_step g _ key bks _ a2 _ l _ _ hl (keysTable_entry key bks j hj hlen),
        List.take_succ_eq_append_getElem hj, pushAll_snoc, hl]
      rfl)
    (fun s hs => hs) (f + 9) (initState' (st.del key) key bks (decimal bks.length) a2 [key]) (by omega) rfl
  rw [hloop, List.take_length]
  luab_simp [resultOf_ret_true]
  rfl

end Gostatix.LuaBucket
