/-
  Gostatix.Proofs.TopKRedis — the Redis variant (`offerRedis` on a list sorted by `zLt`)
  refines the specification step.
-/
import Gostatix.Model.TopK
import Gostatix.Proofs.TopKSort
import Gostatix.Proofs.TopKInv
namespace Gostatix.TopK

/-- sorted w.r.t. the sorted-set order (score, then member) -/
def ZSorted (z : List HElem) : Prop := z.Pairwise (fun a b => zLt a b = true)

variable (k : Nat) (z : List HElem) (x : String) (f : Nat)

theorem zfilter_eq :
    z.filter (fun e => e.1 != x) = z.filter (fun e => decide (e.1 ≠ x)) := by
  apply List.filter_congr
  intro e _
  by_cases h : e.1 = x <;> simp [h]

theorem zadd_perm :
    (zadd z x f).Perm (upsert z x f) := by
  unfold zadd upsert
  rw [zfilter_eq]
  exact (insertSorted_perm zLt (x, f) _).trans
    (List.perm_append_comm (l₁ := [(x, f)]) (l₂ := z.filter (fun e => decide (e.1 ≠ x))))

theorem zadd_sorted (hs : ZSorted z) :
    ZSorted (zadd z x f) := by
  unfold zadd ZSorted
  apply insertSorted_pairwise zLt (fun a b => zLt a b = true) zLt_trans
  · intro y _ h; exact h
  · intro y hy h
    have : y.1 ≠ x := by simpa using (List.mem_filter.1 hy).2
    exact zLt_of_not_zLt (x, f) y (fun h' => this h'.symm) h
  · exact List.Pairwise.sublist List.filter_sublist hs

theorem zsorted_head_min (m : HElem) (t : List HElem) (hs : ZSorted (m :: t)) :
    ∀ p ∈ m :: t, m.2 ≤ p.2 := by
  intro p hp
  rcases List.mem_cons.1 hp with rfl | hp
  · exact Nat.le_refl _
  · exact zLt_freq_le m p ((List.pairwise_cons.1 hs).1 p hp)

theorem offerRedis_eq (hs : ZSorted z) :
    offerRedis k z x f =
      if Admit k z f then
        (if (zadd z x f).length > k then (zadd z x f).tail else zadd z x f)
      else z := by
  cases z with
  | nil => simp [offerRedis, Admit]
  | cons m t =>
    have hmin := zsorted_head_min m t hs
    have hiff : Admit k (m :: t) f ↔ (m :: t).length < k ∨ f ≥ m.2 :=
      or_congr_right ⟨fun ⟨m', hm', _, hf⟩ => Nat.le_trans (hmin m' hm') hf,
        fun h => ⟨m, List.mem_cons_self, hmin, h⟩⟩
    simp only [offerRedis, List.head?_cons, hiff, Bool.or_eq_true, decide_eq_true_eq]

theorem redis_refines_spec (hs : ZSorted z) (hn : (z.map (·.1)).Nodup) :
    Step k z (x, f) (offerRedis k z x f) ∧ ZSorted (offerRedis k z x f) ∧
      ((offerRedis k z x f).map (·.1)).Nodup := by
  have hperm := zadd_perm z x f
  have hsort := zadd_sorted z x f hs
  have hnd : ((zadd z x f).map (·.1)).Nodup :=
    ((hperm.map (·.1)).nodup_iff).2 (upsert_nodup z x f hn)
  rw [offerRedis_eq k z x f hs]
  by_cases hA : Admit k z f
  · rw [if_pos hA]
    by_cases hgt : (zadd z x f).length > k
    · rw [if_pos hgt]
      -- ZPOPMIN: the head of the sorted list carries a minimal score
      cases hz : zadd z x f with
      | nil => rw [hz] at hgt; exact absurd hgt (Nat.not_lt_zero k)
      | cons v t =>
        rw [hz] at hperm hsort hnd
        exact ⟨step_of_admit hA hperm
            (fun _ => ⟨v, zsorted_head_min v t hsort, List.Perm.refl _⟩)
            (fun h => absurd (hz ▸ hgt) h),
          (List.pairwise_cons.1 hsort).2, (List.nodup_cons.1 hnd).2⟩
    · rw [if_neg hgt]
      exact ⟨step_of_admit hA hperm (fun h => absurd h hgt) (fun _ => List.Perm.refl _),
        hsort, hnd⟩
  · rw [if_neg hA]
    exact ⟨step_of_not_admit hA (List.Perm.refl _), hs, hn⟩

end Gostatix.TopK
