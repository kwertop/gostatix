/-
  Gostatix.Proofs.C16Cond — helpers for Props/C16Cond.lean (conditions under which C16 holds for
  the Redis cuckoo filter and the Redis Top-K).

  * `C16CuckooN`: the command-granularity model of `CuckooFilterRedis.Insert` of Props/C16.lean
    (`C16Cuckoo`) for ANY number of clients; an invariant of every interleaving when every
    targeted bucket has room for all the clients that target it (`RoomForAll`);
  * `C16TopKR`: the Top-K writer of `C16TopK` plus readers, what a reader can observe;
  * `C16TopK2`: two writers refreshing two different tracked members: the set stays canonical,
    its members are the untouched entries plus each writer's member in status old / gone / new,
    no ZPOPMIN can fire.
-/
import Gostatix.Proofs.Conc
import Gostatix.Props.C16
import Gostatix.Proofs.CuckooFilter
import Gostatix.Proofs.RedisZSet
namespace Gostatix
open Conc

namespace C16CuckooN
open C16Cuckoo (Fp Local)

/-- the Redis store (bucket lists, their `_len` counters, the metadata `length`) and every
    client's Go locals -/
structure St where
  buckets : List (BucketRedis Fp)
  length : Nat
  loc : Nat → Local := fun _ => {}

def St.setLoc (s : St) (c : Nat) (l : Local) : St :=
  { s with loc := fun d => if d = c then l else s.loc d }
def St.bucket (s : St) (i : Nat) : BucketRedis Fp := s.buckets.getD i ⟨0, [], 0⟩

inductive Cmd where
  | isFree1 (c : Nat) (i1 : Nat)
  | add1 (c : Nat) (i1 : Nat) (fp : Fp)
  | isFree2 (c : Nat) (i2 : Nat)
  | add2 (c : Nat) (i2 : Nat) (fp : Fp)
  | finish (c : Nat)
  deriving Repr, DecidableEq

/-- `C16Cuckoo.step` of Props/C16.lean transcribed with a natural number as client name; the two
    are tied by `toTwo_step`, a change of one needs the same change of the other -/
def step (s : St) : Cmd → St
  | .isFree1 c i => s.setLoc c { s.loc c with free1 := some (s.bucket i).isFree }
  | .add1 c i fp =>
    if (s.loc c).free1 = some true then
      { s with buckets := modAt s.buckets i (fun b => BucketRedis.add 0 b fp) }
    else s
  | .isFree2 c i =>
    if (s.loc c).free1 = some false then s.setLoc c { s.loc c with free2 := some (s.bucket i).isFree }
    else s
  | .add2 c i fp =>
    if (s.loc c).free1 = some false ∧ (s.loc c).free2 = some true then
      { s with buckets := modAt s.buckets i (fun b => BucketRedis.add 0 b fp) }
    else s
  | .finish c =>
    if (s.loc c).free1 = some true ∨ (s.loc c).free2 = some true then
      ({ s with length := s.length + 1 }).setLoc c { s.loc c with acked := true }
    else s.setLoc c { s.loc c with evicting := true }

/-- a request: fingerprint and the two candidate buckets -/
abbrev Req := Fp × Nat × Nat

def insertProg (c : Nat) (r : Req) : List Cmd :=
  [.isFree1 c r.2.1, .add1 c r.2.1 r.1, .isFree2 c r.2.2, .add2 c r.2.2 r.1, .finish c]

/-- client `c + j` runs the `j`-th request.  (Inside this namespace `progs`, `progsFrom` are these,
    not `Conc.progs` of the mutex model.) -/
def progsFrom (c : Nat) : List Req → List (List Cmd)
  | [] => []
  | r :: rs => insertProg c r :: progsFrom (c + 1) rs

def progs (reqs : List Req) : List (List Cmd) := progsFrom 0 reqs

def found (s : St) (r : Req) : Bool := (s.bucket r.2.1).lookup r.1 || (s.bucket r.2.2).lookup r.1

def stored (s : St) : Nat := sumL (s.buckets.map (fun b => (b.list.filter (· != 0)).length))

def Cmd.client : Cmd → Nat
  | .isFree1 c _ => c | .add1 c _ _ => c | .isFree2 c _ => c | .add2 c _ _ => c | .finish c => c

def Cmd.bkt : Cmd → Option Nat
  | .isFree1 _ i => some i | .add1 _ i _ => some i | .isFree2 _ i => some i | .add2 _ i _ => some i
  | .finish _ => none

/-! ### the two-client model of Props/C16.lean is the restriction to clients 0 and 1 -/

def ofBool (c : Bool) : Nat := if c then 1 else 0

def ofCmd : C16Cuckoo.Cmd → Cmd
  | .isFree1 c i => .isFree1 (ofBool c) i
  | .add1 c i fp => .add1 (ofBool c) i fp
  | .isFree2 c i => .isFree2 (ofBool c) i
  | .add2 c i fp => .add2 (ofBool c) i fp
  | .finish c => .finish (ofBool c)

def toTwo (s : St) : C16Cuckoo.St := ⟨s.buckets, s.length, s.loc 0, s.loc 1⟩

theorem toTwo_loc (s : St) (c : Bool) : (toTwo s).loc c = s.loc (ofBool c) := by
  cases c <;> rfl

theorem toTwo_setLoc (s : St) (c : Bool) (l : Local) :
    toTwo (s.setLoc (ofBool c) l) = (toTwo s).setLoc c l := by
  cases c <;> rfl

theorem toTwo_bucket (s : St) (i : Nat) : (toTwo s).bucket i = s.bucket i := rfl

theorem toTwo_step (s : St) (a : C16Cuckoo.Cmd) :
    toTwo (step s (ofCmd a)) = C16Cuckoo.step (toTwo s) a := by
  cases a with
  | isFree1 c i =>
    simp only [ofCmd, step, C16Cuckoo.step, toTwo_setLoc, toTwo_loc, toTwo_bucket]
  | add1 c i fp =>
    simp only [ofCmd, step, C16Cuckoo.step, toTwo_loc]
    split <;> rfl
  | isFree2 c i =>
    simp only [ofCmd, step, C16Cuckoo.step, toTwo_loc]
    split
    · simp only [toTwo_setLoc, toTwo_bucket]
    · rfl
  | add2 c i fp =>
    simp only [ofCmd, step, C16Cuckoo.step, toTwo_loc]
    split <;> rfl
  | finish c =>
    simp only [ofCmd, step, C16Cuckoo.step, toTwo_loc]
    split
    · rw [toTwo_setLoc]; rfl
    · rw [toTwo_setLoc]

theorem toTwo_exec (s : St) (w : List C16Cuckoo.Cmd) :
    toTwo (exec step s (w.map ofCmd)) = exec C16Cuckoo.step (toTwo s) w := by
  induction w generalizing s with
  | nil => rfl
  | cons a w ih =>
    show toTwo (exec step (step s (ofCmd a)) (w.map ofCmd)) = exec C16Cuckoo.step (C16Cuckoo.step (toTwo s) a) w
    rw [ih, toTwo_step]

theorem St.ext {s t : St} (h1 : s.buckets = t.buckets) (h2 : s.length = t.length)
    (h3 : ∀ c, s.loc c = t.loc c) : s = t := by
  cases s; cases t
  simp only at h1 h2 h3
  subst h1; subst h2
  congr
  funext c; exact h3 c

theorem bucket_modAt_ne (s : St) (i j : Nat) (f : BucketRedis Fp → BucketRedis Fp) (h : j ≠ i) :
    ({ s with buckets := modAt s.buckets i f } : St).bucket j = s.bucket j :=
  modAt_getD_ne s.buckets i j f _ h


/-! #### a normal form of `step`: what a command reads and what it writes -/

/-- the client's locals after the command, from its locals before and the bucket it addresses -/
def newLoc (l : Local) (bk : BucketRedis Fp) : Cmd → Local
  | .isFree1 _ _ => { l with free1 := some bk.isFree }
  | .add1 _ _ _ => l
  | .isFree2 _ _ => if l.free1 = some false then { l with free2 := some bk.isFree } else l
  | .add2 _ _ _ => l
  | .finish _ =>
    if l.free1 = some true ∨ l.free2 = some true then { l with acked := true }
    else { l with evicting := true }

def doesAdd (l : Local) : Cmd → Option (Nat × Fp)
  | .add1 _ i fp => if l.free1 = some true then some (i, fp) else none
  | .add2 _ i fp => if l.free1 = some false ∧ l.free2 = some true then some (i, fp) else none
  | _ => none

def incr (l : Local) : Cmd → Nat
  | .finish _ => if l.free1 = some true ∨ l.free2 = some true then 1 else 0
  | _ => 0

def applyAdd (bs : List (BucketRedis Fp)) : Option (Nat × Fp) → List (BucketRedis Fp)
  | some (i, fp) => modAt bs i (fun b => BucketRedis.add 0 b fp)
  | none => bs

theorem ite_loc_self (s : St) (c : Nat) : ∀ d, s.loc d = if d = c then s.loc c else s.loc d := by
  intro d
  split
  · rename_i h; rw [h]
  · rfl

theorem step_eq (s : St) (a : Cmd) :
    step s a =
      { buckets := applyAdd s.buckets (doesAdd (s.loc a.client) a),
        length := s.length + incr (s.loc a.client) a,
        loc := fun d => if d = a.client then
          newLoc (s.loc a.client) (s.bucket (a.bkt.getD 0)) a else s.loc d } := by
  -- a command that leaves the locals alone: `s.loc` is the function on the right by `ite_loc_self`
  cases a with
  | isFree1 c i => rfl
  | add1 c i fp =>
    by_cases h : (s.loc c).free1 = some true <;>
      simp only [step, doesAdd, incr, newLoc, Cmd.client, h, ↓reduceIte] <;>
      exact St.ext rfl rfl (ite_loc_self s c)
  | isFree2 c i =>
    by_cases h : (s.loc c).free1 = some false <;>
      simp only [step, doesAdd, incr, newLoc, Cmd.client, h, ↓reduceIte]
    · rfl
    · exact St.ext rfl rfl (ite_loc_self s c)
  | add2 c i fp =>
    by_cases h : (s.loc c).free1 = some false ∧ (s.loc c).free2 = some true <;>
      simp only [step, doesAdd, incr, newLoc, Cmd.client, h, ↓reduceIte] <;>
      exact St.ext rfl rfl (ite_loc_self s c)
  | finish c =>
    by_cases h : (s.loc c).free1 = some true ∨ (s.loc c).free2 = some true <;>
      simp only [step, doesAdd, incr, newLoc, Cmd.client, h, ↓reduceIte] <;> rfl

theorem doesAdd_bkt (l : Local) (a : Cmd) (i : Nat) (fp : Fp) (h : doesAdd l a = some (i, fp)) :
    a.bkt = some i := by
  cases a <;> simp only [doesAdd] at h
  · cases h
  · split at h
    · cases h; rfl
    · cases h
  · cases h
  · split at h
    · cases h; rfl
    · cases h
  · cases h

theorem bucket_applyAdd_ne (bs : List (BucketRedis Fp)) (o : Option (Nat × Fp)) (j : Nat)
    (h : ∀ i fp, o = some (i, fp) → j ≠ i) :
    (applyAdd bs o).getD j ⟨0, [], 0⟩ = bs.getD j ⟨0, [], 0⟩ := by
  cases o with
  | none => rfl
  | some p =>
    obtain ⟨i, fp⟩ := p
    exact modAt_getD_ne bs i j _ _ (h i fp rfl)

theorem applyAdd_comm (bs : List (BucketRedis Fp)) (o o' : Option (Nat × Fp))
    (h : ∀ i fp i' fp', o = some (i, fp) → o' = some (i', fp') → i ≠ i') :
    applyAdd (applyAdd bs o) o' = applyAdd (applyAdd bs o') o := by
  cases o with
  | none => rfl
  | some p =>
    cases o' with
    | none => rfl
    | some p' =>
      obtain ⟨i, fp⟩ := p
      obtain ⟨i', fp'⟩ := p'
      exact modAt_comm bs i i' _ _ (.inl (h i fp i' fp' rfl rfl))

/-- what a command `b` reads is not touched by a command `a` of another client on another bucket -/
theorem step_frame (s : St) (a b : Cmd) (hc : a.client ≠ b.client)
    (hb : ∀ i j, a.bkt = some i → b.bkt = some j → i ≠ j) (l : Local) :
    (step s a).loc b.client = s.loc b.client ∧
    newLoc l ((step s a).bucket (b.bkt.getD 0)) b = newLoc l (s.bucket (b.bkt.getD 0)) b := by
  rw [step_eq s a]
  refine ⟨if_neg (fun e => hc e.symm), ?_⟩
  cases hbk : b.bkt with
  | none => cases b <;> first | rfl | cases hbk
  | some j =>
    congr 1
    exact bucket_applyAdd_ne _ _ _ fun i fp hi e => hb i j (doesAdd_bkt _ _ _ _ hi) hbk e.symm

theorem step_comm (s : St) (a b : Cmd) (hc : a.client ≠ b.client)
    (hb : ∀ i j, a.bkt = some i → b.bkt = some j → i ≠ j) :
    step (step s a) b = step (step s b) a := by
  obtain ⟨rb, nb⟩ := step_frame s a b hc hb (s.loc b.client)
  obtain ⟨ra, na⟩ := step_frame s b a hc.symm (fun i j hi hj e => hb j i hj hi e.symm) (s.loc a.client)
  rw [step_eq (step s a) b, step_eq (step s b) a, rb, ra, nb, na, step_eq s a, step_eq s b]
  apply St.ext
  · exact applyAdd_comm _ _ _ fun i fp j fp' hi hj =>
      hb i j (doesAdd_bkt _ _ _ _ hi) (doesAdd_bkt _ _ _ _ hj)
  · exact Nat.add_right_comm _ _ _
  · intro d
    show (if d = b.client then _ else if d = a.client then _ else _)
      = (if d = a.client then _ else if d = b.client then _ else _)
    by_cases e1 : d = b.client
    · rw [if_pos e1, if_neg (fun e2 => hc (e2.symm.trans e1)), if_pos e1]
    · rw [if_neg e1, if_neg e1]

theorem mem_insertProg (c : Nat) (r : Req) (a : Cmd) (h : a ∈ insertProg c r) :
    a.client = c ∧ ∀ i, a.bkt = some i → i = r.2.1 ∨ i = r.2.2 := by
  simp only [insertProg, List.mem_cons, List.not_mem_nil, or_false] at h
  rcases h with rfl | rfl | rfl | rfl | rfl <;> refine ⟨rfl, ?_⟩ <;> intro i hi <;>
    simp only [Cmd.bkt, Option.some.injEq] at hi <;> first | exact Or.inl hi.symm | exact Or.inr hi.symm | cases hi

theorem progsFrom_getElem? (c : Nat) (reqs : List Req) (j : Nat) :
    (progsFrom c reqs)[j]? = (reqs[j]?).map (fun r => insertProg (c + j) r) := by
  induction reqs generalizing c j with
  | nil => simp [progsFrom]
  | cons r rs ih =>
    cases j with
    | zero => simp [progsFrom]
    | succ j =>
      simp only [progsFrom, List.getElem?_cons_succ, ih]
      have : c + 1 + j = c + (j + 1) := by omega
      rw [this]

theorem progsFrom_length (c : Nat) (reqs : List Req) : (progsFrom c reqs).length = reqs.length := by
  induction reqs generalizing c with
  | nil => rfl
  | cons r rs ih => simp [progsFrom, ih]

/-- the candidate buckets of different clients are different -/
def Disjoint (reqs : List Req) : Prop :=
  ∀ (i j : Nat) (r r' : Req), i ≠ j → reqs[i]? = some r → reqs[j]? = some r' →
    r.2.1 ≠ r'.2.1 ∧ r.2.1 ≠ r'.2.2 ∧ r.2.2 ≠ r'.2.1 ∧ r.2.2 ≠ r'.2.2

theorem progs_indep (reqs : List Req) (hd : Disjoint reqs) :
    ∀ i j : Nat, i ≠ j → ∀ a ∈ ((progs reqs)[i]?).getD [], ∀ b ∈ ((progs reqs)[j]?).getD [], ∀ s,
      step (step s a) b = step (step s b) a := by
  intro i j hne a ha b hb s
  unfold progs at ha hb
  rw [progsFrom_getElem?] at ha hb
  cases hi : reqs[i]? with
  | none => simp [hi] at ha
  | some r =>
    cases hj : reqs[j]? with
    | none => simp [hj] at hb
    | some r' =>
      simp only [hi, hj, Option.map_some, Option.getD_some, Nat.zero_add] at ha hb
      obtain ⟨ca, ba⟩ := mem_insertProg i r a ha
      obtain ⟨cb, bb⟩ := mem_insertProg j r' b hb
      obtain ⟨d1, d2, d3, d4⟩ := hd i j r r' hne hi hj
      apply step_comm s a b (by rw [ca, cb]; exact hne)
      intro x y hx hy
      rcases ba x hx with rfl | rfl <;> rcases bb y hy with rfl | rfl <;> assumption


/-- the `k`-th command of `insertProg c r` -/
def cmdAt (c : Nat) (r : Req) : Nat → Cmd
  | 0 => .isFree1 c r.2.1
  | 1 => .add1 c r.2.1 r.1
  | 2 => .isFree2 c r.2.2
  | 3 => .add2 c r.2.2 r.1
  | _ => .finish c

theorem insertProg_getElem? (c : Nat) (r : Req) (k : Nat) :
    (insertProg c r)[k]? = if k < 5 then some (cmdAt c r k) else none := by
  rcases k with _ | _ | _ | _ | _ | k <;> rfl

theorem cmdAt_client (c : Nat) (r : Req) (k : Nat) : (cmdAt c r k).client = c := by
  rcases k with _ | _ | _ | _ | _ | k <;> rfl

/-- the locals of a client that has executed `k` commands, `f1` = "the first candidate had room" -/
def locAt (f1 : Bool) : Nat → Local
  | 0 => {}
  | 1 => { free1 := some f1 }
  | 2 => { free1 := some f1 }
  | 3 => if f1 then { free1 := some true } else { free1 := some false, free2 := some true }
  | 4 => if f1 then { free1 := some true } else { free1 := some false, free2 := some true }
  | _ => if f1 then { free1 := some true, acked := true }
         else { free1 := some false, free2 := some true, acked := true }

/-- the client has run its `add` script -/
def addedAt (f1 : Bool) (k : Nat) : Bool := if f1 then decide (2 ≤ k) else decide (4 ≤ k)

theorem locAt_done (f1 : Bool) (k : Nat) (hk : 5 ≤ k) :
    (locAt f1 k).acked = true ∧ (locAt f1 k).evicting = false := by
  obtain ⟨m, rfl⟩ : ∃ m, k = m + 5 := ⟨k - 5, by omega⟩
  cases f1 <;> exact ⟨rfl, rfl⟩

theorem addedAt_zero (f1 : Bool) : addedAt f1 0 = false := by cases f1 <;> rfl

theorem addedAt_done (f1 : Bool) (k : Nat) (hk : 5 ≤ k) : addedAt f1 k = true := by
  unfold addedAt; cases f1 <;> simp <;> omega

theorem client_step (c : Nat) (r : Req) (f : Bool) (k : Nat) (hk : k < 5) (bk : BucketRedis Fp)
    (h0 : k = 0 → bk.isFree = f) (h2 : k = 2 → f = false → bk.isFree = true) :
    doesAdd (locAt f k) (cmdAt c r k)
      = (if addedAt f (k + 1) && !addedAt f k then some (if f then r.2.1 else r.2.2, r.1) else none) ∧
    incr (locAt f k) (cmdAt c r k) = (if k = 4 then 1 else 0) ∧
    newLoc (locAt f k) bk (cmdAt c r k) = locAt f (k + 1) := by
  rcases k with _ | _ | _ | _ | _ | k
  · have := h0 rfl
    cases f <;> simp [locAt, cmdAt, doesAdd, incr, newLoc, addedAt, this]
  · cases f <;> exact ⟨rfl, rfl, rfl⟩
  · cases f
    · have := h2 rfl rfl
      simp [locAt, cmdAt, doesAdd, incr, newLoc, addedAt, this]
    · exact ⟨rfl, rfl, rfl⟩
  · cases f <;> exact ⟨rfl, rfl, rfl⟩
  · cases f <;> exact ⟨rfl, rfl, rfl⟩
  · omega

theorem addedAt_mono (f : Bool) (k : Nat) (h : addedAt f k = true) : addedAt f (k + 1) = true := by
  unfold addedAt at *; cases f <;> simp at * <;> omega

theorem step_cmdAt (s : St) (c : Nat) (r : Req) (f : Bool) (k : Nat) (hk : k < 5)
    (hl : s.loc c = locAt f k) (h0 : k = 0 → (s.bucket r.2.1).isFree = f)
    (h2 : k = 2 → f = false → (s.bucket r.2.2).isFree = true) :
    step s (cmdAt c r k) =
      { buckets := applyAdd s.buckets
          (if addedAt f (k + 1) && !addedAt f k then some (if f then r.2.1 else r.2.2, r.1) else none),
        length := s.length + (if k = 4 then 1 else 0),
        loc := fun d => if d = c then locAt f (k + 1) else s.loc d } := by
  obtain ⟨e1, e2, e3⟩ := client_step c r f k hk (s.bucket ((cmdAt c r k).bkt.getD 0))
    (by rintro rfl; exact h0 rfl) (by rintro rfl; exact h2 rfl)
  rw [step_eq, cmdAt_client, hl, e1, e2, e3]

/-- the bucket a sequential `Insert` without eviction adds to -/
def tgt (s : St) (r : Req) : Nat := if (s.bucket r.2.1).isFree then r.2.1 else r.2.2

theorem exec_take_alone (s : St) (c : Nat) (r : Req) (hl : s.loc c = {})
    (hf : (s.bucket r.2.1).isFree = false → (s.bucket r.2.2).isFree = true) (k : Nat) (hk : k ≤ 5) :
    exec step s ((insertProg c r).take k) =
      { buckets := applyAdd s.buckets
          (if addedAt (s.bucket r.2.1).isFree k then some (tgt s r, r.1) else none),
        length := s.length + (if k = 5 then 1 else 0),
        loc := fun d => if d = c then locAt (s.bucket r.2.1).isFree k else s.loc d } := by
  induction k with
  | zero =>
    apply St.ext
    · show s.buckets = applyAdd s.buckets (if addedAt _ 0 then _ else _)
      rw [addedAt_zero]; rfl
    · rfl
    · intro d
      show s.loc d = if d = c then {} else s.loc d
      split
      · next e => rw [e, hl]
      · rfl
  | succ k ih =>
    have hk' : k < 5 := hk
    rw [List.take_add_one, insertProg_getElem?, if_pos hk', Option.toList_some, exec,
      List.foldl_append]
    show step (exec step s ((insertProg c r).take k)) (cmdAt c r k) = _
    rw [ih (Nat.le_of_lt hk')]
    -- before its `add` the client sees the buckets of `s`
    have hbk : ∀ {l lo}, addedAt (s.bucket r.2.1).isFree k = false → ∀ i,
        (⟨applyAdd s.buckets (if addedAt (s.bucket r.2.1).isFree k then some (tgt s r, r.1) else none),
          l, lo⟩ : St).bucket i = s.bucket i := by
      intro l lo h i
      show (applyAdd s.buckets (if addedAt _ k then _ else _)).getD i _ = _
      rw [h]; rfl
    rw [step_cmdAt _ c r (s.bucket r.2.1).isFree k hk' (if_pos rfl)
      (by rintro rfl; rw [hbk (addedAt_zero _)])
      (by rintro rfl h1; rw [hbk (by rw [h1]; rfl)]; exact hf h1)]
    apply St.ext
    · show applyAdd (applyAdd s.buckets _) _ = applyAdd s.buckets _
      cases hA : addedAt (s.bucket r.2.1).isFree k
      · cases addedAt (s.bucket r.2.1).isFree (k + 1) <;> rfl
      · rw [addedAt_mono _ _ hA]; rfl
    · show s.length + (if k = 5 then 1 else 0) + (if k = 4 then 1 else 0)
        = s.length + (if k + 1 = 5 then 1 else 0)
      split <;> split <;> split <;> omega
    · intro d
      show (if d = c then _ else if d = c then _ else _) = if d = c then _ else _
      split <;> rfl

theorem insertProg_alone (s : St) (c : Nat) (r : Req) (hl : s.loc c = {})
    (hf : (s.bucket r.2.1).isFree = true ∨ (s.bucket r.2.2).isFree = true) :
    exec step s (insertProg c r) =
      { buckets := modAt s.buckets (tgt s r) (fun b => BucketRedis.add 0 b r.1),
        length := s.length + 1,
        loc := fun d => if d = c then locAt (s.bucket r.2.1).isFree 5 else s.loc d } := by
  have := exec_take_alone s c r hl (fun h1 => by simpa [h1] using hf) 5 (Nat.le_refl 5)
  rw [addedAt_done _ 5 (Nat.le_refl 5)] at this
  exact this


instance instInhabitedBucket : Inhabited (BucketRedis Fp) := ⟨⟨0, [], 0⟩⟩

/-- the sequential model (`Cuckoo.insert` of Model/Cuckoo.lean over `BucketRedis`) applied to the
    requests one after another; `none` as soon as an insert reports "full" -/
def modelRun (alt : Nat → Fp → Nat) (d side : Bool) (slots : List Nat) :
    Cuckoo (BucketRedis Fp) → List Req → Option (Cuckoo (BucketRedis Fp))
  | cm, [] => some cm
  | cm, r :: rs =>
    match Cuckoo.insert (BucketRedis.ops 0) alt cm r.1 r.2.1 r.2.2 d side slots with
    | .ok cm' => modelRun alt d side slots cm' rs
    | .full _ => none

theorem model_insert_free (alt : Nat → Fp → Nat) (d side : Bool) (slots : List Nat)
    (cm : Cuckoo (BucketRedis Fp)) (s : St) (r : Req) (hb : cm.buckets = s.buckets)
    (hf : (s.bucket r.2.1).isFree = true ∨ (s.bucket r.2.2).isFree = true) :
    Cuckoo.insert (BucketRedis.ops 0) alt cm r.1 r.2.1 r.2.2 d side slots =
      .ok { cm with buckets := modAt s.buckets (tgt s r) (fun b => BucketRedis.add 0 b r.1),
                    length := cm.length + 1 } := by
  unfold Cuckoo.insert
  rw [hb]
  by_cases h1 : (s.bucket r.2.1).isFree = true
  · have : (BucketRedis.ops (0 : Fp)).isFree (Cuckoo.bucketAt s.buckets r.2.1) = true := h1
    rw [if_pos this]
    simp only [tgt, h1, if_true]; rfl
  · have h2 : (s.bucket r.2.2).isFree = true := by
      rcases hf with h | h
      · exact absurd h h1
      · exact h
    have n1 : ¬ (BucketRedis.ops (0 : Fp)).isFree (Cuckoo.bucketAt s.buckets r.2.1) = true := h1
    have p2 : (BucketRedis.ops (0 : Fp)).isFree (Cuckoo.bucketAt s.buckets r.2.2) = true := h2
    rw [if_neg n1, if_pos p2]
    simp only [tgt, h1]; rfl

theorem Disjoint.tail {r : Req} {rs : List Req} (h : Disjoint (r :: rs)) :
    Disjoint rs ∧ ∀ r' ∈ rs, r.2.1 ≠ r'.2.1 ∧ r.2.1 ≠ r'.2.2 ∧ r.2.2 ≠ r'.2.1 ∧ r.2.2 ≠ r'.2.2 := by
  refine ⟨?_, ?_⟩
  · intro i j a b hne hi hj
    exact h (i + 1) (j + 1) a b (fun e => hne (Nat.succ.inj e)) hi hj
  · intro r' hr'
    obtain ⟨j, hj⟩ := List.mem_iff_getElem?.1 hr'
    exact h 0 (j + 1) r r' (Nat.succ_ne_zero j).symm rfl hj

theorem tgt_mem (s : St) (r : Req) : tgt s r = r.2.1 ∨ tgt s r = r.2.2 := by
  unfold tgt; split
  · exact Or.inl rfl
  · exact Or.inr rfl

/-- the clients one after another: the sequential command run is the sequential MODEL run -/
theorem seq_run (alt : Nat → Fp → Nat) (d side : Bool) (slots : List Nat) :
    ∀ (reqs : List Req) (c : Nat) (s : St) (cm : Cuckoo (BucketRedis Fp)),
      cm.buckets = s.buckets → cm.length = s.length → (∀ e, c ≤ e → s.loc e = {}) →
      Disjoint reqs →
      (∀ r ∈ reqs, (s.bucket r.2.1).isFree = true ∨ (s.bucket r.2.2).isFree = true) →
      ∃ cm', modelRun alt d side slots cm reqs = some cm' ∧
        (exec step s (progsFrom c reqs).flatten).buckets = cm'.buckets ∧
        (exec step s (progsFrom c reqs).flatten).length = cm'.length := by
  intro reqs
  induction reqs with
  | nil =>
    intro c s cm hb hl _ _ _
    exact ⟨cm, rfl, hb.symm, hl.symm⟩
  | cons r rs ih =>
    intro c s cm hb hl hloc hd hf
    obtain ⟨hd', hne⟩ := hd.tail
    have hfr := hf r List.mem_cons_self
    have h1 := insertProg_alone s c r (hloc c (Nat.le_refl c)) hfr
    -- the other clients' candidates are not the bucket the first client added to
    have hbk : ∀ i, i ≠ tgt s r → (exec step s (insertProg c r)).bucket i = s.bucket i := by
      intro i hi
      rw [h1]
      exact modAt_getD_ne s.buckets (tgt s r) i _ _ hi
    have hf' : ∀ r' ∈ rs, ((exec step s (insertProg c r)).bucket r'.2.1).isFree = true ∨
        ((exec step s (insertProg c r)).bucket r'.2.2).isFree = true := by
      intro r' hr'
      obtain ⟨a, b, c', d'⟩ := hne r' hr'
      rw [hbk _ (by rcases tgt_mem s r with e | e <;> rw [e] <;> exact Ne.symm ‹_›),
        hbk _ (by rcases tgt_mem s r with e | e <;> rw [e] <;> exact Ne.symm ‹_›)]
      exact hf r' (List.mem_cons_of_mem _ hr')
    have hloc' : ∀ e, c + 1 ≤ e → (exec step s (insertProg c r)).loc e = {} := by
      intro e he
      rw [h1]
      show (if e = c then _ else _) = _
      rw [if_neg (by omega)]
      exact hloc e (by omega)
    obtain ⟨cm', r1, r2, r3⟩ :=
      ih (c + 1) _
        { cm with buckets := modAt s.buckets (tgt s r) (fun b => BucketRedis.add 0 b r.1),
                  length := cm.length + 1 }
        (by rw [h1]) (by rw [h1]; show cm.length + 1 = s.length + 1; rw [hl]) hloc' hd' hf'
    have hex : exec step s (progsFrom c (r :: rs)).flatten
        = exec step (exec step s (insertProg c r)) (progsFrom (c + 1) rs).flatten := by
      simp only [progsFrom, List.flatten_cons, exec, List.foldl_append]
    rw [hex]
    exact ⟨cm', by simp only [modelRun, model_insert_free alt d side slots cm s r hb hfr]; exact r1,
      r2, r3⟩


/-- number of `j < n` with `P j` -/
def cnt (P : Nat → Bool) : Nat → Nat
  | 0 => 0
  | n + 1 => cnt P n + (if P n then 1 else 0)

theorem cnt_eq_countP (P : Nat → Bool) (n : Nat) : cnt P n = (List.range n).countP P := by
  induction n with
  | zero => rfl
  | succ n ih => rw [cnt, ih, List.range_succ, List.countP_append, List.countP_singleton]

theorem cnt_congr (P Q : Nat → Bool) (n : Nat) (h : ∀ j, j < n → P j = Q j) : cnt P n = cnt Q n := by
  rw [cnt_eq_countP, cnt_eq_countP]
  exact List.countP_congr fun j hj => by rw [h j (List.mem_range.1 hj)]

theorem cnt_le (P Q : Nat → Bool) (n : Nat) (h : ∀ j, j < n → P j = true → Q j = true) :
    cnt P n ≤ cnt Q n := by
  rw [cnt_eq_countP, cnt_eq_countP]
  exact List.countP_mono_left fun j hj => h j (List.mem_range.1 hj)

theorem cnt_all (P : Nat → Bool) (n : Nat) (h : ∀ j, j < n → P j = true) : cnt P n = n := by
  rw [cnt_eq_countP, List.countP_eq_length.2 fun j hj => h j (List.mem_range.1 hj), List.length_range]

theorem cnt_false (n : Nat) (P : Nat → Bool) (h : ∀ j, j < n → P j = false) : cnt P n = 0 := by
  rw [cnt_eq_countP]
  exact List.countP_eq_zero.2 fun j hj => by rw [h j (List.mem_range.1 hj)]; decide

theorem cnt_update (P Q : Nat → Bool) (n i : Nat) (h : ∀ j, j < n → j ≠ i → Q j = P j)
    (hi : i < n) (hp : P i = false) (hq : Q i = true) : cnt Q n = cnt P n + 1 := by
  induction n with
  | zero => omega
  | succ n ih =>
    simp only [cnt]
    by_cases e : i = n
    · subst e
      rw [cnt_congr Q P i (fun j hj => h j (by omega) (by omega))]
      simp [hp, hq]
    · rw [ih (fun j hj => h j (by omega)) (by omega), h n (by omega) (fun x => e x.symm)]
      omega

theorem cnt_lt (P Q : Nat → Bool) (n i : Nat) (h : ∀ j, j < n → P j = true → Q j = true)
    (hi : i < n) (hp : P i = false) (hq : Q i = true) : cnt P n < cnt Q n := by
  have h1 := cnt_update P (fun j => P j || j == i) n i (fun j _ hj => by simp [hj]) hi hp (by simp)
  have h2 := cnt_le (fun j => P j || j == i) Q n fun j hj hpj => by
    rcases Bool.or_eq_true_iff.1 hpj with hpj | hji
    · exact h j hj hpj
    · rw [beq_iff_eq.1 hji]; exact hq
  omega

theorem add_size (b : BucketRedis Fp) (e : Fp) : (BucketRedis.add 0 b e).size = b.size := by
  unfold BucketRedis.add; split
  · rfl
  · split <;> rfl

theorem add_len (b : BucketRedis Fp) (e : Fp) :
    b.len ≤ (BucketRedis.add 0 b e).len ∧ (BucketRedis.add 0 b e).len ≤ b.len + 1 := by
  unfold BucketRedis.add; split
  · exact ⟨Nat.le_refl _, Nat.le_succ _⟩
  · split <;> exact ⟨Nat.le_succ _, Nat.le_refl _⟩

theorem mem_add_of_mem (b : BucketRedis Fp) (e e' : Fp) (h : e ∈ b.list) (he : e ≠ 0) :
    e ∈ (BucketRedis.add 0 b e').list := by
  unfold BucketRedis.add; split
  · exact h
  · split
    · next hc =>
      -- the hole that is overwritten held `0`, not `e`
      have hm : (0 : Fp) ∈ b.list := by simpa using hc
      have hcnt := count_set_add b.list (b.list.idxOf 0) e' 0 e (idxOf_lt_of_mem _ _ hm)
      rw [getD_idxOf b.list 0 0 hm] at hcnt
      simp only [ind, he.symm, if_false] at hcnt
      have := List.count_pos_iff.2 h
      show e ∈ b.list.set (b.list.idxOf 0) e'
      exact List.count_pos_iff.1 (by omega)
    · exact List.mem_cons_of_mem _ h

theorem mem_add_self (b : BucketRedis Fp) (e : Fp) (hf : b.isFree = true) (he : e ≠ 0) :
    e ∈ (BucketRedis.add 0 b e).list := by
  unfold BucketRedis.add
  rw [if_neg (by simp [he, hf])]
  split
  · next hc =>
    have hm : (0 : Fp) ∈ b.list := by simpa using hc
    exact List.mem_iff_getElem.2 ⟨b.list.idxOf 0, by simpa using idxOf_lt_of_mem _ _ hm, by simp⟩
  · exact List.mem_cons_self

def nz (b : BucketRedis Fp) : Nat := (b.list.filter (· != 0)).length

theorem nz_eq_occ (b : BucketRedis Fp) : nz b = occ 0 b.list := by
  rw [nz, occ, List.countP_eq_length_filter]
  congr 2
  funext x
  by_cases hx : x = 0 <;> simp [hx]

theorem nz_add (b : BucketRedis Fp) (e : Fp) (hf : b.isFree = true) (he : e ≠ 0) :
    nz (BucketRedis.add 0 b e) = nz b + 1 := by
  have h1 : ind (e ≠ 0) = 1 := if_pos he
  rw [nz_eq_occ, nz_eq_occ]
  unfold BucketRedis.add
  rw [if_neg (by simp [he, hf])]
  split
  · next hc =>
    have hm : (0 : Fp) ∈ b.list := by simpa using hc
    have := occ_set_add 0 b.list (b.list.idxOf 0) e 0 (idxOf_lt_of_mem _ _ hm)
    rw [getD_idxOf b.list 0 0 hm, h1] at this
    simpa [ind] using this
  · rw [occ_cons, h1]

theorem lt_length_of_isFree (bs : List (BucketRedis Fp)) (i : Nat)
    (h : (bs.getD i ⟨0, [], 0⟩).isFree = true) : i < bs.length := by
  rcases Nat.lt_or_ge i bs.length with hl | hl
  · exact hl
  · rw [List.getD_eq_getElem?_getD, List.getElem?_eq_none hl] at h
    simp [BucketRedis.isFree] at h

theorem sumL_eq_sum (l : List Nat) : sumL l = l.sum := by
  induction l with
  | nil => rfl
  | cons a l ih => rw [sumL_cons, ih, List.sum_cons]

theorem stored_eq (s : St) : stored s = tot nz s.buckets := sumL_eq_sum _


section shared
variable (s0 : St) (reqs : List Req)

def req (j : Nat) : Req := reqs.getD j (0, 0, 0)
def f1 (j : Nat) : Bool := (s0.bucket (req reqs j).2.1).isFree
/-- the bucket client `j` adds to when it runs alone from the initial store -/
def tj (j : Nat) : Nat := if f1 s0 reqs j then (req reqs j).2.1 else (req reqs j).2.2

theorem getElem?_req {j : Nat} (hj : j < reqs.length) : reqs[j]? = some (req reqs j) := by
  simp [req, List.getD_eq_getElem?_getD, List.getElem?_eq_getElem hj]

theorem req_of_getElem? {j : Nat} {r : Req} (h : reqs[j]? = some r) : req reqs j = r := by
  simp [req, List.getD_eq_getElem?_getD, h]

/-- `Disjoint` over the positions below `reqs.length`: a bounded, hence decidable, statement -/
theorem Disjoint.of_lt (h : ∀ i, i < reqs.length → ∀ j, j < reqs.length → i ≠ j →
    (req reqs i).2.1 ≠ (req reqs j).2.1 ∧ (req reqs i).2.1 ≠ (req reqs j).2.2 ∧
    (req reqs i).2.2 ≠ (req reqs j).2.1 ∧ (req reqs i).2.2 ≠ (req reqs j).2.2) : Disjoint reqs := by
  intro i j r r' hne hi hj
  rw [← req_of_getElem? reqs hi, ← req_of_getElem? reqs hj]
  exact h i (List.getElem?_eq_some_iff.1 hi).1 j (List.getElem?_eq_some_iff.1 hj).1 hne

def HasRoom : Prop :=
  ∀ j, j < reqs.length →
    (s0.bucket (req reqs j).2.1).isFree = true ∨ (s0.bucket (req reqs j).2.2).isFree = true

/-- every bucket some client targets has room for ALL the clients that (running alone) would add
    to it: `len + #{clients targeting it} ≤ size`.  The count is taken in the INITIAL store; it
    bounds the adds of every interleaving because a first candidate that is full stays full
    (`full_stays`) and one with room keeps room for its clients (`free_of_pending`), so every
    client adds to the bucket it would add to alone (`step_at`). -/
def RoomForAll : Prop :=
  ∀ i, i < reqs.length →
    (s0.bucket (tj s0 reqs i)).len + cnt (fun j => tj s0 reqs j == tj s0 reqs i) reqs.length
      ≤ (s0.bucket (tj s0 reqs i)).size

/-- the invariant of every interleaving; `pc j` = number of commands client `j` has executed -/
structure Inv (pc : Nat → Nat) (s : St) : Prop where
  blen : s.buckets.length = s0.buckets.length
  size : ∀ b, (s.bucket b).size = (s0.bucket b).size
  len_ge : ∀ b, (s0.bucket b).len ≤ (s.bucket b).len
  len_le : ∀ b, (s.bucket b).len ≤ (s0.bucket b).len +
    cnt (fun j => tj s0 reqs j == b && addedAt (f1 s0 reqs j) (pc j)) reqs.length
  locs : ∀ j, j < reqs.length → s.loc j = locAt (f1 s0 reqs j) (pc j)
  found : ∀ j, j < reqs.length → addedAt (f1 s0 reqs j) (pc j) = true → (req reqs j).1 ≠ 0 →
    (req reqs j).1 ∈ (s.bucket (tj s0 reqs j)).list
  length : s.length = s0.length + cnt (fun j => decide (5 ≤ pc j)) reqs.length
  stored : (∀ j, j < reqs.length → (req reqs j).1 ≠ 0) →
    stored s = stored s0 + cnt (fun j => addedAt (f1 s0 reqs j) (pc j)) reqs.length

theorem inv_init (hl : ∀ j, j < reqs.length → s0.loc j = {}) : Inv s0 reqs (fun _ => 0) s0 where
  blen := rfl
  size := fun _ => rfl
  len_ge := fun _ => Nat.le_refl _
  len_le := fun b => by
    rw [cnt_false _ _ fun j _ => by rw [addedAt_zero, Bool.and_false]]
    exact Nat.le_refl _
  locs := fun j hj => hl j hj
  found := fun j _ h => by rw [addedAt_zero] at h; cases h
  length := by rw [cnt_false _ (fun _ => decide (5 ≤ 0)) fun _ _ => rfl]; rfl
  stored := fun _ => by rw [cnt_false _ _ fun j _ => addedAt_zero _]; rfl

variable {s0 reqs}

theorem full_stays {pc : Nat → Nat} {s : St} (hI : Inv s0 reqs pc s) (b : Nat)
    (h : (s0.bucket b).isFree = false) : (s.bucket b).isFree = false := by
  have h1 := hI.len_ge b
  have h3 := hI.size b
  simp only [BucketRedis.isFree, decide_eq_false_iff_not] at h ⊢
  omega

/-- a step that leaves the buckets alone and changes nobody's status "has added" keeps the
    invariant as soon as the locals and `length` are right -/
theorem Inv.of_idle {pc pc' : Nat → Nat} {s s' : St} (hI : Inv s0 reqs pc s)
    (hb : s'.buckets = s.buckets)
    (hA : ∀ j, addedAt (f1 s0 reqs j) (pc' j) = addedAt (f1 s0 reqs j) (pc j))
    (hlocs : ∀ j, j < reqs.length → s'.loc j = locAt (f1 s0 reqs j) (pc' j))
    (hlen : s'.length = s0.length + cnt (fun j => decide (5 ≤ pc' j)) reqs.length) :
    Inv s0 reqs pc' s' := by
  have hbk : ∀ b, s'.bucket b = s.bucket b := fun b => by rw [St.bucket, hb]; rfl
  refine ⟨hb ▸ hI.blen, ?_, ?_, ?_, hlocs, ?_, hlen, fun hne => ?_⟩
  · simp only [hbk]; exact hI.size
  · simp only [hbk]; exact hI.len_ge
  · simp only [hA, hbk]; exact hI.len_le
  · simp only [hA, hbk]; exact hI.found
  · rw [stored_eq s', hb, ← stored_eq s]; simp only [hA]; exact hI.stored hne

section next
variable (hroom : RoomForAll s0 reqs) {pc : Nat → Nat} {s : St} (hI : Inv s0 reqs pc s)
  (i : Nat) (hi : i < reqs.length)
include hroom hI hi

/-- a client that has not yet run its `add` still finds room in its target bucket -/
theorem free_of_pending (hp : addedAt (f1 s0 reqs i) (pc i) = false) :
    (s.bucket (tj s0 reqs i)).isFree = true := by
  have h1 := hI.len_le (tj s0 reqs i)
  have h2 := hroom i hi
  have h3 := hI.size (tj s0 reqs i)
  have h4 := cnt_lt (fun j => tj s0 reqs j == tj s0 reqs i && addedAt (f1 s0 reqs j) (pc j))
    (fun j => tj s0 reqs j == tj s0 reqs i) reqs.length i
    (by intro j _ h; simp only [Bool.and_eq_true] at h; exact h.1) hi (by simp [hp]) (by simp)
  simp only [BucketRedis.isFree, decide_eq_true_eq]
  omega

theorem step_at (hk : pc i < 5) :
    step s (cmdAt i (req reqs i) (pc i)) =
      { buckets := applyAdd s.buckets
          (if addedAt (f1 s0 reqs i) (pc i + 1) && !addedAt (f1 s0 reqs i) (pc i)
            then some (tj s0 reqs i, (req reqs i).1) else none),
        length := s.length + (if pc i = 4 then 1 else 0),
        loc := fun d => if d = i then locAt (f1 s0 reqs i) (pc i + 1) else s.loc d } := by
  refine step_cmdAt s i (req reqs i) (f1 s0 reqs i) (pc i) hk (hI.locs i hi) (fun e => ?_)
    (fun e hf => ?_)
  · cases hf : f1 s0 reqs i with
    | true =>
      simpa only [tj, hf, ↓reduceIte] using free_of_pending hroom hI i hi (by rw [hf, e]; rfl)
    | false => exact full_stays hI _ hf
  · simpa only [tj, hf, Bool.false_eq_true, ↓reduceIte] using
      free_of_pending hroom hI i hi (by rw [hf, e]; rfl)

theorem Inv.of_add {pc' : Nat → Nat} {s' : St}
    (hb : s'.buckets = modAt s.buckets (tj s0 reqs i) (fun b => BucketRedis.add 0 b (req reqs i).1))
    (hnot : addedAt (f1 s0 reqs i) (pc i) = false) (hnow : addedAt (f1 s0 reqs i) (pc' i) = true)
    (hoth : ∀ j, j ≠ i → addedAt (f1 s0 reqs j) (pc' j) = addedAt (f1 s0 reqs j) (pc j))
    (hlocs : ∀ j, j < reqs.length → s'.loc j = locAt (f1 s0 reqs j) (pc' j))
    (hlen : s'.length = s0.length + cnt (fun j => decide (5 ≤ pc' j)) reqs.length) :
    Inv s0 reqs pc' s' := by
  have hfree := free_of_pending hroom hI i hi hnot
  have ht : tj s0 reqs i < s.buckets.length := lt_length_of_isFree _ _ hfree
  have hbk : ∀ b, s'.bucket b = if b = tj s0 reqs i
      then BucketRedis.add 0 (s.bucket (tj s0 reqs i)) (req reqs i).1 else s.bucket b :=
    fun b => by rw [St.bucket, hb]; exact modAt_getD _ _ _ _ _ ht
  have hal := add_len (s.bucket (tj s0 reqs i)) (req reqs i).1
  refine ⟨by rw [hb, modAt_length]; exact hI.blen, ?_, ?_, ?_, hlocs, ?_, hlen, ?_⟩
  · intro b
    rw [hbk]
    split
    · next e => rw [add_size, ← e]; exact hI.size b
    · exact hI.size b
  · intro b
    rw [hbk]
    have := hI.len_ge b
    split
    · next e => subst e; omega
    · exact this
  · intro b
    rw [hbk]
    have h2 := hI.len_le b
    split
    · next e =>
      rw [cnt_update (fun j => tj s0 reqs j == b && addedAt (f1 s0 reqs j) (pc j))
        (fun j => tj s0 reqs j == b && addedAt (f1 s0 reqs j) (pc' j)) reqs.length i
        (fun j _ hj => by rw [hoth j hj]) hi (by simp [hnot]) (by simp [hnow, e])]
      subst e
      omega
    · -- nobody loses the status "has added"
      refine Nat.le_trans h2 (Nat.add_le_add_left (cnt_le _ _ _ fun j _ h => ?_) _)
      by_cases ej : j = i
      · subst ej; rw [hnot] at h; simp at h
      · rw [hoth j ej]; exact h
  · intro j hj ha hne
    rw [hbk]
    by_cases ej : j = i
    · subst ej
      rw [if_pos rfl]
      exact mem_add_self _ _ hfree hne
    · rw [hoth j ej] at ha
      have hm := hI.found j hj ha hne
      split
      · next e => rw [← e]; exact mem_add_of_mem _ _ _ hm hne
      · exact hm
  · intro hne
    have h1 := tot_modAt nz s.buckets (tj s0 reqs i)
      (fun b => BucketRedis.add 0 b (req reqs i).1) ⟨0, [], 0⟩ ht
    have h2 := nz_add (s.bucket (tj s0 reqs i)) (req reqs i).1 hfree (hne i hi)
    have h3 := hI.stored hne
    rw [cnt_update (fun j => addedAt (f1 s0 reqs j) (pc j))
      (fun j => addedAt (f1 s0 reqs j) (pc' j)) reqs.length i
      (fun j _ hj => hoth j hj) hi hnot hnow]
    rw [stored_eq] at h3 ⊢
    rw [hb]
    simp only [St.bucket] at h2
    omega

theorem inv_step (hk : pc i < 5) :
    Inv s0 reqs (bump pc i) (step s (cmdAt i (req reqs i) (pc i))) := by
  rw [step_at hroom hI i hi hk]
  have hpi := bump_self pc i
  have hoth : ∀ j, j ≠ i → addedAt (f1 s0 reqs j) (bump pc i j) = addedAt (f1 s0 reqs j) (pc j) :=
    fun j hj => by rw [bump_ne pc hj]
  have hlocs : ∀ j, j < reqs.length →
      (if j = i then locAt (f1 s0 reqs i) (pc i + 1) else s.loc j) = locAt (f1 s0 reqs j) (bump pc i j) := by
    intro j hj
    by_cases ej : j = i
    · subst ej; rw [if_pos rfl, hpi]
    · rw [if_neg ej, bump_ne pc ej]; exact hI.locs j hj
  have hlen5 : s.length + (if pc i = 4 then 1 else 0)
      = s0.length + cnt (fun j => decide (5 ≤ bump pc i j)) reqs.length := by
    rw [hI.length]
    by_cases e : pc i = 4
    · rw [if_pos e, Nat.add_assoc, cnt_update (fun j => decide (5 ≤ pc j))
        (fun j => decide (5 ≤ bump pc i j)) reqs.length i
        (fun j _ hj => by rw [bump_ne pc hj]) hi (by simp; omega) (by rw [hpi]; simp; omega)]
    · rw [if_neg e, Nat.add_zero]
      congr 1
      apply cnt_congr
      intro j _
      by_cases ej : j = i
      · subst ej; rw [hpi]; simp; omega
      · rw [bump_ne pc ej]
  cases h1 : addedAt (f1 s0 reqs i) (pc i) with
  | true =>
    have h2 := addedAt_mono _ _ h1
    rw [h2]
    refine hI.of_idle rfl (fun j => ?_) hlocs hlen5
    by_cases ej : j = i
    · subst ej; rw [hpi, h1, h2]
    · exact hoth j ej
  | false =>
    cases h2 : addedAt (f1 s0 reqs i) (pc i + 1) with
    | false =>
      refine hI.of_idle rfl (fun j => ?_) hlocs hlen5
      by_cases ej : j = i
      · subst ej; rw [hpi, h1, h2]
      · exact hoth j ej
    | true => exact hI.of_add hroom i hi rfl h1 (by rw [hpi]; exact h2) hoth hlocs hlen5

end next

theorem inv_after (hroom : RoomForAll s0 reqs) (hl : ∀ j, j < reqs.length → s0.loc j = {})
    {w : List Cmd} (hi : Interleaving (progs reqs) w) :
    ∃ pc, (∀ j, j < reqs.length → 5 ≤ pc j) ∧ Inv s0 reqs pc (exec step s0 w) := by
  obtain ⟨pc, hpc, hI⟩ := Conc.inv_interleaving step (progs reqs) (Inv s0 reqs) (by
    intro pc s i p a hI hp hget
    rw [progs, progsFrom_getElem?, Option.map_eq_some_iff] at hp
    obtain ⟨r, hr, rfl⟩ := hp
    rw [Nat.zero_add, insertProg_getElem?] at hget
    split at hget
    · next hk =>
      cases hget
      rw [← req_of_getElem? reqs hr]
      exact inv_step hroom hI i (List.getElem?_eq_some_iff.1 hr).1 hk
    · cases hget) hi (inv_init s0 reqs hl)
  refine ⟨pc, fun j hj => ?_, hI⟩
  exact hpc j (insertProg (0 + j) (req reqs j))
    (by rw [progs, progsFrom_getElem?, getElem?_req reqs hj]; rfl)


theorem tj_free (hr : HasRoom s0 reqs) (i : Nat) (hi : i < reqs.length) :
    (s0.bucket (tj s0 reqs i)).isFree = true := by
  unfold tj
  cases hf : f1 s0 reqs i with
  | true => simpa [f1] using hf
  | false =>
    rcases hr i hi with h | h
    · rw [f1] at hf; rw [hf] at h; cases h
    · simpa using h

theorem tj_mem (i : Nat) : tj s0 reqs i = (req reqs i).2.1 ∨ tj s0 reqs i = (req reqs i).2.2 :=
  tgt_mem s0 (req reqs i)

/-- every bucket is targeted by at most one client -/
theorem roomForAll_of_disjoint (hd : Disjoint reqs) (hr : HasRoom s0 reqs) : RoomForAll s0 reqs := by
  intro i hi
  have hone : cnt (fun j => tj s0 reqs j == tj s0 reqs i) reqs.length = 1 := by
    have := cnt_update (fun _ => false) (fun j => tj s0 reqs j == tj s0 reqs i) reqs.length i
      (by
        intro j hj hne
        obtain ⟨a, b, c, d⟩ := hd j i _ _ hne (getElem?_req reqs hj) (getElem?_req reqs hi)
        have : tj s0 reqs j ≠ tj s0 reqs i := by
          rcases tj_mem (s0 := s0) (reqs := reqs) j with e | e <;>
            rcases tj_mem (s0 := s0) (reqs := reqs) i with e' | e' <;> rw [e, e'] <;> assumption
        simpa using this)
      hi rfl (by simp)
    rw [this, cnt_false _ _ (fun _ _ => rfl)]
  have hfree := tj_free hr i hi
  rw [hone]
  simp only [BucketRedis.isFree, decide_eq_true_eq] at hfree
  omega

end shared

end C16CuckooN

namespace TopK
open Redis (ZWf)


theorem zLt_irrefl (a : HElem) : zLt a a = false := by
  simp [zLt, String.lt_irrefl]

theorem zLt_asymm (a b : HElem) (h : zLt a b = true) : zLt b a = false := by
  cases h' : zLt b a with
  | false => rfl
  | true =>
    have := TopK.zLt_trans a b a h h'
    rw [zLt_irrefl] at this; cases this

theorem zsorted_ext (l1 l2 : List HElem) (h1 : ZSorted l1) (h2 : ZSorted l2)
    (h : ∀ e, e ∈ l1 ↔ e ∈ l2) : l1 = l2 := by
  have hne : ∀ {a b : HElem}, zLt a b = true → a ≠ b := fun hab e => by
    rw [e, zLt_irrefl] at hab; cases hab
  -- strictly sorted lists have no duplicates, so equal members make them permutations
  refine List.Perm.eq_of_pairwise (fun a b _ _ hab hba => ?_) h1 h2
    ((List.perm_ext_iff_of_nodup (h1.imp hne) (h2.imp hne)).2 h)
  rw [zLt_asymm a b hab] at hba; cases hba

theorem mem_zadd (z : List HElem) (x : String) (f : Nat) (e : HElem) :
    e ∈ zadd z x f ↔ e = (x, f) ∨ (e ∈ z ∧ e.1 ≠ x) := by
  rw [(TopK.zadd_perm z x f).mem_iff, TopK.mem_upsert]
  exact Or.comm

theorem mem_zrem (z : List HElem) (x : String) (e : HElem) :
    e ∈ z.filter (fun e => e.1 != x) ↔ e ∈ z ∧ e.1 ≠ x := by
  simp [List.mem_filter]

theorem length_zadd (z : List HElem) (x : String) (f : Nat) :
    (zadd z x f).length = (z.filter (fun e => e.1 != x)).length + 1 := by
  unfold zadd
  rw [(TopK.insertSorted_perm zLt (x, f) _).length_eq]; rfl

theorem length_filter_lt (z : List HElem) (x : String) (v : Nat) (h : (x, v) ∈ z) :
    (z.filter (fun e => e.1 != x)).length + 1 ≤ z.length := by
  induction z with
  | nil => cases h
  | cons a t ih =>
    rw [List.filter_cons]
    rcases List.mem_cons.1 h with e | e
    · subst e
      simp only [bne_self_eq_false, Bool.false_eq_true, if_false, List.length_cons]
      have := List.length_filter_le (fun e : HElem => e.1 != x) t
      omega
    · have := ih e
      split <;> simp only [List.length_cons] <;> omega

theorem mem_unique (z : List HElem) (h : ZWf z) (x : String) (v w : Nat) (h1 : (x, v) ∈ z)
    (h2 : (x, w) ∈ z) : v = w := by
  have e1 := (Redis.zscore_eq_some_iff z x v h).2 h1
  have e2 := (Redis.zscore_eq_some_iff z x w h).2 h2
  rw [e1] at e2
  exact Option.some.inj e2

/-- the guard `f ≥ minimum score` holds as soon as SOME member has a score `≤ f` -/
theorem head_le_of_mem (z : List HElem) (h : ZSorted z) (e : HElem) (he : e ∈ z) (f : Nat)
    (hf : e.2 ≤ f) : (match z.head? with | some mn => decide (f ≥ mn.2) | none => false) = true := by
  cases z with
  | nil => cases he
  | cons m t =>
    have := TopK.zsorted_head_min m t h e he
    simp only [List.head?_cons, decide_eq_true_eq]
    omega

end TopK

/-! one writer (client `false` of `C16TopK`) and any number of readers -/
namespace C16TopKR
open C16TopK (St Cmd step insertProg)

/-- a command of the writer, or the `ZRANGE heap 0 -1 WITHSCORES` of reader `c`'s `Values()` -/
inductive RCmd where
  | w (a : Cmd)
  | read (c : Nat)
  deriving Repr, DecidableEq

/-- the shared store with the writer's locals, and what the readers' `ZRANGE`s returned, in order -/
structure RSt where
  st : St
  obs : List (Nat × List HElem) := []
  deriving Repr, DecidableEq

def rstep (k : Nat) (s : RSt) : RCmd → RSt
  | .w a => { s with st := step k s.st a }
  | .read c => { s with obs := s.obs ++ [(c, s.st.z)] }

def getW : RCmd → Option Cmd
  | .w a => some a
  | .read _ => none

def writerCmds (ins : List HElem) : List Cmd := ins.flatMap (fun e => insertProg false e.1 e.2)
def writerProg (ins : List HElem) : List RCmd := (writerCmds ins).map .w

theorem filterMap_writerProg (ins : List HElem) : (writerProg ins).filterMap getW = writerCmds ins := by
  unfold writerProg
  rw [List.filterMap_map]
  have : (getW ∘ RCmd.w) = some := rfl
  rw [this, List.filterMap_some]

theorem interleaving_filterMap {t0 : List RCmd} {rest : List (List RCmd)} {w : List RCmd}
    (hi : Interleaving (t0 :: rest) w) (hr : ∀ t ∈ rest, ∀ a ∈ t, getW a = none) :
    w.filterMap getW = t0.filterMap getW := by
  generalize hts : t0 :: rest = ts at hi
  induction hi generalizing t0 rest with
  | done ts he =>
    subst hts
    rw [he t0 List.mem_cons_self]
  | step ts i a t w hg _ ih =>
    subst hts
    cases i with
    | zero =>
      cases hg
      simp only [List.filterMap_cons, ih hr rfl]
    | succ j =>
      have hat : a :: t ∈ rest := List.mem_of_getElem? hg
      rw [List.filterMap_cons, hr _ hat a List.mem_cons_self]
      refine ih (rest := rest.set j t) (fun t' ht' b hb => ?_) rfl
      rcases List.mem_or_eq_of_mem_set ht' with h | rfl
      · exact hr t' h b hb
      · exact hr _ hat b (List.mem_cons_of_mem _ hb)

theorem exec_rstep (k : Nat) (w : List RCmd) (s : RSt) :
    (exec (rstep k) s w).st = exec (step k) s.st (w.filterMap getW) ∧
    ∃ new, (exec (rstep k) s w).obs = s.obs ++ new ∧
      ∀ o ∈ new, ∃ p q, p ++ q = w.filterMap getW ∧ o.2 = (exec (step k) s.st p).z := by
  induction w generalizing s with
  | nil => exact ⟨rfl, [], by simp [exec], by simp⟩
  | cons a w ih =>
    cases a with
    | w a =>
      obtain ⟨h1, new, h2, h3⟩ := ih (rstep k s (.w a))
      refine ⟨h1, new, h2, ?_⟩
      intro o ho
      obtain ⟨p, q, hpq, hz⟩ := h3 o ho
      exact ⟨a :: p, q, by simp [getW, hpq], hz⟩
    | read c =>
      obtain ⟨h1, new, h2, h3⟩ := ih (rstep k s (.read c))
      refine ⟨h1, (c, s.st.z) :: new, ?_, ?_⟩
      · show (exec (rstep k) (rstep k s (.read c)) w).obs = _
        rw [h2]; simp [rstep]
      · intro o ho
        rcases List.mem_cons.1 ho with rfl | ho
        · exact ⟨[], w.filterMap getW, by simp [List.filterMap_cons, getW], rfl⟩
        · obtain ⟨p, q, hpq, hz⟩ := h3 o ho
          exact ⟨p, q, by simpa [List.filterMap_cons, getW] using hpq, hz⟩

/-- the guard of `TopKRedis.Insert` as the writer evaluates it on the sorted set `z` -/
def goOf (k : Nat) (z : List HElem) (f : Nat) : Bool :=
  decide (z.length < k) || (match z.head? with | some mn => decide (f ≥ mn.2) | none => false)

/-- `ZSCORE` as the Go code reads it (0 for a missing member) -/
def scoreOf (z : List HElem) (x : String) : Nat :=
  match z.find? (fun e => e.1 == x) with | some e => e.2 | none => 0

/-- the sorted set after the first `n` of the seven commands of `Insert x` with estimate `f`,
    started on the sorted set `z`:  ZCARD, ZRANGE 0 0, ZSCORE leave it alone; after ZREM the
    member `x` is GONE (if it had a positive score); after ZADD and the second ZCARD it is back
    with the new score — possibly as entry number `k + 1`; after ZPOPMIN the set is
    `offerRedis k z x f`. -/
def zAfter (k : Nat) (z : List HElem) (x : String) (f : Nat) (n : Nat) : List HElem :=
  if goOf k z f then
    (if n ≤ 3 then z
     else if n = 4 then (if scoreOf z x > 0 then z.filter (fun e => e.1 != x) else z)
     else if n ≤ 6 then TopK.zadd z x f
     else TopK.offerRedis k z x f)
  else z

theorem offerRedis_go (k : Nat) (z : List HElem) (x : String) (f : Nat) :
    TopK.offerRedis k z x f =
      if goOf k z f then (if (TopK.zadd z x f).length > k then (TopK.zadd z x f).tail else TopK.zadd z x f)
      else z := rfl

theorem zAfter_of_le (k : Nat) (z : List HElem) (x : String) (f : Nat) {n : Nat} (h : n ≤ 3) :
    zAfter k z x f n = z := by
  unfold zAfter
  rw [if_pos h, ite_self]

theorem exec_take (k : Nat) (s : St) (x : String) (f : Nat) (n : Nat) :
    (exec (step k) s ((insertProg false x f).take n)).z = zAfter k s.z x f n := by
  rcases n with _ | _ | _ | n
  · exact (zAfter_of_le k s.z x f (by decide)).symm
  · exact (zAfter_of_le k s.z x f (by decide)).symm
  · exact (zAfter_of_le k s.z x f (by decide)).symm
  · -- ZCARD and ZRANGE 0 0 leave the set alone and evaluate the guard into `go`
    show (exec (step k) (exec (step k) s [.zcard false, .zrange false f])
      ((C16TopK.restProg x f).take (n + 1))).z = _
    have hz : (exec (step k) s [.zcard false, .zrange false f]).z = s.z := rfl
    have hg : (exec (step k) s [.zcard false, .zrange false f]).la.go = goOf k s.z f := rfl
    rw [zAfter, offerRedis_go, ← hg, ← hz]
    generalize exec (step k) s [.zcard false, .zrange false f] = s2
    cases hgo : s2.la.go
    · rw [C16TopK.rest_false k s2 x f hgo]; rfl
    · show (exec (step k) (step k s2 (.zscore false x)) ((C16TopK.restProg x f).tail.take n)).z = _
      rw [C16TopK.step_zscore k s2 x hgo]
      refine (C16TopK.rest4_true k _ x f ?_ n).trans ?_
      · exact hgo
      · simp only [if_true]
        rcases n with _ | _ | _ | _ | n <;> rfl

theorem writerCmds_cons (e : HElem) (es : List HElem) :
    writerCmds (e :: es) = insertProg false e.1 e.2 ++ writerCmds es := by
  simp [writerCmds]

theorem writer_seq (k : Nat) (ins : List HElem) (s : St) :
    (exec (step k) s (writerCmds ins)).z = ins.foldl (fun z e => TopK.offerRedis k z e.1 e.2) s.z := by
  induction ins generalizing s with
  | nil => rfl
  | cons e es ih =>
    rw [writerCmds_cons]
    simp only [exec, List.foldl_append, List.foldl_cons]
    have h1 := C16TopK.insertProg_z k s e.1 e.2
    have h2 := ih (exec (step k) s (insertProg false e.1 e.2))
    simp only [exec] at h1 h2
    rw [h2, h1]

def midStates (k : Nat) (z : List HElem) (x : String) (f : Nat) : List (List HElem) :=
  (List.range 8).map (zAfter k z x f)

/-- what a reader can observe while the writer runs the inserts `ins` from the sorted set `z` -/
def observable (k : Nat) : List HElem → List HElem → List (List HElem)
  | z, [] => [z]
  | z, e :: es => midStates k z e.1 e.2 ++ observable k (TopK.offerRedis k z e.1 e.2) es

theorem prefix_observable (k : Nat) (ins : List HElem) :
    ∀ (s : St) (p q : List Cmd), p ++ q = writerCmds ins →
      (exec (step k) s p).z ∈ observable k s.z ins := by
  induction ins with
  | nil =>
    intro s p q h
    have : p = [] := by
      have : p ++ q = [] := h
      exact (List.append_eq_nil_iff.1 this).1
    subst this
    simp [observable, exec]
  | cons e es ih =>
    intro s p q h
    rw [writerCmds_cons] at h
    rcases List.append_eq_append_iff.1 h with ⟨a', h1, _⟩ | ⟨c', h1, h2⟩
    · have hp : p = (insertProg false e.1 e.2).take p.length := by rw [h1]; simp
      have hlen : p.length ≤ 7 := by
        have : (insertProg false e.1 e.2).length = 7 := rfl
        rw [h1] at this; simp at this; omega
      rw [hp, exec_take]
      simp only [observable, List.mem_append]
      left
      exact List.mem_map.2 ⟨p.length, List.mem_range.2 (by omega), rfl⟩
    · subst h1
      simp only [observable, List.mem_append]
      right
      have := ih (exec (step k) s (insertProg false e.1 e.2)) c' q h2.symm
      rw [C16TopK.insertProg_z] at this
      simpa [exec, List.foldl_append] using this

theorem length_zadd_le (z : List HElem) (x : String) (f : Nat) : (TopK.zadd z x f).length ≤ z.length + 1 := by
  rw [TopK.length_zadd]
  have := List.length_filter_le (fun e : HElem => e.1 != x) z
  omega

theorem length_ite_le {c : Prop} [Decidable c] {a b : List HElem} {m : Nat} (ha : a.length ≤ m)
    (hb : b.length ≤ m) : (if c then a else b).length ≤ m := by
  split <;> assumption

theorem length_offerRedis_le (k : Nat) (z : List HElem) (x : String) (f : Nat) (h : z.length ≤ k) :
    (TopK.offerRedis k z x f).length ≤ k := by
  have := length_zadd_le z x f
  rw [offerRedis_go]
  refine length_ite_le ?_ h
  split
  · rw [List.length_tail]; omega
  · omega

theorem length_zAfter_le (k : Nat) (z : List HElem) (x : String) (f : Nat) (n : Nat) (h : z.length ≤ k) :
    (zAfter k z x f n).length ≤ k + 1 :=
  have h0 := Nat.le_succ_of_le h
  length_ite_le
    (length_ite_le h0 (length_ite_le
      (length_ite_le (Nat.le_trans (List.length_filter_le _ z) h0) h0)
      (length_ite_le (Nat.le_trans (length_zadd_le z x f) (Nat.succ_le_succ h))
        (Nat.le_succ_of_le (length_offerRedis_le k z x f h)))))
    h0

/-- `k + 1` is attained, see Props/C16Cond.lean -/
theorem observable_length (k : Nat) (ins : List HElem) :
    ∀ (z : List HElem), z.length ≤ k → ∀ o ∈ observable k z ins, o.length ≤ k + 1 := by
  induction ins with
  | nil =>
    intro z h o ho
    simp only [observable, List.mem_singleton] at ho
    subst ho; omega
  | cons e es ih =>
    intro z h o ho
    simp only [observable, List.mem_append] at ho
    rcases ho with ho | ho
    · simp only [midStates, List.mem_map] at ho
      obtain ⟨n, _, rfl⟩ := ho
      exact length_zAfter_le k z e.1 e.2 n h
    · exact ih _ (length_offerRedis_le k z e.1 e.2 h) o ho

end C16TopKR

namespace C16TopK2
open C16TopK (St Cmd Local step insertProg)
open TopK (zLt zadd ZSorted zLt_irrefl zLt_asymm zsorted_ext mem_zadd mem_zrem length_zadd length_filter_lt
  mem_unique head_le_of_mem)
open Redis (ZWf)

/-- a refresh: the member, its score in the initial sorted set, the new estimate -/
structure Ref where
  name : String
  olds : Nat
  news : Nat

/-- where the member of a writer is: still with its old score, removed (between ZREM and ZADD), or
    back with the new score -/
inductive Status where
  | old | gone | new
  deriving DecidableEq

def stat (pc : Nat) (l : Local) : Status :=
  if pc ≤ 3 then .old else if pc = 4 then (if l.score > 0 then .gone else .old) else .new

def entry (r : Ref) : Status → Option HElem
  | .old => some (r.name, r.olds)
  | .gone => none
  | .new => some (r.name, r.news)

def goneN : Status → Nat
  | .gone => 1
  | _ => 0

/-- the `n`-th command of `insertProg c r.name r.news` -/
def cmdAt (c : Bool) (r : Ref) : Nat → Cmd
  | 0 => .zcard c
  | 1 => .zrange c r.news
  | 2 => .zscore c r.name
  | 3 => .zrem c r.name
  | 4 => .zadd c r.name r.news
  | 5 => .zcard2 c
  | _ => .zpopmin c

theorem insertProg_getElem? (c : Bool) (r : Ref) (n : Nat) :
    (insertProg c r.name r.news)[n]? = if n < 7 then some (cmdAt c r n) else none := by
  rcases n with _ | _ | _ | _ | _ | _ | _ | n <;> rfl

theorem loc_setLoc_self (s : St) (c : Bool) (l : Local) : (s.setLoc c l).loc c = l := by
  cases c <;> rfl
theorem loc_setLoc_other (s : St) (c : Bool) (l : Local) : (s.setLoc c l).loc (!c) = s.loc (!c) := by
  cases c <;> rfl
theorem z_setLoc (s : St) (c : Bool) (l : Local) : (s.setLoc c l).z = s.z := by
  cases c <;> rfl
theorem loc_withZ (s : St) (z : List HElem) (c : Bool) : ({ s with z := z } : St).loc c = s.loc c := by
  cases c <;> rfl

theorem eq_or_eq_not (d c : Bool) : d = c ∨ d = !c := by cases d <;> cases c <;> decide

section
variable (k : Nat) (z0 : List HElem) (rf : Bool → Ref)

def restMem (e : HElem) : Prop := e ∈ z0 ∧ e.1 ≠ (rf false).name ∧ e.1 ≠ (rf true).name

/-- the invariant; writer `c` is thread `c.toNat`, `pc c.toNat` = number of commands it has
    executed -/
structure Inv (pc : Nat → Nat) (s : St) : Prop where
  wf : ZWf s.z
  mem : ∀ c e, e ∈ s.z ↔ restMem z0 rf e ∨ entry (rf c) (stat (pc c.toNat) (s.loc c)) = some e ∨
      entry (rf !c) (stat (pc (!c).toNat) (s.loc !c)) = some e
  len : ∀ c, s.z.length + goneN (stat (pc c.toNat) (s.loc c)) +
      goneN (stat (pc (!c).toNat) (s.loc !c)) ≤ k
  go : ∀ c, 2 ≤ pc c.toNat → (s.loc c).go = true
  card2 : ∀ c, 6 ≤ pc c.toNat → (s.loc c).card2 ≤ k

variable {k z0 rf}

/-- writer `c` moves and leaves the other writer's locals alone: it suffices to establish the
    `c`-oriented forms of `mem` and `len`, and `go`, `card2` for `c` -/
theorem Inv.step {pc : Nat → Nat} {s s' : St} (hI : Inv k z0 rf pc s) (c : Bool)
    (ho : s'.loc (!c) = s.loc (!c)) (wf : ZWf s'.z)
    (mem : ∀ e, e ∈ s'.z ↔ restMem z0 rf e ∨ entry (rf c) (stat (pc c.toNat + 1) (s'.loc c)) = some e ∨
      entry (rf !c) (stat (pc (!c).toNat) (s.loc !c)) = some e)
    (len : s'.z.length + goneN (stat (pc c.toNat + 1) (s'.loc c)) +
      goneN (stat (pc (!c).toNat) (s.loc !c)) ≤ k)
    (hgo : 2 ≤ pc c.toNat + 1 → (s'.loc c).go = true)
    (hc2 : 6 ≤ pc c.toNat + 1 → (s'.loc c).card2 ≤ k) :
    Inv k z0 rf (bump pc c.toNat) s' := by
  have hs := bump_self pc c.toNat
  have hn : bump pc c.toNat (!c).toNat = pc (!c).toNat := bump_ne pc (by cases c <;> decide)
  refine ⟨wf, ?_, ?_, ?_, ?_⟩
  · intro d e
    rcases eq_or_eq_not d c with rfl | rfl
    · rw [hs, hn, ho]; exact mem e
    · rw [Bool.not_not, hs, hn, ho, mem e]; exact or_congr_right Or.comm
  · intro d
    rcases eq_or_eq_not d c with rfl | rfl
    · rw [hs, hn, ho]; exact len
    · rw [Bool.not_not, hs, hn, ho]; omega
  · intro d hd
    rcases eq_or_eq_not d c with rfl | rfl
    · rw [hs] at hd; exact hgo hd
    · rw [hn] at hd; rw [ho]; exact hI.go _ hd
  · intro d hd
    rcases eq_or_eq_not d c with rfl | rfl
    · rw [hs] at hd; exact hc2 hd
    · rw [hn] at hd; rw [ho]; exact hI.card2 _ hd

theorem inv_frame {pc : Nat → Nat} {s s' : St} (hI : Inv k z0 rf pc s) (c : Bool)
    (hz : s'.z = s.z) (ho : s'.loc (!c) = s.loc (!c))
    (hs : stat (pc c.toNat + 1) (s'.loc c) = stat (pc c.toNat) (s.loc c))
    (hgo : 2 ≤ pc c.toNat + 1 → (s'.loc c).go = true)
    (hc2 : 6 ≤ pc c.toNat + 1 → (s'.loc c).card2 ≤ k) :
    Inv k z0 rf (bump pc c.toNat) s' :=
  hI.step c ho (by rw [hz]; exact hI.wf) (by rw [hz, hs]; exact hI.mem c)
    (by rw [hz, hs]; exact hI.len c) hgo hc2

theorem entry_name (r : Ref) (st : Status) (e : HElem) (h : entry r st = some e) : e.1 = r.name := by
  cases st <;> simp only [entry] at h
  · cases h; rfl
  · cases h
  · cases h; rfl

structure Hyp (k : Nat) (z0 : List HElem) (rf : Bool → Ref) : Prop where
  wf0 : ZWf z0
  len0 : z0.length ≤ k
  ne : (rf false).name ≠ (rf true).name
  tracked : ∀ c, ((rf c).name, (rf c).olds) ∈ z0
  mono : ∀ c, (rf c).olds ≤ (rf c).news

theorem Hyp.ne_c (H : Hyp k z0 rf) (c : Bool) : (rf c).name ≠ (rf !c).name := by
  cases c
  · exact H.ne
  · exact fun e => H.ne e.symm

theorem restMem_ne (c : Bool) (e : HElem) (h : restMem z0 rf e) : e.1 ≠ (rf c).name := by
  cases c
  · exact h.2.1
  · exact h.2.2

section commands
variable {pc : Nat → Nat} {s : St} (hI : Inv k z0 rf pc s) (c : Bool)
include hI

theorem Inv.mem_old (h : stat (pc c.toNat) (s.loc c) = .old) : ((rf c).name, (rf c).olds) ∈ s.z :=
  (hI.mem c _).2 (Or.inr (Or.inl (by rw [h]; rfl)))

theorem Inv.mem_others (H : Hyp k z0 rf) (e : HElem) :
    e ∈ s.z ∧ e.1 ≠ (rf c).name ↔
      restMem z0 rf e ∨ entry (rf !c) (stat (pc (!c).toNat) (s.loc !c)) = some e := by
  rw [hI.mem c e]
  constructor
  · rintro ⟨h | h | h, hn⟩
    · exact Or.inl h
    · exact absurd (entry_name _ _ _ h) hn
    · exact Or.inr h
  · rintro (h | h)
    · exact ⟨Or.inl h, restMem_ne c e h⟩
    · exact ⟨Or.inr (Or.inr h), by rw [entry_name _ _ _ h]; exact (H.ne_c c).symm⟩

/-- without writer `c`'s own entry the set has room for it, whatever the status of the member -/
theorem Inv.len_without :
    (s.z.filter (fun e => e.1 != (rf c).name)).length + 1 +
      goneN (stat (pc (!c).toNat) (s.loc !c)) ≤ k := by
  have h1 := hI.len c
  have h2 := hI.mem c
  cases hst : stat (pc c.toNat) (s.loc c) <;> rw [hst] at h1 h2
  · have := length_filter_lt s.z _ _ ((h2 _).2 (Or.inr (Or.inl rfl)))
    rw [show goneN .old = 0 from rfl] at h1; omega
  · have := List.length_filter_le (fun e : HElem => e.1 != (rf c).name) s.z
    rw [show goneN .gone = 1 from rfl] at h1; omega
  · have := length_filter_lt s.z _ _ ((h2 _).2 (Or.inr (Or.inl rfl)))
    rw [show goneN .new = 0 from rfl] at h1; omega

theorem inv_zcard (hpc : pc c.toNat = 0) :
    Inv k z0 rf (bump pc c.toNat) (step k s (.zcard c)) := by
  apply inv_frame hI c (z_setLoc _ _ _) (loc_setLoc_other _ _ _)
  · rw [hpc]; rfl
  · intro h; omega
  · intro h; omega

/-- ZRANGE 0 0: the member is still there with a score ≤ the new estimate, so the guard comes out
    true whatever ZCARD saw -/
theorem inv_zrange (H : Hyp k z0 rf) (hpc : pc c.toNat = 1) :
    Inv k z0 rf (bump pc c.toNat) (step k s (.zrange c (rf c).news)) := by
  apply inv_frame hI c (z_setLoc _ _ _) (loc_setLoc_other _ _ _)
  · rw [hpc]; rfl
  · intro _
    rw [loc_setLoc_self]
    exact Bool.or_eq_true_iff.2 (Or.inr
      (head_le_of_mem s.z hI.wf.1 _ (hI.mem_old c (by rw [hpc]; rfl)) _ (H.mono c)))
  · intro h; omega

theorem inv_zscore (hpc : pc c.toNat = 2) :
    Inv k z0 rf (bump pc c.toNat) (step k s (.zscore c (rf c).name)) := by
  have hgo := hI.go c (by omega)
  simp only [step, hgo, if_true]
  apply inv_frame hI c (z_setLoc _ _ _) (loc_setLoc_other _ _ _)
  · rw [hpc]; rfl
  · intro _; rw [loc_setLoc_self]
  · intro h; omega

theorem inv_zrem (H : Hyp k z0 rf) (hpc : pc c.toNat = 3) :
    Inv k z0 rf (bump pc c.toNat) (step k s (.zrem c (rf c).name)) := by
  have hgo := hI.go c (by omega)
  simp only [step, hgo, true_and]
  by_cases hs : (s.loc c).score > 0
  · rw [if_pos hs]
    have hst : stat (pc c.toNat + 1) (s.loc c) = .gone := by simp [stat, hpc, hs]
    apply hI.step c
    · exact loc_withZ _ _ _
    · exact Redis.zrem_wf s.z _ hI.wf
    · intro e
      rw [loc_withZ, hst, mem_zrem, hI.mem_others c H e]
      exact or_congr_right ⟨Or.inr, fun h => h.resolve_left (fun h' => nomatch h')⟩
    · rw [loc_withZ, hst]
      exact hI.len_without c
    · intro _; rw [loc_withZ]; exact hgo
    · intro h; omega
  · rw [if_neg hs]
    apply inv_frame hI c rfl rfl
    · simp [stat, hpc, hs]
    · intro _; exact hgo
    · intro h; omega

/-- the set does not grow beyond what `len` has reserved (`len_without`) -/
theorem inv_zadd (H : Hyp k z0 rf) (hpc : pc c.toNat = 4) :
    Inv k z0 rf (bump pc c.toNat) (step k s (.zadd c (rf c).name (rf c).news)) := by
  have hgo := hI.go c (by omega)
  have hst : stat (pc c.toNat + 1) (s.loc c) = .new := by rw [hpc]; rfl
  simp only [step, hgo, if_true]
  apply hI.step c
  · exact loc_withZ _ _ _
  · exact Redis.zadd_wf s.z _ _ hI.wf
  · intro e
    rw [loc_withZ, hst, mem_zadd, hI.mem_others c H e, or_left_comm]
    exact or_congr_right (or_congr_left ⟨fun h => h ▸ rfl, fun h => (Option.some.inj h).symm⟩)
  · rw [loc_withZ, hst, length_zadd]
    exact hI.len_without c
  · intro _; rw [loc_withZ]; exact hgo
  · intro h; omega

theorem inv_zcard2 (hpc : pc c.toNat = 5) :
    Inv k z0 rf (bump pc c.toNat) (step k s (.zcard2 c)) := by
  have hgo := hI.go c (by omega)
  simp only [step, hgo, if_true]
  apply inv_frame hI c (z_setLoc _ _ _) (loc_setLoc_other _ _ _)
  · rw [hpc]; rfl
  · intro _; rw [loc_setLoc_self]
  · intro _
    rw [loc_setLoc_self]
    have := hI.len c
    show s.z.length ≤ k
    omega

/-- ZPOPMIN never runs: `card2 ≤ k` -/
theorem inv_zpopmin (hpc : pc c.toNat = 6) :
    Inv k z0 rf (bump pc c.toNat) (step k s (.zpopmin c)) := by
  have hgo := hI.go c (by omega)
  have hc2 := hI.card2 c (by omega)
  have : ¬ ((s.loc c).go = true ∧ (s.loc c).card2 > k) := by omega
  simp only [step, this, if_false]
  apply inv_frame hI c rfl rfl
  · rw [hpc]; rfl
  · intro _; exact hgo
  · intro _; exact hc2

theorem inv_step (H : Hyp k z0 rf) (hk : pc c.toNat < 7) :
    Inv k z0 rf (bump pc c.toNat) (step k s (cmdAt c (rf c) (pc c.toNat))) := by
  rcases hpc : pc c.toNat with _ | _ | _ | _ | _ | _ | _ | n
  · exact inv_zcard hI c hpc
  · exact inv_zrange hI c H hpc
  · exact inv_zscore hI c hpc
  · exact inv_zrem hI c H hpc
  · exact inv_zadd hI c H hpc
  · exact inv_zcard2 hI c hpc
  · exact inv_zpopmin hI c hpc
  · omega

end commands

theorem inv_init (H : Hyp k z0 rf) (s : St) (hz : s.z = z0) : Inv k z0 rf (fun _ => 0) s := by
  refine ⟨by rw [hz]; exact H.wf0, ?_, ?_, fun c h => by omega, fun c h => by omega⟩
  · intro c e
    have hst : ∀ d, stat 0 (s.loc d) = .old := fun d => rfl
    rw [hz, hst, hst]
    simp only [entry, Option.some.injEq]
    constructor
    · intro he
      by_cases h1 : e.1 = (rf c).name
      · right; left
        have : e = ((rf c).name, e.2) := by rw [← h1]
        rw [this] at he ⊢
        rw [mem_unique z0 H.wf0 _ _ _ he (H.tracked c)]
      · by_cases h2 : e.1 = (rf !c).name
        · right; right
          have : e = ((rf !c).name, e.2) := by rw [← h2]
          rw [this] at he ⊢
          rw [mem_unique z0 H.wf0 _ _ _ he (H.tracked !c)]
        · left
          refine ⟨he, ?_, ?_⟩ <;> cases c <;> simp_all
    · rintro (h | h | h)
      · exact h.1
      · rw [← h]; exact H.tracked c
      · rw [← h]; exact H.tracked !c
  · intro c
    have hst : ∀ d, stat 0 (s.loc d) = .old := fun d => rfl
    rw [hz, hst, hst]
    simp only [goneN]
    exact H.len0

/-- every interleaving ends with both members at their new scores and everything else untouched;
    canonical sorted sets are determined by their members (`zsorted_ext`) -/
theorem two_refreshers (H : Hyp k z0 rf) (s0 : St) (hz : s0.z = z0) (w : List Cmd)
    (hi : Interleaving [insertProg false (rf false).name (rf false).news,
      insertProg true (rf true).name (rf true).news] w) :
    (exec (step k) s0 w).z
      = zadd (zadd z0 (rf false).name (rf false).news) (rf true).name (rf true).news := by
  obtain ⟨pc', hpc, hI⟩ := Conc.inv_interleaving (step k) _ (Inv k z0 rf) (by
    intro pc s i p a hI hp hget
    obtain ⟨c, rfl, rfl⟩ : ∃ c : Bool, i = c.toNat ∧ p = insertProg c (rf c).name (rf c).news := by
      rcases i with _ | _ | i
      · exact ⟨false, rfl, (Option.some.inj hp).symm⟩
      · exact ⟨true, rfl, (Option.some.inj hp).symm⟩
      · cases hp
    rw [insertProg_getElem?] at hget
    split at hget
    · next hk => cases hget; exact inv_step hI c H hk
    · cases hget) hi (inv_init H s0 hz)
  apply zsorted_ext _ _ hI.wf.1 (Redis.zadd_wf _ _ _ (Redis.zadd_wf _ _ _ H.wf0)).1
  intro e
  have hst : ∀ d : Bool, stat (pc' d.toNat) ((exec (step k) s0 w).loc d) = .new := by
    intro d
    have h7 : 7 ≤ pc' d.toNat := by
      cases d
      · exact hpc 0 _ rfl
      · exact hpc 1 _ rfl
    have a1 : ¬ pc' d.toNat ≤ 3 := by omega
    have a2 : ¬ pc' d.toNat = 4 := by omega
    simp [stat, a1, a2]
  rw [hI.mem false e, hst, hst, mem_zadd, mem_zadd]
  simp only [entry, Option.some.injEq, Bool.not_false]
  constructor
  · rintro (h | h | h)
    · exact Or.inr ⟨Or.inr ⟨h.1, h.2.1⟩, h.2.2⟩
    · right; rw [← h]; exact ⟨Or.inl rfl, H.ne⟩
    · exact Or.inl h.symm
  · rintro (h | ⟨h | h, hn⟩)
    · exact Or.inr (Or.inr h.symm)
    · exact Or.inr (Or.inl h.symm)
    · exact Or.inl ⟨h.1, h.2, hn⟩

end

end C16TopK2

end Gostatix
