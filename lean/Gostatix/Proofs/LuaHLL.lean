/-
  Gostatix.Proofs.LuaHLL — the extracted scripts of hyperloglog_redis.go (`updateList`, `initList`,
  `mergeRegistersScript`, `equals`, `importRegistersScript`), run by the interpreter of Model/Lua.lean and compared
  with the hand models of Model/Redis.lean; the theorems for the outside are in Props/LuaHLL.lean.

  One section per script.  A script is cut at its `for` statement (`execBlock_at`); the pieces are `X_prefix`, `X_for`,
  `X_body` (one round), `X_loop`, `X_suffix`, put together in `X_to_suffix` / `X_to_loop`, and `X_eq` is the run against
  the hand model.  A piece is evaluated by `lua_simp_hll` (`simp only` over the core's equations `lua_eval`); the loops
  are `numForLoop_run` (states known in advance), `numForLoop_scan` (a search) and, for the merge, `merge_loop`.

  Fuel: a piece is stated for `f + c`, `c` enough for its nesting depth (a statement one unit, an expression one per
  level; any larger `c` would do), the whole script for `f + n + c` with `n` the rounds of its loop.
-/
import Gostatix.Proofs.LuaCoreHLL
import Gostatix.Proofs.RedisHLL
namespace Gostatix.LuaHLL
open Gostatix Gostatix.Lua Gostatix.Redis Gostatix.Generated.LuaScripts Gostatix.LuaCMS

/-- a decimal numeral (non-empty string of digits) of value at most 2^53: what the library
    itself writes into register and counter lists, and where gopher-lua's `tonumber` (the
    interpreter) and the hand models' `parseDecimal` agree. -/
def Numeral (c : String) : Prop := ∃ n, parseDecimal c = some n ∧ n ≤ numLimit

theorem Numeral_decimal {n : Nat} (h : n ≤ numLimit) : Numeral (decimal n) :=
  ⟨n, parseDecimal_decimal n, h⟩

/-- the reply of a script that ends in `return true`, or the error it raised. -/
def unitOutcome (r : Option Unit) (msg : String) : Outcome :=
  match r with
  | some _ => .reply (.int 1)
  | none => .error msg

/-! ## `updateList` (hyperloglog_redis.go, `updateRegisters`) -/

section updateList
variable (f : Nat) (st : Store) (key : String) (idx val : Nat)
  (hi : idx ≤ numLimit) (hv : val ≤ numLimit)
include hi hv

theorem updateList_run_error (msg : String)
    (h1 : redisCommand "LINDEX" [key, decimal idx] st = .error msg) :
    run (f + 20) hyperloglog_redis_updateList [key] [decimal idx, decimal val] st = (st, .error msg) := by
  rw [run_eq_finish, hyperloglog_redis_updateList]
  lua_simp_hll [LuaCMS.luaToNumber_decimal hi, LuaCMS.luaToNumber_decimal hv, h1, finish_error]

/-- `LINDEX` answers nil (no key, index out of range): `val > tonumber(false)` raises. -/
theorem updateList_run_nil
    (h1 : redisCommand "LINDEX" [key, decimal idx] st = .ok st .nil) :
    run (f + 20) hyperloglog_redis_updateList [key] [decimal idx, decimal val] st =
      (st, .error "attempt to compare number with nil") := by
  rw [run_eq_finish, hyperloglog_redis_updateList]
  lua_simp_hll [LuaCMS.luaToNumber_decimal hi, LuaCMS.luaToNumber_decimal hv, h1, finish_error]

theorem updateList_run_num (c : String) (old : Nat) (st' : Store)
    (h1 : redisCommand "LINDEX" [key, decimal idx] st = .ok st (.bulk c))
    (h2 : luaToNumber c = .num old)
    (h3 : redisCommand "LSET" [key, decimal idx, if old < val then decimal val else c] st =
      .ok st' (.status "OK")) :
    run (f + 20) hyperloglog_redis_updateList [key] [decimal idx, decimal val] st =
      (st', .reply (.int 1)) := by
  rw [run_eq_finish, hyperloglog_redis_updateList]
  lua_simp_hll [LuaCMS.luaToNumber_decimal hi, LuaCMS.luaToNumber_decimal hv, h1, h2, Int.ofNat_lt]
  by_cases hlt : old < val
  · rw [if_pos hlt] at h3
    lua_simp_hll [h3, hlt, finish_true]
  · rw [if_neg hlt] at h3
    lua_simp_hll [h3, hlt, finish_true]

end updateList

/-- the error `updateList` raises when it fails: `LINDEX` on a key of the wrong type, or the
    comparison with the nil that `LINDEX` answered. -/
def updateListError (st : Store) (key : String) : String :=
  match st key with
  | none | some (.list _) => "attempt to compare number with nil"
  | some _ => msgWrongType

theorem updateList_eq (st : Store) (h : HLLHandle) (idx val f : Nat)
    (hi : idx ≤ numLimit) (hv : val ≤ numLimit)
    (hreg : ∀ l c, st h.key = some (.list l) → l[idx]? = some c → Numeral c) :
    run (f + 20) hyperloglog_redis_updateList [h.key] [decimal idx, decimal val] st =
      ((hllUpdate h idx val st).1,
        unitOutcome (hllUpdate h idx val st).2 (updateListError st h.key)) := by
  have hL := LuaCMS.redisCommand_LINDEX h.key hi st
  cases hk : st h.key with
  | none =>
    rw [hk] at hL
    rw [updateList_run_nil f st h.key idx val hi hv hL]
    simp [hllUpdate, Script.bind, cmdLINDEX, hk, luaNumber, unitOutcome, updateListError]
  | some w =>
    cases w with
    | list l =>
      simp only [hk] at hL
      cases hc : l[idx]? with
      | none =>
        simp only [hc] at hL
        rw [updateList_run_nil f st h.key idx val hi hv hL]
        simp [hllUpdate, Script.bind, cmdLINDEX, hk, hc, luaNumber, unitOutcome, updateListError]
      | some c =>
        simp only [hc] at hL
        obtain ⟨old, ho, hon⟩ := hreg l c hk hc
        have hil : idx < l.length := by
          rcases Nat.lt_or_ge idx l.length with h' | h'
          · exact h'
          · rw [List.getElem?_eq_none h'] at hc; cases hc
        have h2 := LuaCMS.luaToNumber_of_parseDecimal ho hon
        have hS : ∀ v, redisCommand "LSET" [h.key, decimal idx, v] st =
            .ok (st.set h.key (.list (l.set idx v))) (.status "OK") := by
          intro v
          rw [LuaCMS.redisCommand_LSET _ _ hi, hk]; simp only [hil, if_true]
        have hM : hllUpdate h idx val st =
            (st.set h.key (.list (l.set idx (if val > old then decimal val else c))), some ()) := by
          unfold hllUpdate
          rw [Script.bind_ok (cmdLINDEX_list hk idx), hc, Script.bind_ok (luaNumber_some ho st)]
          exact cmdLSET_list hk hil _
        rw [hM, updateList_run_num f st h.key idx val hi hv c old _ hL h2 (hS _)]
        rfl
    | _ =>
      rw [hk] at hL
      rw [updateList_run_error f st h.key idx val hi hv _ hL]
      simp [hllUpdate, Script.bind, cmdLINDEX, hk, unitOutcome, updateListError]

section initList
variable (f : Nat) (st : Store) (key : String) (m : Nat)

/-- the state of `initList` when `j` registers have been put into the table. -/
def initS (st : Store) (key : String) (m j : Nat) : State :=
  { store := st
    heap := [{ arr := [.str key] }, { arr := [.str (decimal m)] }, { arr := List.replicate j (.num 0) }]
    env := [("registers", .table 2), ("size", .str (decimal m)), ("key", .str key)]
    log := [] }

def initBody : List Stmt := forBody (hyperloglog_redis_initList.getD 3 (.unsupported ""))

theorem initList_prefix :
    execBlock (f + 5 + 3) (hyperloglog_redis_initList.take 3) (initState [key] [decimal m] st) =
      .ok none (initS st key m 0) := by
  simp only [hyperloglog_redis_initList, List.take]
  lua_simp_hll [initS, List.replicate_zero]

theorem initList_for (hm : m ≤ numLimit) (he : m % 2 = 0) :
    execStmt (f + 6) (hyperloglog_redis_initList.getD 3 (.unsupported "")) (initS st key m 0) =
      numForLoop (f + 5) "i" 1 ((m / 2 : Nat) : Int) 1 initBody (initS st key m 0) :=
  execStmt_numFor_eval (f := f + 5) (body := initBody) (by lua_simp_hll)
    (by lua_simp_hll [initS, LuaCMS.luaToNumber_decimal hm, binop_div_two m he hm]) rfl

theorem initList_body (j : Nat) (hj : j + 1 < maxArrayIndex) :
    inScope (do declare "i" (.num ((j : Int) + 1)); execBlock (f + 4) initBody) (initS st key m j) =
      .ok none (initS st key m (j + 1)) := by
  simp only [hyperloglog_redis_initList, initBody, forBody, List.getD_cons_succ, List.getD_cons_zero]
  lua_simp_hll [initS, Table.set_nat_append, hj, List.length_replicate, List.replicate_succ']

theorem replicate_zero_no_nil (n : Nat) : ∀ v ∈ (Table.mk (List.replicate n (Value.num 0)) []).arr, v ≠ .nil := by
  intro v hv
  rw [(List.mem_replicate.mp hv).2]
  simp

theorem replicate_zero_len (n : Nat) : Table.len { arr := List.replicate n (Value.num 0) } = n := by
  rw [Table.len_eq_length _ (replicate_zero_no_nil n)]
  exact List.length_replicate

theorem replicate_zero_unpack (n : Nat) :
    unpackValues { arr := List.replicate n (Value.num 0) } = List.replicate n (Value.num 0) :=
  unpackValues_of_no_nil _ (replicate_zero_no_nil n)

theorem cmdArgs_replicate_zero (n : Nat) :
    cmdArgs (List.replicate n (Value.num 0)) = some (List.replicate n (decimal 0)) := by
  have := LuaCMS.cmdArgs_map_num (List.replicate n 0)
  simpa using this

theorem initList_suffix_ok (f : Nat) (st st1 st2 : Store) (key : String) (m n : Nat) (x1 x2 : Int)
    (hn : n ≤ unpackSafe)
    (h1 : redisCommand "LPUSH" (key :: List.replicate n (decimal 0)) st = .ok st1 (.int x1))
    (h2 : redisCommand "LPUSH" (key :: List.replicate n (decimal 0)) st1 = .ok st2 (.int x2)) :
    finish (execBlock (f + 12) (hyperloglog_redis_initList.drop 4) (initS st key m n)) =
      (st2, .reply (.int 1)) := by
  simp only [hyperloglog_redis_initList, List.drop]
  lua_simp_hll [initS, replicate_zero_len, hn, replicate_zero_unpack, cmdArgs_replicate_zero, h1, h2, finish_true]

theorem initList_suffix_error (n : Nat) (msg : String)
    (hn : n ≤ unpackSafe)
    (h1 : redisCommand "LPUSH" (key :: List.replicate n (decimal 0)) st = .error msg) :
    finish (execBlock (f + 12) (hyperloglog_redis_initList.drop 4) (initS st key m n)) =
      (st, .error msg) := by
  simp only [hyperloglog_redis_initList, List.drop]
  lua_simp_hll [initS, replicate_zero_len, hn, replicate_zero_unpack, cmdArgs_replicate_zero, h1, finish_error]

/-- 5120 zeros or more (`m ≥ 10240`): `unpack` overflows gopher-lua's data stack (miniredis); the
    script raises before its first command. -/
theorem initList_suffix_overflow (n : Nat)
    (hn : unpackOverflow ≤ n) :
    finish (execBlock (f + 12) (hyperloglog_redis_initList.drop 4) (initS st key m n)) =
      (st, .error "registry overflow") := by
  simp only [hyperloglog_redis_initList, List.drop]
  lua_simp_hll [initS, replicate_zero_len, hn, not_le_unpackSafe hn, finish_error]

theorem initList_to_suffix (hm : m ≤ numLimit) (he : m % 2 = 0) (hn : m / 2 < maxArrayIndex) :
    execBlock (f + m / 2 + 16) hyperloglog_redis_initList (initState [key] [decimal m] st) =
      execBlock (f + m / 2 + 12) (hyperloglog_redis_initList.drop 4) (initS st key m (m / 2)) := by
  refine (execBlock_at _ 3 (by decide) (f + m / 2 + 13) _ _ (initList_prefix _ st key m)).trans ?_
  refine execBlock_cons_none (f := f + m / 2 + 12) ((initList_for (f + m / 2 + 6) st key m hm he).trans ?_)
  exact numForLoop_run "i" initBody 4 (initS st key m) (m / 2)
    (fun j hj f => initList_body f st key m j (by omega)) _ (by omega)

theorem cmdLPUSH_cases (k : String) (vs : List String) (st : Store) :
    (∃ st1 l, cmdLPUSH k vs st = (st1, some ()) ∧ st1 k = some (.list l)) ∨
    cmdLPUSH k vs st = (st, none) := by
  unfold cmdLPUSH
  by_cases hv : vs = []
  · right; simp [hv]
  · simp only [hv, if_false]
    cases hk : st k with
    | none => left; exact ⟨_, _, rfl, Store.set_self _ _ _⟩
    | some w =>
      cases w with
      | list l => left; exact ⟨_, _, rfl, Store.set_self _ _ _⟩
      | _ => right; rfl

/-- the error `initList` raises when it fails: no register to push (`LPUSH` without values), or
    a key of the wrong type. -/
def initListError (m : Nat) : String :=
  if m / 2 = 0 then msgWrongNumber "lpush" else msgWrongType

theorem initList_eq (st : Store) (h : HLLHandle) (f : Nat)
    (hm : h.m ≤ numLimit) (he : h.m % 2 = 0) (hn : h.m / 2 ≤ unpackSafe) :
    run (f + h.m / 2 + 16) hyperloglog_redis_initList [h.key] [decimal h.m] st =
      ((hllInit h st).1, unitOutcome (hllInit h st).2 (initListError h.m)) := by
  have hn' : h.m / 2 < maxArrayIndex := by
    have : unpackSafe < maxArrayIndex := by decide
    omega
  rw [run_eq_finish, initList_to_suffix f st h.key h.m hm he hn']
  unfold hllInit
  generalize hz : h.m / 2 = n at *
  cases n with
  | zero =>
    rw [initList_suffix_error _ st h.key h.m 0 _ hn (LuaCMS.redisCommand_LPUSH_nil h.key st)]
    simp [Script.bind, cmdLPUSH, unitOutcome, initListError, hz]
  | succ n =>
    rcases cmdLPUSH_cases h.key (List.replicate (n + 1) (decimal 0)) st with ⟨st1, l, h1, hl⟩ | h1
    · rcases cmdLPUSH_cases h.key (List.replicate (n + 1) (decimal 0)) st1 with ⟨st2, l2, h2, _⟩ | h2
      · rw [Script.bind_ok h1, h2]
        have r1 := redisCommand_LPUSH h.key (decimal 0) (List.replicate n (decimal 0)) st
        have r2 := redisCommand_LPUSH h.key (decimal 0) (List.replicate n (decimal 0)) st1
        rw [← List.replicate_succ] at r1 r2
        rw [h1] at r1
        rw [h2] at r2
        rw [initList_suffix_ok _ st st1 st2 h.key h.m (n + 1) _ _ hn r1 r2]
        rfl
      · exfalso
        unfold cmdLPUSH at h2
        simp [hl] at h2
    · rw [Script.bind_err h1]
      have r1 := redisCommand_LPUSH h.key (decimal 0) (List.replicate n (decimal 0)) st
      rw [← List.replicate_succ] at r1
      rw [h1] at r1
      rw [initList_suffix_error _ st h.key h.m (n + 1) _ hn r1]
      simp [unitOutcome, initListError, hz]

theorem initList_overflow (st : Store) (h : HLLHandle) (f : Nat)
    (hm : h.m ≤ numLimit) (he : h.m % 2 = 0) (hn : unpackOverflow ≤ h.m / 2)
    (hmax : h.m / 2 < maxArrayIndex) :
    run (f + h.m / 2 + 16) hyperloglog_redis_initList [h.key] [decimal h.m] st =
      (st, .error "registry overflow") := by
  rw [run_eq_finish, initList_to_suffix f st h.key h.m hm he hmax]
  exact initList_suffix_overflow _ st h.key h.m _ hn

end initList

section twoKeys
variable (f : Nat) (st : Store) (key1 key2 : String) (m : Nat)

/-- the state of `mergeRegistersScript` / `equals` inside the loop: `vals1`, `vals2` are the
    tables `T1`, `T2`. -/
def mergeT (st : Store) (key1 key2 : String) (m : Nat) (T1 T2 : Table) : State :=
  { store := st
    heap := [{ arr := [.str key1, .str key2] }, { arr := [.str (decimal m)] }, T1, T2]
    env := [("vals2", .table 3), ("vals1", .table 2), ("size", .str (decimal m)),
      ("key2", .str key2), ("key1", .str key1)]
    log := [key2, key1] }

def strTable (l : List String) : Table := { arr := l.map .str }

def mergeBody : List Stmt := forBody (hyperloglog_redis_mergeRegistersScript.getD 5 (.unsupported ""))

/-- `LRANGE k 0 -1` succeeds with `l`: the key holds the list `l`, or is absent and `l = []`. -/
def ListAt (st : Store) (k : String) (l : List String) : Prop := cmdLRANGE k st = (st, some l)

/-- `LRANGE k 0 -1` fails: the key holds a value that is not a list. -/
def NotListAt (st : Store) (k : String) : Prop := cmdLRANGE k st = (st, none)

/-- the state after `local x = redis.pcall("LRANGE", k, 0, -1)`, by what `cmdLRANGE` answers: a list becomes
    a new table at the end of the heap, a key of the wrong type gives nil (miniredis). -/
def lrangeLocal (x k : String) (o : Option (List String)) (s : State) : State :=
  { s with
    heap := s.heap ++ (o.map strTable).toList
    env := (x, match o with | some _ => .table s.heap.length | none => .nil) :: s.env
    log := k :: s.log }

theorem execStmt_local_lrange (f : Nat) (x kv k : String) (s : State)
    (hk : envGet s.env kv = some (.str k)) (hr : envGet s.env "redis" = none) :
    execStmt (f + 10) (.localDecl [x] [.call (.field "redis" "pcall")
        [.str "LRANGE", .var kv, .num 0, .unop .neg (.num 1)]]) s =
      .ok none (lrangeLocal x k (cmdLRANGE k s.store).2 s) := by
  lua_simp_hll [hk, hr, redisCommand_LRANGE_cmd, lrangeLocal]
  cases (cmdLRANGE k s.store).2 <;> lua_simp_hll [strTable, Option.toList, List.append_nil]

/-- the five `local`s that `mergeRegistersScript` and `equals` both begin with. -/
def lrangePrefix : List Stmt := hyperloglog_redis_mergeRegistersScript.take 5

def keysS (st : Store) (key1 key2 : String) (m : Nat) : State :=
  { store := st
    heap := [{ arr := [.str key1, .str key2] }, { arr := [.str (decimal m)] }]
    env := [("size", .str (decimal m)), ("key2", .str key2), ("key1", .str key1)]
    log := [] }

/-- the state after all five: `o1`, `o2` are what `LRANGE` answered for the two keys. -/
def lrangeS (st : Store) (key1 key2 : String) (m : Nat) (o1 o2 : Option (List String)) : State :=
  lrangeLocal "vals2" key2 o2 (lrangeLocal "vals1" key1 o1 (keysS st key1 key2 m))

theorem lrange_prefix :
    execBlock (f + 10 + 5) lrangePrefix (initState [key1, key2] [decimal m] st) =
      .ok none (lrangeS st key1 key2 m (cmdLRANGE key1 st).2 (cmdLRANGE key2 st).2) := by
  have h3 : execBlock (f + 10 + 2 + 3) (lrangePrefix.take 3) (initState [key1, key2] [decimal m] st) =
      .ok none (keysS st key1 key2 m) := by
    simp only [lrangePrefix, hyperloglog_redis_mergeRegistersScript, List.take]
    lua_simp_hll [keysS]
  have hs : lrangePrefix = lrangePrefix.take 3 ++ lrangePrefix.drop 3 := (List.take_append_drop 3 _).symm
  rw [hs, execBlock_append' _ _ 3 _ _ _ rfl h3]
  simp only [lrangePrefix, hyperloglog_redis_mergeRegistersScript, List.take, List.drop]
  rw [execBlock_cons_none (execStmt_local_lrange _ "vals1" "key1" key1 _ (by lua_simp_hll [keysS])
      (by lua_simp_hll [keysS])),
    execBlock_cons_none (execStmt_local_lrange _ "vals2" "key2" key2 _ (by lua_simp_hll [lrangeLocal, keysS])
      (by lua_simp_hll [lrangeLocal, keysS]))]
  rfl

theorem merge_prefix (l1 l2 : List String)
    (h1 : ListAt st key1 l1) (h2 : ListAt st key2 l2) :
    execBlock (f + 10 + 5) lrangePrefix (initState [key1, key2] [decimal m] st) =
      .ok none (mergeT st key1 key2 m (strTable l1) (strTable l2)) := by
  rw [lrange_prefix, h1, h2]
  rfl

theorem merge_for (T1 T2 : Table) (hm : m ≤ numLimit) :
    execStmt (f + 6) (hyperloglog_redis_mergeRegistersScript.getD 5 (.unsupported "")) (mergeT st key1 key2 m T1 T2) =
      numForLoop (f + 5) "i" 1 (m : Int) 1 mergeBody (mergeT st key1 key2 m T1 T2) :=
  execStmt_numFor_eval (f := f + 5) (body := mergeBody) (by lua_simp_hll)
    (by lua_simp_hll [mergeT, LuaCMS.luaToNumber_decimal hm]) rfl

/-- what `tonumber` makes of a register: its number, or nil where there is none. -/
def numVal : Option Nat → Value
  | some n => .num n
  | none => .nil

theorem numVal_inj {a b : Option Nat} (h : numVal a = numVal b) : a = b := by
  cases a <;> cases b <;> simp_all [numVal, Int.natCast_inj]

theorem tonumber_get_nil {T : Table} {i : Int} (hg : T.get (.num i) = .nil) (s : State)
    (h : envGet s.env "tonumber" = none) :
    callFn (.global "tonumber") [T.get (.num i)] s = .ok [numVal none] s := by
  rw [hg]
  exact LuaCMS.callFn_tonumber_nil s h

theorem tonumber_get_str {T : Table} {i : Int} {a : String} {x : Nat} (hg : T.get (.num i) = .str a)
    (hx : parseDecimal a = some x) (hxn : x ≤ numLimit) (s : State) (h : envGet s.env "tonumber" = none) :
    callFn (.global "tonumber") [T.get (.num i)] s = .ok [numVal (some x)] s := by
  rw [hg, LuaCMS.callFn_tonumber_str a s h, LuaCMS.luaToNumber_of_parseDecimal hx hxn]
  rfl

def mergeErr : Option Nat → Option Nat → String
  | none, none => "attempt to compare nil with nil"
  | none, some _ => "attempt to compare nil with number"
  | some _, none => "attempt to compare number with nil"
  | some _, some _ => ""

theorem merge_body (T1 T2 : Table) (i : Int)
    (o1 o2 : Option Nat)
    (h1 : ∀ s, envGet s.env "tonumber" = none →
      callFn (.global "tonumber") [T1.get (.num i)] s = .ok [numVal o1] s)
    (h2 : ∀ s, envGet s.env "tonumber" = none →
      callFn (.global "tonumber") [T2.get (.num i)] s = .ok [numVal o2] s) :
    inScope (do declare "i" (.num i); execBlock (f + 8) mergeBody) (mergeT st key1 key2 m T1 T2) =
      match o1, o2 with
      | some x, some y =>
        .ok none (mergeT st key1 key2 m (if x < y then T1.set (.num i) (T2.get (.num i)) else T1) T2)
      | _, _ => .error (mergeErr o1 o2)
        { mergeT st key1 key2 m T1 T2 with env := ("i", .num i) :: (mergeT st key1 key2 m T1 T2).env } := by
  simp only [hyperloglog_redis_mergeRegistersScript, mergeBody, forBody, List.getD_cons_succ, List.getD_cons_zero]
  -- evaluate up to the comparison once, then decide it case by case
  lua_simp_hll [mergeT, h1, h2]
  cases o1 with
  | none => cases o2 <;> lua_simp_hll [numVal, mergeErr]
  | some x =>
    cases o2 with
    | none => lua_simp_hll [numVal, mergeErr]
    | some y => by_cases hlt : x < y <;> lua_simp_hll [numVal, hlt, Int.ofNat_lt]

theorem strTable_get_nil (done : List String) (k : Nat) (hk : done.length = k) (hb : k + 1 < maxArrayIndex) :
    (strTable done).get (.num ((k : Int) + 1)) = .nil := by
  rw [Table.get_nat _ _ hb]
  simp [strTable, List.getD_eq_getElem?_getD, hk]

theorem strTable_get_cons (done : List String) (a : String) (l : List String) (k : Nat)
    (hk : done.length = k) (hb : k + 1 < maxArrayIndex) :
    (strTable (done ++ a :: l)).get (.num ((k : Int) + 1)) = .str a := by
  rw [Table.get_nat _ _ hb]
  simp [strTable, List.getD_eq_getElem?_getD, ← hk]

theorem strTable_set_cons (done : List String) (a b : String) (l : List String) (k : Nat)
    (hk : done.length = k) (hb : k + 1 < maxArrayIndex) :
    (strTable (done ++ a :: l)).set (.num ((k : Int) + 1)) (.str b) = strTable (done ++ b :: l) := by
  rw [Table.set_nat_lt _ _ _ hb (by simp [strTable, ← hk])]
  simp [strTable, ← hk]

theorem hllMergeVals_eq : ∀ (n : Nat) (l1 l2 : List String) (st : Store),
    ∃ r, hllMergeVals n l1 l2 st = (st, r) ∧ ∀ vals, r = some vals → vals.length = l1.length := by
  intro n
  induction n with
  | zero => intro l1 l2 st; exact ⟨some l1, rfl, fun vals h => by cases h; rfl⟩
  | succ n ih =>
    intro l1 l2 st
    rw [hllMergeVals]
    cases l1 with
    | nil => exact ⟨none, rfl, nofun⟩
    | cons a l1 =>
      cases ha : parseDecimal a with
      | none => exact ⟨none, by simp [Script.bind, luaNumber, ha], nofun⟩
      | some x =>
        cases l2 with
        | nil => exact ⟨none, by simp [Script.bind, luaNumber, ha], nofun⟩
        | cons b l2 =>
          cases hb : parseDecimal b with
          | none => exact ⟨none, by simp [Script.bind, luaNumber, ha, hb], nofun⟩
          | some y =>
            obtain ⟨r, hr, hl⟩ := ih l1 l2 st
            cases r with
            | none => exact ⟨none, by simp [Script.bind, luaNumber, ha, hb, hr], nofun⟩
            | some rest =>
              refine ⟨some ((if x < y then b else a) :: rest),
                by simp [Script.bind, luaNumber, ha, hb, hr, Script.pure], fun vals h => ?_⟩
              cases h
              rw [List.length_cons, List.length_cons, hl rest rfl]

theorem hllMergeVals_succ_cons (n : Nat) (a b : String) (l1 l2 : List String) (x y : Nat) (st : Store)
    (ha : parseDecimal a = some x) (hb : parseDecimal b = some y) :
    hllMergeVals (n + 1) (a :: l1) (b :: l2) st =
      (match hllMergeVals n l1 l2 st with
       | (s', some rest) => (s', some ((if x < y then b else a) :: rest))
       | (s', none) => (s', none)) := by
  rw [hllMergeVals]
  simp only [List.head?_cons, List.tail_cons, Script.bind, luaNumber, ha, hb]
  cases hllMergeVals n l1 l2 st with
  | mk s' r => cases r <;> rfl

/-- the error the merge loop raises at the first position where a register is missing:
    `tonumber(nil) < …` / `… < tonumber(nil)`. -/
def mergeErrorMsg : Nat → List String → List String → String
  | 0, _, _ => ""
  | _ + 1, [], [] => "attempt to compare nil with nil"
  | _ + 1, [], _ :: _ => "attempt to compare nil with number"
  | _ + 1, _ :: _, [] => "attempt to compare number with nil"
  | n + 1, _ :: l1, _ :: l2 => mergeErrorMsg n l1 l2

/-- the merge loop, by induction on the number of registers left (as `hllMergeVals` recurses):
    `done`/`pre2` are the parts of the two tables already visited.  The core's loop rules take the state before
    each round, here a table that depends on all comparisons so far, and the error of a round with a missing entry
    (`mergeErrorMsg`) is defined by the same recursion; so the induction follows the model instead. -/
theorem merge_loop (L : Nat) :
    ∀ (n k : Nat) (done pre2 l1 l2 : List String), k + n = L → done.length = k → pre2.length = k →
      k + l1.length + 1 < maxArrayIndex →
      (∀ c ∈ l1.take n, Numeral c) → (∀ c ∈ l2.take n, Numeral c) → ∀ f,
      match (hllMergeVals n l1 l2 st).2 with
      | some vals =>
        numForLoop (f + n + 9) "i" ((k : Int) + 1) (L : Int) 1 mergeBody
            (mergeT st key1 key2 m (strTable (done ++ l1)) (strTable (pre2 ++ l2))) =
          .ok none (mergeT st key1 key2 m (strTable (done ++ vals)) (strTable (pre2 ++ l2)))
      | none =>
        ∃ s', numForLoop (f + n + 9) "i" ((k : Int) + 1) (L : Int) 1 mergeBody
            (mergeT st key1 key2 m (strTable (done ++ l1)) (strTable (pre2 ++ l2))) =
              .error (mergeErrorMsg n l1 l2) s' ∧
          s'.store = st := by
  intro n
  induction n with
  | zero =>
    intro k done pre2 l1 l2 hL hd hp hb h1 h2 f
    exact numForLoop_done _ _ _ _ _ _ _ Int.one_pos (by omega)
  | succ n ih =>
    intro k done pre2 l1 l2 hL hd hp hb h1 h2 f
    have hk1 : k + 1 < maxArrayIndex := by omega
    have hle : ((k : Int) + 1) ≤ (L : Int) := by omega
    have efuel : f + (n + 1) + 9 = (f + n + 9) + 1 := by omega
    have efuel2 : f + n + 9 = (f + n + 1) + 8 := by omega
    -- a round in which an entry is missing ends the loop
    have herr : ∀ o1 o2 T1 T2,
        (∀ s, envGet s.env "tonumber" = none →
          callFn (.global "tonumber") [T1.get (.num ((k : Int) + 1))] s = .ok [numVal o1] s) →
        (∀ s, envGet s.env "tonumber" = none →
          callFn (.global "tonumber") [T2.get (.num ((k : Int) + 1))] s = .ok [numVal o2] s) →
        (o1 = none ∨ o2 = none) →
        ∃ s', numForLoop (f + (n + 1) + 9) "i" ((k : Int) + 1) (L : Int) 1 mergeBody
            (mergeT st key1 key2 m T1 T2) = .error (mergeErr o1 o2) s' ∧ s'.store = st := by
      intro o1 o2 T1 T2 t1 t2 ho
      have hb := merge_body (f + n + 1) st key1 key2 m T1 T2 ((k : Int) + 1) o1 o2 t1 t2
      rw [← efuel2] at hb
      rw [efuel]
      rcases ho with rfl | rfl
      · exact ⟨_, numForLoop_error _ _ _ _ _ _ _ _ _ Int.one_pos hle hb, rfl⟩
      · cases o1 <;> exact ⟨_, numForLoop_error _ _ _ _ _ _ _ _ _ Int.one_pos hle hb, rfl⟩
    cases l1 with
    | nil =>
      have hg1 := strTable_get_nil done k hd hk1
      rw [List.append_nil]
      cases l2 with
      | nil =>
        rw [List.append_nil]
        exact herr none none _ _ (tonumber_get_nil hg1) (tonumber_get_nil (strTable_get_nil pre2 k hp hk1))
          (Or.inl rfl)
      | cons b l2 =>
        obtain ⟨y, hy, hyn⟩ := h2 b (by simp)
        exact herr none (some y) _ _ (tonumber_get_nil hg1)
          (tonumber_get_str (strTable_get_cons pre2 b l2 k hp hk1) hy hyn) (Or.inl rfl)
    | cons a l1 =>
      obtain ⟨x, hx, hxn⟩ := h1 a (by simp)
      have hg1 := strTable_get_cons done a l1 k hd hk1
      cases l2 with
      | nil =>
        have hm : hllMergeVals (n + 1) (a :: l1) [] st = (st, none) := by
          rw [hllMergeVals]
          simp [Script.bind, luaNumber, hx]
        rw [hm, List.append_nil]
        exact herr (some x) none _ _ (tonumber_get_str hg1 hx hxn)
          (tonumber_get_nil (strTable_get_nil pre2 k hp hk1)) (Or.inr rfl)
      | cons b l2 =>
        obtain ⟨y, hy, hyn⟩ := h2 b (by simp)
        have hg2 := strTable_get_cons pre2 b l2 k hp hk1
        have hstep : numForLoop (f + n + 9 + 1) "i" ((k : Int) + 1) (L : Int) 1 mergeBody
              (mergeT st key1 key2 m (strTable (done ++ a :: l1)) (strTable (pre2 ++ b :: l2))) =
            numForLoop (f + n + 9) "i" (((k + 1 : Nat) : Int) + 1) (L : Int) 1 mergeBody
              (mergeT st key1 key2 m (strTable ((done ++ [if x < y then b else a]) ++ l1))
                (strTable ((pre2 ++ [b]) ++ l2))) := by
          have e2 : ((k : Int) + 1 + 1) = ((k + 1 : Nat) : Int) + 1 := by omega
          rw [← e2]
          simp only [List.append_assoc, List.singleton_append]
          apply numForLoop_step _ _ _ _ _ _ _ _ Int.one_pos hle
          rw [efuel2]
          rw [merge_body _ st key1 key2 m _ _ _ (some x) (some y) (tonumber_get_str hg1 hx hxn)
            (tonumber_get_str hg2 hy hyn), hg2]
          dsimp only
          by_cases hlt : x < y
          · rw [if_pos hlt, if_pos hlt, strTable_set_cons done a b l1 k hd hk1]
          · rw [if_neg hlt, if_neg hlt]
        have hih := ih (k + 1) (done ++ [if x < y then b else a]) (pre2 ++ [b]) l1 l2 (by omega)
          (by simp [hd]) (by simp [hp]) (by simp at hb ⊢; omega)
          (fun c hc => h1 c (by simp [hc])) (fun c hc => h2 c (by simp [hc])) f
        rw [efuel, hstep, hllMergeVals_succ_cons n a b l1 l2 x y st hx hy]
        cases hr : hllMergeVals n l1 l2 st with
        | mk s' r =>
          rw [hr] at hih
          cases r with
          | none => exact hih
          | some rest => simpa [List.append_assoc] using hih

theorem strTable_no_nil (l : List String) : ∀ v ∈ (strTable l).arr, v ≠ .nil := by
  intro v hv
  simp only [strTable, List.mem_map] at hv
  obtain ⟨a, _, rfl⟩ := hv
  simp

theorem strTable_len (l : List String) : (strTable l).len = l.length := by
  rw [Table.len_eq_length _ (strTable_no_nil l)]; simp [strTable]

theorem strTable_unpack (l : List String) : unpackValues (strTable l) = l.map .str :=
  unpackValues_of_no_nil _ (strTable_no_nil l)

/-- `DEL`, `RPUSH … unpack(vals1)`, `return true`: both commands are `pcall`ed, so an error of the `RPUSH`
    (no values) is dropped and the answer is `1` either way. -/
theorem merge_suffix (vals : List String) (T2 : Table) (hn : vals.length ≤ unpackSafe) :
    finish (execBlock (f + 12) (hyperloglog_redis_mergeRegistersScript.drop 6)
      (mergeT st key1 key2 m (strTable vals) T2)) =
      match redisCommand "RPUSH" (key1 :: vals) (st.del key1) with
      | .ok st2 _ => (st2, .reply (.int 1))
      | .error _ => (st.del key1, .reply (.int 1))
      | .unsupported why => (st.del key1, .unsupported why) := by
  simp only [hyperloglog_redis_mergeRegistersScript, List.drop]
  lua_simp_hll [mergeT, strTable_len vals, hn, strTable_unpack vals, LuaCMS.cmdArgs_map_str vals,
    LuaCMS.redisCommand_DEL]
  cases redisCommand "RPUSH" (key1 :: vals) (st.del key1) with
  | ok st2 r => cases r <;> lua_simp_hll [finish_true]
  | error msg => lua_simp_hll [finish_true]
  | unsupported why => lua_simp_hll [cmdResult, finish]

/-- more than gopher-lua's data stack holds: `DEL` is done, then `unpack` raises — the registers
    are gone. -/
theorem merge_suffix_overflow (vals : List String) (T2 : Table) (hn : unpackOverflow ≤ vals.length) :
    finish (execBlock (f + 12) (hyperloglog_redis_mergeRegistersScript.drop 6)
      (mergeT st key1 key2 m (strTable vals) T2)) = (st.del key1, .error "registry overflow") := by
  simp only [hyperloglog_redis_mergeRegistersScript, List.drop]
  lua_simp_hll [mergeT, strTable_len vals, hn, not_le_unpackSafe hn, LuaCMS.redisCommand_DEL, finish_error]

theorem try_cmdLRANGE (k : String) (st : Store) :
    Script.try_ (cmdLRANGE k) st = (st, some (cmdLRANGE k st).2) := by
  unfold Script.try_ cmdLRANGE
  cases st k with
  | none => rfl
  | some w => cases w <;> rfl

theorem hllMergeScript_eq (key1 key2 : String) (m : Nat) (st : Store) :
    hllMergeScript key1 key2 m st =
      (hllMergeVals m ((cmdLRANGE key1 st).2.getD []) ((cmdLRANGE key2 st).2.getD []) >>=ₛ fun vals =>
        Script.try_ (cmdDEL key1) >>=ₛ fun _ =>
        Script.try_ (cmdRPUSH key1 vals) >>=ₛ fun _ => Script.pure ()) st := by
  unfold hllMergeScript
  rw [Script.bind_ok (try_cmdLRANGE key1 st), Script.bind_ok (try_cmdLRANGE key2 st)]

theorem merge_to_loop (l1 l2 : List String)
    (hm : m ≤ numLimit) (h1 : ListAt st key1 l1) (h2 : ListAt st key2 l2)
    (hmax : l1.length + 1 < maxArrayIndex)
    (hn1 : ∀ c ∈ l1.take m, Numeral c) (hn2 : ∀ c ∈ l2.take m, Numeral c) :
    (∀ vals, hllMergeVals m l1 l2 st = (st, some vals) →
      execBlock (f + m + 18) hyperloglog_redis_mergeRegistersScript (initState [key1, key2] [decimal m] st) =
        execBlock (f + m + 12) (hyperloglog_redis_mergeRegistersScript.drop 6)
          (mergeT st key1 key2 m (strTable vals) (strTable l2))) ∧
    (hllMergeVals m l1 l2 st = (st, none) →
      run (f + m + 18) hyperloglog_redis_mergeRegistersScript [key1, key2] [decimal m] st =
        (st, .error (mergeErrorMsg m l1 l2))) := by
  have hloop := merge_loop st key1 key2 m m m 0 [] [] l1 l2 (by omega) rfl rfl (by omega) hn1 hn2 (f + 2)
  simp only [List.nil_append, Int.natCast_zero, Int.zero_add] at hloop
  have hfor := merge_for (f + m + 6) st key1 key2 m (strTable l1) (strTable l2) hm
  rw [show f + m + 6 + 5 = (f + 2) + m + 9 by omega] at hfor
  have hat : execBlock (f + m + 18) hyperloglog_redis_mergeRegistersScript
      (initState [key1, key2] [decimal m] st) = _ :=
    execBlock_at _ 5 (by decide) (f + m + 12 + 1) _ _ (merge_prefix _ st key1 key2 m l1 l2 h1 h2)
  rw [run_eq_finish, hat]
  constructor
  · intro vals hv
    rw [hv] at hloop
    exact execBlock_cons_none (f := f + m + 12) (hfor.trans hloop)
  · intro hv
    rw [hv] at hloop
    obtain ⟨s', hx, hst⟩ := hloop
    rw [execBlock_cons_error (f := f + m + 12) (hfor.trans hx), finish_error, hst]

theorem merge_eq (l1 l2 : List String)
    (hm : m ≤ numLimit) (h1 : ListAt st key1 l1) (h2 : ListAt st key2 l2)
    (hlen : l1.length ≤ unpackSafe)
    (hn1 : ∀ c ∈ l1.take m, Numeral c) (hn2 : ∀ c ∈ l2.take m, Numeral c) :
    run (f + m + 18) hyperloglog_redis_mergeRegistersScript [key1, key2] [decimal m] st =
      ((hllMergeScript key1 key2 m st).1,
        unitOutcome (hllMergeScript key1 key2 m st).2 (mergeErrorMsg m l1 l2)) := by
  have hb : l1.length + 1 < maxArrayIndex := by
    have : unpackSafe = 4800 := rfl
    have : maxArrayIndex = 67108864 := rfl
    omega
  have hloop := merge_to_loop f st key1 key2 m l1 l2 hm h1 h2 hb hn1 hn2
  rw [hllMergeScript_eq, h1, h2]
  simp only [Option.getD_some]
  obtain ⟨r, hr, hrl⟩ := hllMergeVals_eq m l1 l2 st
  cases r with
  | none =>
    rw [hloop.2 hr, Script.bind_err hr]
    rfl
  | some vals =>
    rw [run_eq_finish, hloop.1 vals hr, Script.bind_ok hr]
    have hvl : vals.length ≤ unpackSafe := by rw [hrl vals rfl]; exact hlen
    have t3 : Script.try_ (cmdDEL key1) st = (st.del key1, some (some ())) := rfl
    rw [Script.bind_ok t3]
    rw [merge_suffix _ st key1 key2 m vals _ hvl]
    cases vals with
    | nil =>
      rw [LuaCMS.redisCommand_RPUSH_nil]
      rfl
    | cons v vs =>
      rw [redisCommand_RPUSH, cmdRPUSH_none (Store.del_self _ _) (by simp)]
      simp [Script.bind, Script.try_, cmdRPUSH, Store.del_self, Script.pure, unitOutcome]

/-- `Merge` of a HyperLogLog with 5120 registers or more (miniredis): the loop succeeds, `DEL`
    deletes the receiver's registers, `unpack` raises. -/
theorem merge_overflow (l1 l2 vals : List String)
    (hm : m ≤ numLimit) (h1 : ListAt st key1 l1) (h2 : ListAt st key2 l2)
    (hlen : unpackOverflow ≤ l1.length) (hmax : l1.length + 1 < maxArrayIndex)
    (hn1 : ∀ c ∈ l1.take m, Numeral c) (hn2 : ∀ c ∈ l2.take m, Numeral c)
    (hv : hllMergeVals m l1 l2 st = (st, some vals)) :
    run (f + m + 18) hyperloglog_redis_mergeRegistersScript [key1, key2] [decimal m] st =
      (st.del key1, .error "registry overflow") := by
  rw [run_eq_finish, (merge_to_loop f st key1 key2 m l1 l2 hm h1 h2 hmax hn1 hn2).1 vals hv]
  exact merge_suffix_overflow _ st key1 key2 m vals _
    (by
      obtain ⟨r, hr, hrl⟩ := hllMergeVals_eq m l1 l2 st
      rw [hr] at hv
      rw [hrl vals (Prod.mk.inj hv).2]
      exact hlen)

/-! ## `equals` (hyperloglog_redis.go, `compareRegisters`) -/

def equalsBody : List Stmt := forBody (hyperloglog_redis_equals.getD 5 (.unsupported ""))

theorem equals_for (T1 T2 : Table) (hm : m ≤ numLimit) :
    execStmt (f + 6) (hyperloglog_redis_equals.getD 5 (.unsupported "")) (mergeT st key1 key2 m T1 T2) =
      numForLoop (f + 5) "i" 1 (m : Int) 1 equalsBody (mergeT st key1 key2 m T1 T2) :=
  execStmt_numFor_eval (f := f + 5) (body := equalsBody) (by lua_simp_hll)
    (by lua_simp_hll [mergeT, LuaCMS.luaToNumber_decimal hm]) rfl

/-- register `j` (0-based) of a list read back as a number, as the hand model reads it. -/
def regAt (l : List String) (j : Nat) : Option Nat := l[j]?.bind parseDecimal

theorem regAt_zero (l : List String) : regAt l 0 = l.head?.bind parseDecimal := by
  cases l <;> rfl

theorem regAt_succ (l : List String) (j : Nat) : regAt l (j + 1) = regAt l.tail j := by
  cases l <;> simp [regAt]

theorem hllCompareVals_iff : ∀ (n : Nat) (l1 l2 : List String),
    hllCompareVals n l1 l2 = true ↔ ∀ j, j < n → regAt l1 j = regAt l2 j := by
  intro n
  induction n with
  | zero => intro l1 l2; exact ⟨fun _ j hj => absurd hj (Nat.not_lt_zero j), fun _ => rfl⟩
  | succ n ih =>
    intro l1 l2
    rw [hllCompareVals]
    split
    · rename_i hh
      refine ⟨fun h => (by cases h), fun h => absurd ?_ hh⟩
      rw [← regAt_zero, ← regAt_zero]
      exact h 0 (Nat.succ_pos n)
    · rename_i hh
      have h0 : regAt l1 0 = regAt l2 0 := by
        rw [regAt_zero, regAt_zero]; exact Classical.not_not.mp hh
      rw [ih]
      constructor
      · intro h j hj
        cases j with
        | zero => exact h0
        | succ j => rw [regAt_succ, regAt_succ]; exact h j (by omega)
      · intro h j hj
        rw [← regAt_succ, ← regAt_succ]
        exact h (j + 1) (by omega)

theorem strTable_get (l : List String) (j : Nat) (hj : j + 1 < maxArrayIndex) :
    (strTable l).get (.num ((j : Int) + 1)) = (match l[j]? with | some a => .str a | none => .nil) := by
  rw [Table.get_nat _ _ hj]
  simp only [strTable, List.getD_eq_getElem?_getD, List.getElem?_map]
  cases l[j]? <;> rfl

theorem tonumber_strTable (l : List String) (j : Nat) (hj : j + 1 < maxArrayIndex)
    (hn : ∀ a, l[j]? = some a → Numeral a) (s : State) (h : envGet s.env "tonumber" = none) :
    callFn (.global "tonumber") [(strTable l).get (.num ((j : Int) + 1))] s =
      .ok [numVal (regAt l j)] s := by
  have hg := strTable_get l j hj
  unfold regAt
  cases hl : l[j]? with
  | none => rw [hl] at hg; exact tonumber_get_nil hg s h
  | some a =>
    obtain ⟨x, hx, hxn⟩ := hn a hl
    rw [hl] at hg
    rw [Option.bind_some, hx]
    exact tonumber_get_str hg hx hxn s h

theorem equals_body (T1 T2 : Table) (i : Int)
    (n1 n2 : Value)
    (h1 : ∀ s, envGet s.env "tonumber" = none →
      callFn (.global "tonumber") [T1.get (.num i)] s = .ok [n1] s)
    (h2 : ∀ s, envGet s.env "tonumber" = none →
      callFn (.global "tonumber") [T2.get (.num i)] s = .ok [n2] s) :
    inScope (do declare "i" (.num i); execBlock (f + 8) equalsBody) (mergeT st key1 key2 m T1 T2) =
      if n1 = n2 then .ok none (mergeT st key1 key2 m T1 T2)
      else .ok (some [.bool false]) (mergeT st key1 key2 m T1 T2) := by
  simp only [hyperloglog_redis_equals, equalsBody, forBody, List.getD_cons_succ, List.getD_cons_zero]
  lua_simp_hll [mergeT, h1, h2]
  by_cases h : n1 = n2 <;> lua_simp_hll [h]

theorem numeral_of_take {l : List String} {m j : Nat} (h : ∀ c ∈ l.take m, Numeral c) (hj : j < m) :
    ∀ a, l[j]? = some a → Numeral a := by
  intro a ha
  apply h a
  have : (l.take m)[j]? = some a := by rw [List.getElem?_take, if_pos hj, ha]
  exact List.mem_of_getElem? this

theorem equals_loop (hm : m < maxArrayIndex)
    (l1 l2 : List String) (hn1 : ∀ c ∈ l1.take m, Numeral c) (hn2 : ∀ c ∈ l2.take m, Numeral c)
    (F : Nat) (hF : m + 9 ≤ F) :
    numForLoop F "i" 1 (m : Int) 1 equalsBody
        (mergeT st key1 key2 m (strTable l1) (strTable l2)) =
      (if hllCompareVals m l1 l2 then Res.ok none (mergeT st key1 key2 m (strTable l1) (strTable l2))
       else Res.ok (some [.bool false]) (mergeT st key1 key2 m (strTable l1) (strTable l2))) := by
  rw [numForLoop_scan "i" equalsBody 8 _ m (fun j => regAt l1 j = regAt l2 j)
    (.ok (some [.bool false]) (mergeT st key1 key2 m (strTable l1) (strTable l2))) (fun _ h => by cases h)
    (fun j hj f => by
      rw [equals_body f st key1 key2 m _ _ _ _ _
        (tonumber_strTable l1 j (by omega) (numeral_of_take hn1 hj))
        (tonumber_strTable l2 j (by omega) (numeral_of_take hn2 hj))]
      exact ite_congr (propext ⟨numVal_inj, congrArg numVal⟩) (fun _ => rfl) (fun _ => rfl)) F hF]
  exact ite_congr (propext (hllCompareVals_iff m l1 l2).symm) (fun _ => rfl) (fun _ => rfl)

/-- the reply of a script that ends in `return true` / `return false` (Redis turns a Lua `false`
    into the nil reply; go-redis' `.Bool()` reads `1` as true and nil as `redis.Nil`). -/
def boolOutcome : Option Bool → Outcome
  | some true => .reply (.int 1)
  | some false => .reply .nil
  | none => .error ""

theorem hllEquals_of_listAt (h g : HLLHandle) (st : Store) (l1 l2 : List String) (hmm : h.m = g.m)
    (h1 : ListAt st h.key l1) (h2 : ListAt st g.key l2) :
    hllEquals h g st = (st, some (hllCompareVals h.m l1 l2)) := by
  unfold hllEquals
  rw [if_neg (by simp [hmm])]
  rw [Script.bind_ok (try_cmdLRANGE h.key st), Script.bind_ok (try_cmdLRANGE g.key st), h1, h2]
  rfl

theorem equals_eq (l1 l2 : List String)
    (hm : m ≤ numLimit) (hmax : m < maxArrayIndex)
    (h1 : ListAt st key1 l1) (h2 : ListAt st key2 l2)
    (hn1 : ∀ c ∈ l1.take m, Numeral c) (hn2 : ∀ c ∈ l2.take m, Numeral c) :
    run (f + m + 18) hyperloglog_redis_equals [key1, key2] [decimal m] st =
      (st, boolOutcome (some (hllCompareVals m l1 l2))) := by
  have hfor := equals_for (f + m + 6) st key1 key2 m (strTable l1) (strTable l2) hm
  have hat : execBlock (f + m + 18) hyperloglog_redis_equals (initState [key1, key2] [decimal m] st) = _ :=
    execBlock_at _ 5 (by decide) (f + m + 12 + 1) _ _ (merge_prefix _ st key1 key2 m l1 l2 h1 h2)
  rw [run_eq_finish, hat,
    execBlock_cons_ite (f := f + m + 12) (hfor.trans (equals_loop st key1 key2 m hmax l1 l2 hn1 hn2 _ (by omega)))]
  cases hllCompareVals m l1 l2
  · rfl
  · rw [if_pos rfl]
    exact finish_ret_true (f + m + 7) _

/-! ### `mergeRegistersScript` on keys of the wrong type, `size > 0` -/

/-- the state after the five `local`s when a `pcall`ed `LRANGE` failed: `vals1 = v1`, `vals2 = v2`,
    `extra` the reply tables allocated. -/
def mergeG (st : Store) (key1 key2 : String) (m : Nat) (v1 v2 : Value) (extra : List Table) : State :=
  { store := st
    heap := { arr := [.str key1, .str key2] } :: { arr := [.str (decimal m)] } :: extra
    env := [("vals2", v2), ("vals1", v1), ("size", .str (decimal m)),
      ("key2", .str key2), ("key1", .str key1)]
    log := [key2, key1] }

theorem lrangeS_none (o2 : Option (List String)) :
    ∃ v2 extra, lrangeS st key1 key2 m none o2 = mergeG st key1 key2 m .nil v2 extra := by
  cases o2 <;> exact ⟨_, _, rfl⟩

theorem mergeG_for (v1 v2 : Value) (extra : List Table)
    (hm : m ≤ numLimit) :
    execStmt (f + 6) (hyperloglog_redis_mergeRegistersScript.getD 5 (.unsupported ""))
        (mergeG st key1 key2 m v1 v2 extra) =
      numForLoop (f + 5) "i" 1 (m : Int) 1 mergeBody (mergeG st key1 key2 m v1 v2 extra) :=
  execStmt_numFor_eval (f := f + 5) (body := mergeBody) (by lua_simp_hll)
    (by lua_simp_hll [mergeG, LuaCMS.luaToNumber_decimal hm]) rfl

theorem mergeG_body_nil1 (v2 : Value)
    (extra : List Table) (i : Int) :
    ∃ s', inScope (do declare "i" (.num i); execBlock (f + 8) mergeBody) (mergeG st key1 key2 m .nil v2 extra) =
      .error "attempt to index a non-table object(nil)" s' ∧ s'.store = st := by
  simp only [hyperloglog_redis_mergeRegistersScript, mergeBody, forBody, List.getD_cons_succ, List.getD_cons_zero]
  lua_simp_hll [mergeG, Value.typeName]
  exact ⟨_, rfl, rfl⟩

theorem mergeG_body_nil2 (T1 : Table) (i : Int)
    (n1 : Value)
    (h1 : ∀ s, envGet s.env "tonumber" = none →
      callFn (.global "tonumber") [T1.get (.num i)] s = .ok [n1] s) :
    ∃ s', inScope (do declare "i" (.num i); execBlock (f + 8) mergeBody)
        (mergeG st key1 key2 m (.table 2) .nil [T1]) =
      .error "attempt to index a non-table object(nil)" s' ∧ s'.store = st := by
  simp only [hyperloglog_redis_mergeRegistersScript, mergeBody, forBody, List.getD_cons_succ, List.getD_cons_zero]
  lua_simp_hll [mergeG, h1]
  exact ⟨_, rfl, rfl⟩

/-- `size > 0` and one of the keys is not a list: both sides fail in the first iteration without
    writing (the hand model because an error table has no entries, the interpreter because nil
    cannot be indexed). -/
theorem merge_wrongtype (hm : m ≤ numLimit) (hpos : 0 < m)
    (hw : NotListAt st key1 ∨
      (∃ l1, ListAt st key1 l1 ∧ (∀ c ∈ l1.take 1, Numeral c) ∧ NotListAt st key2)) :
    run (f + m + 18) hyperloglog_redis_mergeRegistersScript [key1, key2] [decimal m] st =
        (st, .error "attempt to index a non-table object(nil)") ∧
      hllMergeScript key1 key2 m st = (st, none) := by
  have hle : (1 : Int) ≤ (m : Int) := by omega
  obtain ⟨n, rfl⟩ : ∃ n, m = n + 1 := ⟨m - 1, by omega⟩
  -- the interpreter: from any of the three states the prefix can leave
  have hfin : ∀ (v1 v2 : Value) (extra : List Table),
      (∀ f', ∃ s', inScope (do declare "i" (.num 1); execBlock (f' + 8) mergeBody)
          (mergeG st key1 key2 (n + 1) v1 v2 extra) =
        .error "attempt to index a non-table object(nil)" s' ∧ s'.store = st) →
      finish (execBlock (f + (n + 1) + 12 + 1)
        (hyperloglog_redis_mergeRegistersScript.getD 5 (.unsupported "") ::
          hyperloglog_redis_mergeRegistersScript.drop (5 + 1))
        (mergeG st key1 key2 (n + 1) v1 v2 extra)) =
      (st, .error "attempt to index a non-table object(nil)") := by
    intro v1 v2 extra hbody
    obtain ⟨s', hb, hs'⟩ := hbody (f + (n + 1) + 2)
    rw [execBlock_cons_error (f := f + (n + 1) + 12) ((mergeG_for (f + (n + 1) + 6) st key1 key2 _ _ _ _ hm).trans
        (numForLoop_error (f + (n + 1) + 2 + 8) _ _ _ _ _ _ _ _ Int.one_pos hle hb)), finish_error, hs']
  have hat := execBlock_at hyperloglog_redis_mergeRegistersScript 5 (by decide) (f + (n + 1) + 12 + 1) _ _
    (lrange_prefix _ st key1 key2 (n + 1))
  rw [run_eq_finish, show execBlock (f + (n + 1) + 18) hyperloglog_redis_mergeRegistersScript
    (initState [key1, key2] [decimal (n + 1)] st) = _ from hat]
  rcases hw with h1 | ⟨l1, h1, hn1, h2⟩
  · -- key1 is not a list
    have hmodel : hllMergeScript key1 key2 (n + 1) st = (st, none) := by
      rw [hllMergeScript_eq, h1]
      exact Script.bind_err rfl
    refine ⟨?_, hmodel⟩
    obtain ⟨v2, extra, hS⟩ := lrangeS_none st key1 key2 (n + 1) (cmdLRANGE key2 st).2
    rw [h1, hS]
    exact hfin _ _ _ (fun f' => mergeG_body_nil1 f' st key1 key2 _ _ _ 1)
  · -- key1 is a list of numerals, key2 is not a list
    have hmodel : hllMergeScript key1 key2 (n + 1) st = (st, none) := by
      rw [hllMergeScript_eq, h1, h2]
      refine Script.bind_err ?_
      show hllMergeVals (n + 1) l1 [] st = (st, none)
      rw [hllMergeVals]
      cases l1 with
      | nil => rfl
      | cons a l1 => cases ha : parseDecimal a <;> simp [Script.bind, luaNumber, ha]
    refine ⟨?_, hmodel⟩
    rw [h1, h2]
    apply hfin (.table 2) .nil [strTable l1]
    intro f'
    have h := tonumber_strTable l1 0 (by decide) (numeral_of_take hn1 (by omega))
    simp only [Int.natCast_zero, Int.zero_add] at h
    exact mergeG_body_nil2 f' st key1 key2 _ _ 1 _ h

end twoKeys

/-! ## `importRegistersScript` (hyperloglog_redis.go, `importRegisters`) -/

section importRegisters
variable (f : Nat) (st : Store) (key : String)

def numTable (l : List Nat) : Table := { arr := l.map fun (n : Nat) => Value.num (n : Int) }

/-- the state of `importRegistersScript` in and after its loop: `ARGV` is the table `A`,
    `size = n`, `registers` is the table `R`. -/
def impS (st : Store) (key : String) (A : Table) (n : Nat) (R : Table) : State :=
  { store := st
    heap := [{ arr := [.str key] }, A, R]
    env := [("registers", .table 2), ("size", .num (n : Int)), ("key", .str key)]
    log := [] }

def importBody : List Stmt := forBody (hyperloglog_redis_importRegistersScript.getD 3 (.unsupported ""))

theorem import_prefix (A : Table) (n : Nat) (hlen : A.len = n) :
    execBlock (f + 5 + 3) (hyperloglog_redis_importRegistersScript.take 3)
        { store := st, heap := [{ arr := [.str key] }, A], env := [], log := [] } =
      .ok none (impS st key A n {}) := by
  simp only [hyperloglog_redis_importRegistersScript, List.take]
  lua_simp_hll [impS, hlen]

theorem import_for (A : Table) (n : Nat) (R : Table) :
    execStmt (f + 6) (hyperloglog_redis_importRegistersScript.getD 3 (.unsupported "")) (impS st key A n R) =
      numForLoop (f + 5) "i" 1 (n : Int) 1 importBody (impS st key A n R) :=
  execStmt_numFor_eval (f := f + 5) (body := importBody) (by lua_simp_hll) (by lua_simp_hll [impS]) rfl

theorem import_body (A : Table) (n : Nat) (R R' : Table) (i : Int)
    (a : String) (x : Int)
    (hg : A.get (.num i) = .str a) (ha : luaToNumber a = .num x)
    (hset : R.set (.num i) (.num x) = R') :
    inScope (do declare "i" (.num i); execBlock (f + 8) importBody) (impS st key A n R) =
      .ok none (impS st key A n R') := by
  simp only [hyperloglog_redis_importRegistersScript, importBody, forBody, List.getD_cons_succ, List.getD_cons_zero]
  lua_simp_hll [impS, hg, ha, hset]

theorem numTable_set_append (l : List Nat) (x : Nat) (k : Nat) (hk : l.length = k) (hb : k + 1 < maxArrayIndex) :
    (numTable l).set (.num ((k : Int) + 1)) (.num (x : Int)) = numTable (l ++ [x]) := by
  rw [Table.set_nat_append _ _ _ hb (by simp [numTable, hk])]
  simp [numTable]

theorem numTable_no_nil (l : List Nat) : ∀ v ∈ (numTable l).arr, v ≠ .nil := by
  intro v hv
  simp only [numTable, List.mem_map] at hv
  obtain ⟨a, _, rfl⟩ := hv
  simp

theorem numTable_len (l : List Nat) : (numTable l).len = l.length := by
  rw [Table.len_eq_length _ (numTable_no_nil l)]; simp [numTable]

theorem numTable_unpack (l : List Nat) :
    unpackValues (numTable l) = l.map fun (n : Nat) => Value.num (n : Int) :=
  unpackValues_of_no_nil _ (numTable_no_nil l)

theorem take_succ_of_getElem? {α} (l : List α) (j : Nat) (a : α) (h : l[j]? = some a) :
    l.take (j + 1) = l.take j ++ [a] := by
  rw [List.take_add_one, h]; rfl

theorem import_loop (regs : List Nat)
    (hlen : regs.length < maxArrayIndex) (hr : ∀ r ∈ regs, r ≤ numLimit) (F : Nat) (hF : regs.length + 9 ≤ F) :
    numForLoop F "i" 1 (regs.length : Int) 1 importBody
        (impS st key (strTable (regs.map decimal)) regs.length (numTable [])) =
      .ok none (impS st key (strTable (regs.map decimal)) regs.length (numTable regs)) := by
  have := numForLoop_run "i" importBody 8
    (fun j => impS st key (strTable (regs.map decimal)) regs.length (numTable (regs.take j)))
    regs.length
    (fun j hjn f => by
      have hj : j + 1 < maxArrayIndex := by omega
      have hx : regs[j]? = some regs[j] := List.getElem?_eq_getElem hjn
      have hg : (strTable (regs.map decimal)).get (.num ((j : Int) + 1)) = .str (decimal regs[j]) := by
        rw [strTable_get _ _ hj]; simp [hx]
      have ha := LuaCMS.luaToNumber_decimal (hr regs[j] (List.getElem_mem hjn))
      have hset := numTable_set_append (regs.take j) regs[j] j (by simp; omega) hj
      rw [← take_succ_of_getElem? regs j _ hx] at hset
      exact import_body f st key _ _ _ _ _ _ _ hg ha hset) F hF
  simpa using this

theorem import_suffix (A : Table) (regs : List Nat) (hn : regs.length ≤ unpackSafe) :
    finish (execBlock (f + 12) (hyperloglog_redis_importRegistersScript.drop 4)
      (impS st key A regs.length (numTable regs))) =
      match redisCommand "RPUSH" (key :: regs.map decimal) st with
      | .ok st2 _ => (st2, .reply (.int 1))
      | .error msg => (st, .error msg)
      | .unsupported why => (st, .unsupported why) := by
  simp only [hyperloglog_redis_importRegistersScript, List.drop]
  lua_simp_hll [impS, numTable_len regs, hn, numTable_unpack regs, LuaCMS.cmdArgs_map_num regs]
  cases redisCommand "RPUSH" (key :: regs.map decimal) st with
  | ok st2 r => cases r <;> lua_simp_hll [finish_true]
  | error msg => lua_simp_hll [finish_error]
  | unsupported why => lua_simp_hll [cmdResult, finish]

theorem import_suffix_overflow (A : Table) (regs : List Nat)
    (hn : unpackOverflow ≤ regs.length) :
    finish (execBlock (f + 12) (hyperloglog_redis_importRegistersScript.drop 4)
      (impS st key A regs.length (numTable regs))) = (st, .error "registry overflow") := by
  have hlen := numTable_len regs
  simp only [hyperloglog_redis_importRegistersScript, List.drop]
  lua_simp_hll [impS, hlen, hn, not_le_unpackSafe hn, finish_error]

theorem import_to_suffix (regs : List Nat)
    (hlen : regs.length < maxArrayIndex) (hr : ∀ r ∈ regs, r ≤ numLimit) :
    execBlock (f + regs.length + 18) hyperloglog_redis_importRegistersScript
        (initState [key] (regs.map decimal) st) =
      execBlock (f + regs.length + 2 + 12) (hyperloglog_redis_importRegistersScript.drop 4)
        (impS st key (strTable (regs.map decimal)) regs.length (numTable regs)) := by
  have hA : (strTable (regs.map decimal)).len = regs.length := by rw [strTable_len]; simp
  refine (execBlock_at _ 3 (by decide) (f + regs.length + 15) _ _ (import_prefix _ st key _ _ hA)).trans ?_
  refine execBlock_cons_none (f := f + regs.length + 14) ((import_for (f + regs.length + 8) st key _ _ _).trans ?_)
  exact import_loop st key regs hlen hr _ (by omega)

def importError (regs : List Nat) : String :=
  if regs = [] then msgWrongNumber "rpush" else msgWrongType

theorem cmdRPUSH_cases (k : String) (vs : List String) (st : Store) :
    (∃ st1, cmdRPUSH k vs st = (st1, some ())) ∨ cmdRPUSH k vs st = (st, none) := by
  unfold cmdRPUSH
  by_cases hv : vs = []
  · right; simp [hv]
  · simp only [hv, if_false]
    cases hk : st k with
    | none => left; exact ⟨_, rfl⟩
    | some w =>
      cases w with
      | list l => left; exact ⟨_, rfl⟩
      | _ => right; rfl

theorem import_eq (st : Store) (key : String) (regs : List Nat) (f : Nat)
    (hn : regs.length ≤ unpackSafe) (hr : ∀ r ∈ regs, r ≤ numLimit) :
    run (f + regs.length + 18) hyperloglog_redis_importRegistersScript [key] (regs.map decimal) st =
      ((cmdRPUSH key (regs.map decimal) st).1,
        unitOutcome (cmdRPUSH key (regs.map decimal) st).2 (importError regs)) := by
  have hlen : regs.length < maxArrayIndex := by
    have : unpackSafe = 4800 := rfl
    have : maxArrayIndex = 67108864 := rfl
    omega
  rw [run_eq_finish, import_to_suffix f st key regs hlen hr]
  rw [import_suffix (f + regs.length + 2) st key _ regs hn]
  cases regs with
  | nil =>
    rw [List.map_nil, LuaCMS.redisCommand_RPUSH_nil]
    simp [cmdRPUSH, unitOutcome, importError]
  | cons r rs =>
    rw [List.map_cons, redisCommand_RPUSH, ← List.map_cons]
    rcases cmdRPUSH_cases key ((r :: rs).map decimal) st with ⟨st1, h1⟩ | h1
    · rw [h1]
      rfl
    · rw [h1]
      simp [unitOutcome, importError]

theorem import_overflow (st : Store) (key : String) (regs : List Nat) (f : Nat)
    (hn : unpackOverflow ≤ regs.length) (hlen : regs.length < maxArrayIndex) (hr : ∀ r ∈ regs, r ≤ numLimit) :
    run (f + regs.length + 18) hyperloglog_redis_importRegistersScript [key] (regs.map decimal) st =
      (st, .error "registry overflow") := by
  rw [run_eq_finish, import_to_suffix f st key regs hlen hr]
  exact import_suffix_overflow _ st key _ regs hn

end importRegisters

end Gostatix.LuaHLL
