/-
  Helper lemmas for the Count-Min sketch properties (C03, C12), and the definitions their
  statements are about (`run`, `trueCount`, `total`, `PosOK`, `WF`).  The lemmas spell the fold
  `run` out (`List.foldl`); `WF s` is `Shape s.m s.rows s.cols` (`WF.shape`), `PosOK pos rows cols`
  their hypothesis `hpos`.
  Central invariant (`foldl_update_cell`): in a sketch of shape `rows × cols`,
      cell (r,c) after the history `h`  =  cell (r,c) before  +  `weight pos h r c`
  where `weight pos h r c` is the sum of the counts of the entries whose column in row `r` is `c`.
-/
import Gostatix.Model.CMS
import Gostatix.Proofs.Rows
namespace Gostatix.CMS
open Gostatix.Rows

theorem getD_of_lt {α} (l : List α) (i : Nat) (d : α) (h : i < l.length) : l.getD i d = l[i] := by
  rw [List.getD_eq_getElem?_getD, List.getElem?_eq_getElem h, Option.getD_some]

theorem getD_mem {α} (l : List α) (i : Nat) (d : α) (h : i < l.length) : l.getD i d ∈ l := by
  rw [getD_of_lt l i d h]; exact List.getElem_mem h

theorem getD_of_ge {α} (l : List α) (i : Nat) (d : α) (h : l.length ≤ i) : l.getD i d = d := by
  rw [List.getD_eq_getElem?_getD, List.getElem?_eq_none h, Option.getD_none]

theorem getD_replicate' {α} (n i : Nat) (a : α) : (List.replicate n a).getD i a = a := by
  rw [List.getD_eq_getElem?_getD, List.getElem?_replicate]
  split <;> rfl

theorem list_ext_getD {α} (d : α) (l₁ l₂ : List α) (hl : l₁.length = l₂.length)
    (h : ∀ i, i < l₁.length → l₁.getD i d = l₂.getD i d) : l₁ = l₂ :=
  List.ext_getElem hl fun i h1 h2 => by
    rw [← getD_of_lt l₁ i d h1, ← getD_of_lt l₂ i d h2]; exact h i h1

theorem zipWith_add_getD (l₁ l₂ : List Nat) (c : Nat) (hl : l₁.length = l₂.length) :
    (List.zipWith (· + ·) l₁ l₂).getD c 0 = l₁.getD c 0 + l₂.getD c 0 := by
  simp only [List.getD_eq_getElem?_getD, List.getElem?_zipWith]
  by_cases h : c < l₁.length
  · rw [List.getElem?_eq_getElem h, List.getElem?_eq_getElem (hl ▸ h)]; rfl
  · rw [List.getElem?_eq_none (Nat.le_of_not_lt h), List.getElem?_eq_none (hl ▸ Nat.le_of_not_lt h)]
    rfl

abbrev minStep (mn x : Nat) : Nat := if x < mn then x else mn

theorem minInit_eq (l : List Nat) : minInit l = l.min?.getD 0 := by
  cases l with
  | nil => rfl
  | cons a as =>
    show as.foldl minStep a = as.foldl min a
    congr 1
    funext mn x
    simp only [minStep, Nat.min_def]
    split <;> split <;> omega

theorem minInit_nil : minInit [] = 0 := rfl

theorem minInit_mem (l : List Nat) (hne : l ≠ []) : minInit l ∈ l := by
  rw [minInit_eq]
  obtain ⟨a, ha⟩ := Option.isSome_iff_exists.1 (List.isSome_min?_iff.2 hne)
  rw [ha]
  exact List.min?_mem ha

theorem minInit_le (l : List Nat) (v : Nat) (hv : v ∈ l) : minInit l ≤ v := by
  rw [minInit_eq]
  obtain ⟨a, ha⟩ := Option.isSome_iff_exists.1 (List.isSome_min?_iff.2 (List.ne_nil_of_mem hv))
  rw [ha]
  exact (List.min?_eq_some_iff.1 ha).2 v hv

theorem le_minInit (l : List Nat) (k : Nat) (hne : l ≠ []) (h : ∀ v ∈ l, k ≤ v) : k ≤ minInit l :=
  h _ (minInit_mem l hne)

theorem minInit_eq_zero (l : List Nat) (h : ∀ v ∈ l, v = 0) : minInit l = 0 := by
  cases l with
  | nil => rfl
  | cons a as => exact h _ (minInit_mem (a :: as) (List.cons_ne_nil a as))

/-- 0 outside the matrix. -/
def cell (m : List (List Nat)) (r c : Nat) : Nat := (m.getD r []).getD c 0

def Shape (m : List (List Nat)) (rows cols : Nat) : Prop :=
  m.length = rows ∧ ∀ row ∈ m, row.length = cols

theorem Shape.row_length {m : List (List Nat)} {rows cols : Nat} (hs : Shape m rows cols)
    (r : Nat) (hr : r < rows) : (m.getD r []).length = cols :=
  hs.2 _ (getD_mem m r [] (by rw [hs.1]; exact hr))

theorem cell_of_row_ge (m : List (List Nat)) (r c : Nat) (h : m.length ≤ r) : cell m r c = 0 := by
  unfold cell; rw [getD_of_ge m r [] h]; rfl

theorem cell_of_col_ge (m : List (List Nat)) (r c : Nat) (h : (m.getD r []).length ≤ c) :
    cell m r c = 0 := getD_of_ge _ _ _ h

theorem mat_ext (m₁ m₂ : List (List Nat)) (rows cols : Nat)
    (h₁ : Shape m₁ rows cols) (h₂ : Shape m₂ rows cols)
    (h : ∀ r, r < rows → ∀ c, c < cols → cell m₁ r c = cell m₂ r c) : m₁ = m₂ := by
  apply list_ext_getD [] m₁ m₂ (by rw [h₁.1, h₂.1])
  intro r hr
  rw [h₁.1] at hr
  apply list_ext_getD 0 _ _ (by rw [h₁.row_length r hr, h₂.row_length r hr])
  intro c hc
  rw [h₁.row_length r hr] at hc
  exact h r hr c hc

theorem new_shape (rows cols : Nat) : Shape (CMS.new rows cols).m rows cols := by
  refine ⟨by simp [new], ?_⟩
  intro row hrow
  simp only [new, List.mem_replicate] at hrow
  rw [hrow.2]; simp

theorem new_cell (rows cols r c : Nat) : cell (CMS.new rows cols).m r c = 0 := by
  show ((List.replicate rows (List.replicate cols 0)).getD r []).getD c 0 = 0
  rw [List.getD_eq_getElem?_getD (l := List.replicate rows _), List.getElem?_replicate]
  split
  · exact getD_replicate' cols c 0
  · rfl

theorem updRows_length (m : List (List Nat)) (pos : List Nat) (c : Nat) :
    (updRows m pos c).length = m.length := by
  rw [updRows_eq, length_updWith]

theorem updRows_shape (m : List (List Nat)) (pos : List Nat) (c rows cols : Nat)
    (hs : Shape m rows cols) : Shape (updRows m pos c) rows cols :=
  ⟨(updRows_length m pos c).trans hs.1, by
    rw [updRows_eq]; exact row_length_updWith _ m pos cols hs.2⟩

/-- for ANY matrix and position list. -/
theorem updRows_cell_general (m : List (List Nat)) (pos : List Nat) (c r col : Nat) :
    cell (updRows m pos c) r col
      = cell m r col + (if pos[r]? = some col ∧ col < (m.getD r []).length then c else 0) := by
  unfold cell
  rw [updRows_eq, getD_updWith]
  unfold stepAt
  cases pos[r]? with
  | none => rw [if_neg fun h => nomatch h.1]; rfl
  | some p =>
    show (modAt (m.getD r []) p (· + c)).getD col 0 = _
    by_cases e : p = col
    · subst e
      by_cases hp : p < (m.getD r []).length
      · rw [modAt_getD _ p p _ 0 hp, if_pos rfl, if_pos ⟨rfl, hp⟩]
      · rw [modAt_of_ge _ p _ (Nat.le_of_not_lt hp), if_neg fun h => hp h.2]; rfl
    · rw [modAt_getD_ne _ p col _ 0 (Ne.symm e), if_neg fun h => e (Option.some.inj h.1)]; rfl

theorem updRows_cell (m : List (List Nat)) (pos : List Nat) (c r col : Nat)
    (hp : r < pos.length) (hlt : pos.getD r 0 < (m.getD r []).length) :
    cell (updRows m pos c) r col = cell m r col + (if pos.getD r 0 = col then c else 0) := by
  rw [getD_of_lt pos r 0 hp] at hlt ⊢
  rw [updRows_cell_general, List.getElem?_eq_getElem hp]
  by_cases e : pos[r] = col
  · rw [if_pos e, if_pos ⟨congrArg some e, e ▸ hlt⟩]
  · rw [if_neg e, if_neg fun h => e (Option.some.inj h.1)]

section defs
variable {E : Type}

def run (pos : E → List Nat) (s : CMS) (h : List (E × Nat)) : CMS :=
  h.foldl (fun s ec => s.update (pos ec.1) ec.2) s

def trueCount [DecidableEq E] (h : List (E × Nat)) (x : E) : Nat :=
  sumL ((h.filter (·.1 = x)).map (·.2))

def total (h : List (E × Nat)) : Nat := sumL (h.map (·.2))

/-- every element has one column per row, each in range. -/
def PosOK (pos : E → List Nat) (rows cols : Nat) : Prop :=
  ∀ e, (pos e).length = rows ∧ ∀ p ∈ pos e, p < cols

/-- the matrix of `s` really is `s.rows × s.cols` (true of every sketch built by `new`/`update`/
    `merge`, see `C03_wf_new`, `C03_wf_run`). -/
def WF (s : CMS) : Prop := s.m.length = s.rows ∧ ∀ row ∈ s.m, row.length = s.cols

theorem WF.shape {s : CMS} (h : WF s) : Shape s.m s.rows s.cols := h

end defs

section weights
variable {E : Type}

/-- total count sent to cell `(r,col)` by the history `h`. -/
def weight (pos : E → List Nat) (h : List (E × Nat)) (r col : Nat) : Nat :=
  sumL ((h.filter (fun ec => (pos ec.1).getD r 0 = col)).map (·.2))

theorem weight_nil (pos : E → List Nat) (r col : Nat) : weight pos [] r col = 0 := rfl

theorem sumL_filter_cons (q : E × Nat → Bool) (ec : E × Nat) (h : List (E × Nat)) :
    sumL (((ec :: h).filter q).map (·.2))
      = (if q ec then ec.2 else 0) + sumL ((h.filter q).map (·.2)) := by
  rw [List.filter_cons]
  split
  · rfl
  · rw [Nat.zero_add]

theorem weight_cons (pos : E → List Nat) (ec : E × Nat) (h : List (E × Nat)) (r col : Nat) :
    weight pos (ec :: h) r col
      = (if (pos ec.1).getD r 0 = col then ec.2 else 0) + weight pos h r col := by
  rw [weight, sumL_filter_cons]
  simp only [decide_eq_true_eq]
  rfl

theorem trueCount_cons [DecidableEq E] (ec : E × Nat) (h : List (E × Nat)) (x : E) :
    trueCount (ec :: h) x = (if ec.1 = x then ec.2 else 0) + trueCount h x := by
  rw [trueCount, sumL_filter_cons]
  simp only [decide_eq_true_eq]
  rfl

theorem weight_append (pos : E → List Nat) (a b : List (E × Nat)) (r col : Nat) :
    weight pos (a ++ b) r col = weight pos a r col + weight pos b r col := by
  simp [weight, List.filter_append, sumL_append]

/-- a filtered total grows with the filter -/
theorem sumL_filter_mono (q q' : E × Nat → Bool) (himp : ∀ a, q a = true → q' a = true)
    (h : List (E × Nat)) :
    sumL ((h.filter q).map (·.2)) ≤ sumL ((h.filter q').map (·.2)) := by
  induction h with
  | nil => exact Nat.le_refl _
  | cons ec h ih =>
    rw [sumL_filter_cons, sumL_filter_cons]
    by_cases hq : q ec = true
    · rw [if_pos hq, if_pos (himp ec hq)]; exact Nat.add_le_add_left ih _
    · rw [if_neg hq, Nat.zero_add]; exact Nat.le_trans ih (Nat.le_add_left _ _)

theorem weight_le_total (pos : E → List Nat) (h : List (E × Nat)) (r col : Nat) :
    weight pos h r col ≤ sumL (h.map (·.2)) := by
  have := sumL_filter_mono (fun ec => decide ((pos ec.1).getD r 0 = col)) (fun _ => true)
    (fun _ _ => rfl) h
  rwa [List.filter_eq_self.2 fun _ _ => rfl] at this

theorem trueCount_le_weight [DecidableEq E] (pos : E → List Nat) (h : List (E × Nat)) (x : E)
    (r : Nat) :
    sumL ((h.filter (fun ec => ec.1 = x)).map (·.2)) ≤ weight pos h r ((pos x).getD r 0) :=
  sumL_filter_mono _ _ (fun ec he => by rw [decide_eq_true_eq] at he ⊢; rw [he]) h

theorem trueCount_eq_total_of_all [DecidableEq E] (h : List (E × Nat)) (x : E)
    (hall : ∀ ec ∈ h, ec.1 = x) :
    sumL ((h.filter (fun ec => ec.1 = x)).map (·.2)) = sumL (h.map (·.2)) := by
  have : h.filter (fun ec => ec.1 = x) = h := by
    apply List.filter_eq_self.mpr
    intro ec hec; simp [hall ec hec]
  rw [this]

theorem foldl_update_rows (pos : E → List Nat) (s : CMS) (h : List (E × Nat)) :
    (h.foldl (fun (s : CMS) ec => s.update (pos ec.1) ec.2) s).rows = s.rows
    ∧ (h.foldl (fun (s : CMS) ec => s.update (pos ec.1) ec.2) s).cols = s.cols := by
  induction h generalizing s with
  | nil => exact ⟨rfl, rfl⟩
  | cons ec h ih => simp only [List.foldl_cons]; exact ih _

theorem foldl_update_shape (pos : E → List Nat) (rows cols : Nat) (s : CMS)
    (hs : Shape s.m rows cols) (h : List (E × Nat)) :
    Shape (h.foldl (fun (s : CMS) ec => s.update (pos ec.1) ec.2) s).m rows cols := by
  induction h generalizing s with
  | nil => exact hs
  | cons ec h ih =>
    simp only [List.foldl_cons]
    exact ih _ (updRows_shape s.m _ _ rows cols hs)

/-- the central invariant. -/
theorem foldl_update_cell (pos : E → List Nat) (rows cols : Nat)
    (hpos : ∀ e, (pos e).length = rows ∧ ∀ p ∈ pos e, p < cols)
    (s : CMS) (hs : Shape s.m rows cols) (h : List (E × Nat)) (r col : Nat) (hr : r < rows) :
    cell (h.foldl (fun (s : CMS) ec => s.update (pos ec.1) ec.2) s).m r col
      = cell s.m r col + weight pos h r col := by
  induction h generalizing s with
  | nil => simp [weight_nil]
  | cons ec h ih =>
    simp only [List.foldl_cons]
    rw [ih (s.update (pos ec.1) ec.2) (updRows_shape s.m _ _ rows cols hs), weight_cons]
    have hl : r < (pos ec.1).length := by rw [(hpos ec.1).1]; exact hr
    have hc : (pos ec.1).getD r 0 < (s.m.getD r []).length := by
      rw [hs.row_length r hr]
      exact (hpos ec.1).2 _ (getD_mem _ r 0 hl)
    show cell (updRows s.m (pos ec.1) ec.2) r col + _ = _
    rw [updRows_cell s.m (pos ec.1) ec.2 r col hl hc]
    omega

end weights

theorem mem_cells (m : List (List Nat)) (p : List Nat) (v : Nat) :
    v ∈ cells m p ↔ ∃ r, r < m.length ∧ r < p.length ∧ v = cell m r (p.getD r 0) := by
  rw [cells_eq]; exact mem_probe 0 m p v

theorem cells_ne_nil (m : List (List Nat)) (p : List Nat) (hm : 0 < m.length) (hp : 0 < p.length) :
    cells m p ≠ [] := by
  intro h
  have : cell m 0 (p.getD 0 0) ∈ cells m p := (mem_cells m p _).mpr ⟨0, hm, hp, rfl⟩
  rw [h] at this; cases this

theorem cells_eq_nil_of_rows (m : List (List Nat)) (p : List Nat) (h : m.length = 0) :
    cells m p = [] := by
  cases m with
  | nil => cases p <;> rfl
  | cons _ _ => simp at h

theorem le_count (s : CMS) (p : List Nat) (k : Nat) (hm : 0 < s.m.length) (hp : 0 < p.length)
    (h : ∀ r, r < s.m.length → r < p.length → k ≤ cell s.m r (p.getD r 0)) : k ≤ s.count p := by
  apply le_minInit _ _ (cells_ne_nil s.m p hm hp)
  intro v hv
  obtain ⟨r, h1, h2, rfl⟩ := (mem_cells s.m p v).mp hv
  exact h r h1 h2

theorem count_le (s : CMS) (p : List Nat) (k r : Nat) (h1 : r < s.m.length) (h2 : r < p.length)
    (h : cell s.m r (p.getD r 0) ≤ k) : s.count p ≤ k :=
  Nat.le_trans (minInit_le _ _ ((mem_cells s.m p _).mpr ⟨r, h1, h2, rfl⟩)) h

theorem count_attained (s : CMS) (p : List Nat) (hm : 0 < s.m.length) (hp : 0 < p.length) :
    ∃ r, r < s.m.length ∧ r < p.length ∧ s.count p = cell s.m r (p.getD r 0) :=
  (mem_cells s.m p _).mp (minInit_mem _ (cells_ne_nil s.m p hm hp))

theorem count_le_cell (s : CMS) (p : List Nat) (r : Nat) (h1 : r < s.m.length) (h2 : r < p.length) :
    s.count p ≤ cell s.m r (p.getD r 0) := count_le s p _ r h1 h2 (Nat.le_refl _)

theorem count_new (rows cols : Nat) (p : List Nat) : (CMS.new rows cols).count p = 0 := by
  apply minInit_eq_zero
  intro v hv
  obtain ⟨r, _, _, rfl⟩ := (mem_cells _ p v).mp hv
  exact new_cell rows cols r _

section bounds
variable {E : Type}

theorem foldl_count_lower [DecidableEq E] (pos : E → List Nat) (rows cols : Nat) (hrows : 1 ≤ rows)
    (hpos : ∀ e, (pos e).length = rows ∧ ∀ p ∈ pos e, p < cols)
    (s : CMS) (hs : Shape s.m rows cols) (h : List (E × Nat)) (x : E) :
    s.count (pos x) + sumL ((h.filter (fun ec => ec.1 = x)).map (·.2))
      ≤ (h.foldl (fun (s : CMS) ec => s.update (pos ec.1) ec.2) s).count (pos x) := by
  have hs' := foldl_update_shape pos rows cols s hs h
  apply le_count
  · rw [hs'.1]; exact hrows
  · rw [(hpos x).1]; exact hrows
  · intro r hr1 hr2
    rw [hs'.1] at hr1
    rw [foldl_update_cell pos rows cols hpos s hs h r _ hr1]
    have a := count_le_cell s (pos x) r (by rw [hs.1]; exact hr1) hr2
    have b := trueCount_le_weight pos h x r
    omega

theorem foldl_count_upper (pos : E → List Nat) (rows cols : Nat)
    (hpos : ∀ e, (pos e).length = rows ∧ ∀ p ∈ pos e, p < cols)
    (s : CMS) (hs : Shape s.m rows cols) (h : List (E × Nat)) (x : E) :
    (h.foldl (fun (s : CMS) ec => s.update (pos ec.1) ec.2) s).count (pos x)
      ≤ s.count (pos x) + sumL (h.map (·.2)) := by
  have hs' := foldl_update_shape pos rows cols s hs h
  by_cases hrows : 1 ≤ rows
  · obtain ⟨r, h1, h2, h3⟩ := count_attained s (pos x) (by rw [hs.1]; exact hrows)
      (by rw [(hpos x).1]; exact hrows)
    rw [hs.1] at h1
    apply count_le _ _ _ r (by rw [hs'.1]; exact h1) h2
    rw [foldl_update_cell pos rows cols hpos s hs h r _ h1, h3]
    have := weight_le_total pos h r ((pos x).getD r 0)
    omega
  · have : (h.foldl (fun (s : CMS) ec => s.update (pos ec.1) ec.2) s).count (pos x) = 0 := by
      show minInit (cells _ _) = 0
      rw [cells_eq_nil_of_rows _ _ (by rw [hs'.1]; omega)]; rfl
    omega

end bounds

theorem cms_ext (s t : CMS) (hr : s.rows = t.rows) (hc : s.cols = t.cols) (hm : s.m = t.m) :
    s = t := by
  cases s; cases t; simp only at hr hc hm; subst hr hc hm; rfl

theorem merge_ok (a b : CMS) (hr : a.rows = b.rows) (hc : a.cols = b.cols) :
    CMS.merge a b = .ok { a with m := addRows a.m b.m } := by
  simp [merge, hr, hc]

theorem merge_err (a b : CMS) (h : a.rows ≠ b.rows ∨ a.cols ≠ b.cols) :
    CMS.merge a b = .err := by
  unfold merge
  rcases h with h | h
  · simp [h]
  · simp [h]

theorem merge_eq (a b : CMS) :
    CMS.merge a b = if a.rows = b.rows ∧ a.cols = b.cols
      then .ok { a with m := addRows a.m b.m } else .err := by
  by_cases hd : a.rows = b.rows ∧ a.cols = b.cols
  · rw [merge_ok a b hd.1 hd.2, if_pos hd]
  · rw [merge_err a b (Decidable.not_and_iff_not_or_not.1 hd), if_neg hd]

theorem addRows_length (m₁ m₂ : List (List Nat)) : (addRows m₁ m₂).length = m₁.length := by
  rw [addRows_eq, length_zipRows]

theorem addRows_shape (m₁ m₂ : List (List Nat)) (rows cols : Nat)
    (h₁ : Shape m₁ rows cols) (h₂ : Shape m₂ rows cols) : Shape (addRows m₁ m₂) rows cols :=
  ⟨(addRows_length m₁ m₂).trans h₁.1, by
    rw [addRows_eq]; exact row_length_zipRows _ m₁ m₂ cols h₁.2 h₂.2⟩

theorem addRows_cell (m₁ m₂ : List (List Nat)) (rows cols : Nat)
    (h₁ : Shape m₁ rows cols) (h₂ : Shape m₂ rows cols) (r c : Nat) :
    cell (addRows m₁ m₂) r c = cell m₁ r c + cell m₂ r c := by
  unfold cell
  rw [addRows_eq, getD_zipRows]
  unfold zipAt
  by_cases hr : r < rows
  · have h2 : m₂[r]? = some (m₂.getD r []) := by
      rw [List.getD_eq_getElem?_getD, List.getElem?_eq_getElem (h₂.1 ▸ hr)]; rfl
    rw [h2]
    exact zipWith_add_getD _ _ c ((h₁.row_length r hr).trans (h₂.row_length r hr).symm)
  · rw [List.getElem?_eq_none (h₂.1 ▸ Nat.le_of_not_lt hr),
      getD_of_ge m₁ r [] (h₁.1 ▸ Nat.le_of_not_lt hr), getD_of_ge m₂ r [] (h₂.1 ▸ Nat.le_of_not_lt hr)]
    rfl

theorem addRows_comm (m₁ m₂ : List (List Nat)) (rows cols : Nat)
    (h₁ : Shape m₁ rows cols) (h₂ : Shape m₂ rows cols) : addRows m₁ m₂ = addRows m₂ m₁ := by
  apply mat_ext _ _ rows cols (addRows_shape _ _ _ _ h₁ h₂) (addRows_shape _ _ _ _ h₂ h₁)
  intro r _ c _
  rw [addRows_cell _ _ rows cols h₁ h₂, addRows_cell _ _ rows cols h₂ h₁]; omega

theorem addRows_assoc (m₁ m₂ m₃ : List (List Nat)) (rows cols : Nat)
    (h₁ : Shape m₁ rows cols) (h₂ : Shape m₂ rows cols) (h₃ : Shape m₃ rows cols) :
    addRows (addRows m₁ m₂) m₃ = addRows m₁ (addRows m₂ m₃) := by
  have h12 := addRows_shape _ _ _ _ h₁ h₂
  have h23 := addRows_shape _ _ _ _ h₂ h₃
  apply mat_ext _ _ rows cols (addRows_shape _ _ _ _ h12 h₃) (addRows_shape _ _ _ _ h₁ h23)
  intro r _ c _
  rw [addRows_cell _ _ rows cols h12 h₃, addRows_cell _ _ rows cols h₁ h₂,
    addRows_cell _ _ rows cols h₁ h23, addRows_cell _ _ rows cols h₂ h₃]; omega

theorem addRows_foldl {E : Type} (pos : E → List Nat) (rows cols : Nat)
    (hpos : ∀ e, (pos e).length = rows ∧ ∀ p ∈ pos e, p < cols)
    (s₁ s₂ : CMS) (h₁ : Shape s₁.m rows cols) (h₂ : Shape s₂.m rows cols) (a b : List (E × Nat)) :
    addRows (a.foldl (fun (s : CMS) ec => s.update (pos ec.1) ec.2) s₁).m
        (b.foldl (fun (s : CMS) ec => s.update (pos ec.1) ec.2) s₂).m
      = ((a ++ b).foldl (fun (s : CMS) ec => s.update (pos ec.1) ec.2)
          { s₁ with m := addRows s₁.m s₂.m }).m := by
  have ha := foldl_update_shape pos rows cols s₁ h₁ a
  have hb := foldl_update_shape pos rows cols s₂ h₂ b
  have h12 : Shape ({ s₁ with m := addRows s₁.m s₂.m } : CMS).m rows cols :=
    addRows_shape _ _ _ _ h₁ h₂
  apply mat_ext _ _ rows cols (addRows_shape _ _ _ _ ha hb)
    (foldl_update_shape pos rows cols _ h12 (a ++ b))
  intro r hr c _
  rw [addRows_cell _ _ rows cols ha hb, foldl_update_cell pos rows cols hpos s₁ h₁ a r c hr,
    foldl_update_cell pos rows cols hpos s₂ h₂ b r c hr,
    foldl_update_cell pos rows cols hpos _ h12 (a ++ b) r c hr, weight_append]
  show _ = cell (addRows s₁.m s₂.m) r c + _
  rw [addRows_cell _ _ rows cols h₁ h₂]; omega

theorem addRows_new (rows cols : Nat) :
    addRows (CMS.new rows cols).m (CMS.new rows cols).m = (CMS.new rows cols).m := by
  apply mat_ext _ _ rows cols
    (addRows_shape _ _ _ _ (new_shape rows cols) (new_shape rows cols)) (new_shape rows cols)
  intro r _ c _
  rw [addRows_cell _ _ rows cols (new_shape rows cols) (new_shape rows cols), new_cell]

end Gostatix.CMS
