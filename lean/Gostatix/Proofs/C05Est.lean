/-
  Helper lemmas for `Props/C05Est.lean` (HyperLogLog estimate, C05 / D4):
  `harmonic regs = Σ_j 2^(-reg_j)`, the `harmonicMean` accumulator of `Count`, over ℝ.
-/
import Mathlib.Data.Real.Basic
import Mathlib.Algebra.Order.BigOperators.Group.Finset
import Mathlib.Algebra.Order.Field.Power
import Mathlib.Tactic.Linarith
import Mathlib.Tactic.NormNum
import Mathlib.Tactic.Positivity
import Mathlib.Tactic.IntervalCases
import Mathlib.Tactic.FieldSimp
import Mathlib.Order.Interval.Finset.Nat
import Gostatix.Model.HLL
import Gostatix.Proofs.HLL
namespace Gostatix.HLL
open Finset

/-- one summand of `Count`: `math.Pow(2, -float64(reg))` -/
noncomputable def term (r : Nat) : ℝ := (2 : ℝ) ^ (-(r : ℤ))

/-- the accumulator `harmonicMean` of `Count`: `Σ_j 2^(-reg_j)` -/
noncomputable def harmonic (regs : List Nat) : ℝ := (regs.map fun (r : Nat) => (2 : ℝ) ^ (-(r : ℤ))).sum

theorem harmonic_eq_map_term (regs : List Nat) : harmonic regs = (regs.map term).sum := by
  unfold harmonic term; rfl

theorem term_pos (r : Nat) : 0 < term r := zpow_pos (by norm_num) _

theorem term_le_one (r : Nat) : term r ≤ 1 := by
  unfold term
  rw [zpow_neg, zpow_natCast]
  exact inv_le_one_of_one_le₀ (one_le_pow₀ (by norm_num))

@[simp] theorem term_zero : term 0 = 1 := by simp [term]

@[simp] theorem harmonic_nil : harmonic [] = 0 := by simp [harmonic]

@[simp] theorem harmonic_cons (a : Nat) (l : List Nat) :
    harmonic (a :: l) = term a + harmonic l := by simp [harmonic, term]

theorem harmonic_eq_sum_range (regs : List Nat) :
    harmonic regs = ∑ i ∈ range regs.length, term (regs.getD i 0) := by
  induction regs with
  | nil => simp
  | cons a l ih =>
    rw [harmonic_cons, List.length_cons, Finset.sum_range_succ', ih]
    exact add_comm _ _

theorem harmonic_le_length (regs : List Nat) : harmonic regs ≤ regs.length := by
  induction regs with
  | nil => simp
  | cons a l ih =>
    rw [harmonic_cons, List.length_cons]; push_cast
    linarith [term_le_one a]

theorem harmonic_nonneg (regs : List Nat) : 0 ≤ harmonic regs := by
  induction regs with
  | nil => simp
  | cons a l ih => rw [harmonic_cons]; linarith [term_pos a]

theorem harmonic_pos (regs : List Nat) (h : regs ≠ []) : 0 < harmonic regs := by
  cases regs with
  | nil => exact absurd rfl h
  | cons a l => rw [harmonic_cons]; linarith [term_pos a, harmonic_nonneg l]

theorem harmonic_replicate_zero (m : Nat) : harmonic (List.replicate m 0) = m := by
  induction m with
  | zero => simp
  | succ m ih => rw [List.replicate_succ, harmonic_cons, ih]; push_cast; simp [add_comm]

/-- each of the (at least `length - #T`) untouched positions contributes `2^0 = 1` and every
    other position contributes something positive. -/
theorem harmonic_ge_of_untouched (T : Finset Nat) (regs : List Nat)
    (h : ∀ j, j ∉ T → regs.getD j 0 = 0) :
    (regs.length : ℝ) - T.card ≤ harmonic regs := by
  rw [harmonic_eq_sum_range]
  have hcard : regs.length ≤ (range regs.length \ T).card + T.card := by
    have := Finset.le_card_sdiff T (range regs.length)
    rw [Finset.card_range] at this
    omega
  calc (regs.length : ℝ) - T.card ≤ ((range regs.length \ T).card : ℝ) := by
        rw [sub_le_iff_le_add, ← Nat.cast_add]; exact Nat.cast_le.2 hcard
    _ = ∑ i ∈ range regs.length \ T, term (regs.getD i 0) := by
        rw [Finset.sum_congr rfl fun i hi => by rw [h i (Finset.mem_sdiff.mp hi).2, term_zero],
          Finset.sum_const, nsmul_one]
    _ ≤ ∑ i ∈ range regs.length, term (regs.getD i 0) :=
        Finset.sum_le_sum_of_subset_of_nonneg Finset.sdiff_subset fun i _ _ => (term_pos _).le

theorem foldl_upd_length' (regs : List Nat) (h : List (Nat × Nat)) :
    (h.foldl upd regs).length = regs.length :=
  foldl_upd_length id regs h

/-- the hash 1 has rank `64 - p` for `p ≤ 5`: checked precision by precision, and only these
    are needed (`C05_update_can_fail_small`); it holds for every `p ≤ 63`. -/
theorem indexOf_one (p : Nat) (hp : p ≤ 5) : indexOf 1 p = 64 - p := by
  interval_cases p <;> decide

end Gostatix.HLL
