/-
  Gostatix.Proofs.CMSProb — finite counting lemmas behind the Count-Min (ε, δ) guarantee under
  IDEAL hashing (`Props/C15Prob.lean`).  No measure theory: "probability" is a fraction of a
  finite family of functions.  Double counting of the collision mass of one row, Markov for one
  row by counting, and the arithmetic `b·e ≤ W`, `exp(-d) ≤ δ` ⇒ `b^d ≤ δ·W^d` for `d` rows.
-/
import Mathlib.Analysis.SpecialFunctions.Exp
import Gostatix.Proofs.Counting
import Gostatix.Proofs.CMS
namespace Gostatix.CMS
open Finset

section counting
variable {E : Type} [Fintype E] [DecidableEq E]

theorem sumL_filter_eq_sum (p : E → Prop) [DecidablePred p] (h : List (E × Nat)) :
    sumL ((h.filter (fun ec => decide (p ec.1))).map (·.2))
      = ∑ y ∈ univ.filter p, trueCount h y := by
  induction h with
  | nil => exact (Finset.sum_const_zero).symm
  | cons ec h ih =>
    rw [sumL_filter_cons, ih]
    simp only [decide_eq_true_eq, trueCount_cons, Finset.sum_add_distrib, Finset.sum_ite_eq, mem_filter_univ]

theorem total_eq_sum (h : List (E × Nat)) : total h = ∑ y : E, trueCount h y := by
  have := sumL_filter_eq_sum (fun _ : E => True) h
  rwa [Finset.filter_true, decide_true, List.filter_true] at this

/-- collision mass of `x` in a row hashed by `f`: the counts of the OTHER elements that share
    `x`'s column. -/
def rowOver (tc : E → ℕ) (x : E) {w : ℕ} (f : E → Fin w) : ℕ :=
  ∑ y ∈ univ.erase x, if f y = f x then tc y else 0

theorem sum_same_col (tc : E → ℕ) (x : E) {w : ℕ} (f : E → Fin w) :
    ∑ y ∈ univ.filter (fun y => f y = f x), tc y = tc x + rowOver tc x f := by
  rw [Finset.sum_filter, ← Finset.add_sum_erase univ _ (mem_univ x), if_pos rfl, rowOver]

theorem rowOver_le (tc : E → ℕ) (x : E) {w : ℕ} (f : E → Fin w) :
    rowOver tc x f ≤ ∑ y : E, tc y :=
  (Finset.sum_le_sum fun y _ => by split <;> omega).trans
    (Finset.sum_le_sum_of_subset (Finset.erase_subset x univ))

theorem sum_rowOver_mul (tc : E → ℕ) (x : E) (w : ℕ) :
    (∑ f : E → Fin w, rowOver tc x f) * w
      = (∑ y ∈ univ.erase x, tc y) * Fintype.card (E → Fin w) := by
  unfold rowOver
  rw [Finset.sum_comm, Finset.sum_mul, Finset.sum_mul]
  refine Finset.sum_congr rfl fun y hy => ?_
  have h := Counting.card_agree_mul (F := Fin w) x y (Finset.ne_of_mem_erase hy)
  rw [Fintype.card_fin] at h
  rw [← h, ← Finset.sum_filter, Finset.sum_const, smul_eq_mul]
  ring

end counting

section markov
variable {E : Type} [Fintype E] [DecidableEq E]
open Real

/-- Markov by counting, one row: the hash functions whose collision mass exceeds `ε·N` are at most
    a `1/e` fraction of all functions. -/
theorem card_bad_row_mul_exp (tc : E → ℕ) (x : E) (w : ℕ) (ε : ℝ)
    (hw : exp 1 ≤ ε * w) (N : ℕ) (hN : ∑ y : E, tc y = N)
    (B : Finset (E → Fin w)) (hB : ∀ f ∈ B, ε * (N : ℝ) < (rowOver tc x f : ℝ)) :
    (B.card : ℝ) * exp 1 ≤ (Fintype.card (E → Fin w) : ℝ) := by
  rcases B.eq_empty_or_nonempty with rfl | ⟨f₀, hf₀⟩
  · rw [card_empty, Nat.cast_zero, zero_mul]; exact Nat.cast_nonneg _
  generalize hW : Fintype.card (E → Fin w) = W
  -- `N > 0`: some row exceeds `ε·N` by a mass that is at most `N`
  have hNpos : (0 : ℝ) < N := by
    refine Nat.cast_pos.2 (Nat.pos_of_ne_zero fun h0 => ?_)
    have h1 := hB f₀ hf₀
    have h2 := rowOver_le tc x f₀
    rw [hN, h0] at h2
    rw [h0, Nat.le_zero.1 h2, Nat.cast_zero, mul_zero] at h1
    exact lt_irrefl _ h1
  -- the mass over `B` is at most the mass over all functions, which is known exactly
  have hnat : (∑ f ∈ B, rowOver tc x f) * w ≤ N * W :=
    calc (∑ f ∈ B, rowOver tc x f) * w ≤ (∑ f : E → Fin w, rowOver tc x f) * w :=
          Nat.mul_le_mul_right _ (Finset.sum_le_sum_of_subset (Finset.subset_univ _))
      _ = (∑ y ∈ univ.erase x, tc y) * W := by rw [sum_rowOver_mul, hW]
      _ ≤ N * W :=
          Nat.mul_le_mul_right _ (hN ▸ Finset.sum_le_sum_of_subset (Finset.erase_subset x univ))
  have hmark : (B.card : ℝ) * (ε * N) ≤ ((∑ f ∈ B, rowOver tc x f : ℕ) : ℝ) := by
    rw [Nat.cast_sum, ← nsmul_eq_mul]
    exact Finset.card_nsmul_le_sum B _ _ fun f hf => (hB f hf).le
  have h3 : (B.card : ℝ) * (ε * w) * N ≤ W * N :=
    calc (B.card : ℝ) * (ε * w) * N = (B.card : ℝ) * (ε * N) * w := by ring
      _ ≤ ((∑ f ∈ B, rowOver tc x f : ℕ) : ℝ) * w :=
          mul_le_mul_of_nonneg_right hmark (Nat.cast_nonneg w)
      _ ≤ W * N := by rw [mul_comm (W : ℝ)]; exact_mod_cast hnat
  exact (mul_le_mul_of_nonneg_left hw (Nat.cast_nonneg _)).trans (le_of_mul_le_mul_right h3 hNpos)

end markov

theorem pow_le_delta_mul (b W δ : ℝ) (d : ℕ) (hb : 0 ≤ b) (h1 : b * Real.exp 1 ≤ W)
    (hd : Real.exp (-(d : ℝ)) ≤ δ) : b ^ d ≤ δ * W ^ d := by
  have he : (0 : ℝ) < Real.exp 1 := Real.exp_pos 1
  have hW : 0 ≤ W := le_trans (mul_nonneg hb he.le) h1
  have h2 : b ^ d * Real.exp 1 ^ d ≤ W ^ d := by
    rw [← mul_pow]; exact pow_le_pow_left₀ (mul_nonneg hb he.le) h1 d
  have h3 : Real.exp 1 ^ d = Real.exp d := by
    rw [← Real.exp_nat_mul, mul_one]
  have h4 : Real.exp (d : ℝ) * Real.exp (-(d : ℝ)) = 1 := by
    rw [← Real.exp_add]; simp
  calc b ^ d = b ^ d * Real.exp 1 ^ d * Real.exp (-(d : ℝ)) := by
        rw [h3, mul_assoc, h4, mul_one]
    _ ≤ W ^ d * Real.exp (-(d : ℝ)) :=
        mul_le_mul_of_nonneg_right h2 (Real.exp_pos _).le
    _ ≤ W ^ d * δ := mul_le_mul_of_nonneg_left hd (pow_nonneg hW d)
    _ = δ * W ^ d := mul_comm _ _

end Gostatix.CMS
