/-
  Helper lemmas for Props/MurmurTie.lean.
  First the Go primitives of Model/GoBits.lean (rotation as `BitVec.rotateLeft`, recursive
  little-endian value) are related to the shift/or formulas of the hand transcription Model/Murmur.lean, with
  the two shapes the tail switch of `Sum128` is made of: a fall-through chain of guarded
  `k ^= uint64(tail[i]) << s` statements (`fall`, a little-endian load by `fall_eq`) and the guarded
  mix after it (`guardMix`); none of this mentions the generated definitions.
  Then (from `modelBlock` on) the hand transcription `Murmur.bmix` / `Murmur.sum128` is restated as a composition of
  `modelBlock`, `modelTail`, `modelFinal` (the model inlines these); the restatements are proved
  equal to the model by unfolding only (`bmix_succ`, `model_sum128`).

  Kernel note: `Murmur.bmix.eq_2` (the equation lemma `simp`/`unfold` would use) cannot be generated -
  the kernel overflows its stack on `Murmur.bmix (n+1) bs h1 h2 = Murmur.bmix n ..` by `rfl`
  ("deep recursion", it compares the `UInt64` accumulators of the two calls before unfolding, which
  runs into unary arithmetic on the 10-digit literals).  `rw [Murmur.bmix.eq_def]` avoids it.
-/
import Gostatix.Model.GoBits
import Gostatix.Model.Murmur
namespace Gostatix.MurmurTie
open Gostatix

theorem rotl64_eq (x : UInt64) (k : Nat) (hk : k < 64) :
    GoBits.rotl64 x k = Murmur.rotl x (UInt64.ofNat k) := by
  apply UInt64.eq_of_toBitVec_eq
  simp [GoBits.rotl64, Murmur.rotl, BitVec.rotateLeft_def]
  rcases Nat.eq_zero_or_pos k with rfl | hpos
  · simp [BitVec.ushiftRight_eq_zero]
  · have h1 : k % 64 = k := Nat.mod_eq_of_lt hk
    have h2 : k % 18446744073709551616 = k := Nat.mod_eq_of_lt (by omega)
    have h3 : (18446744073709551616 - k) % 64 = 64 - k := by omega
    rw [h1, h2, h3]

theorem model_rotl (x r : UInt64) (h : r.toNat < 64) : Murmur.rotl x r = GoBits.rotl64 x r.toNat := by
  rw [rotl64_eq x r.toNat h]; simp

theorem le64_take (bs : List UInt8) : Murmur.le64 bs = GoBits.le64 (bs.take 8) := by
  unfold Murmur.le64
  generalize bs.take 8 = l
  induction l with
  | nil => rfl
  | cons b l ih => simp [GoBits.le64, ← ih, UInt64.or_comm]

theorem bv_step (X : BitVec 64) (b : BitVec 8) (s : Nat) :
    (X <<< (s + 8)) ^^^ (b.setWidth 64 <<< s) = ((b.setWidth 64) ||| (X <<< 8)) <<< s := by
  ext i hi
  simp only [BitVec.getElem_xor, BitVec.getElem_shiftLeft, BitVec.getElem_or, BitVec.getElem_setWidth]
  by_cases h1 : i < s
  · have h2 : i < s + 8 := by omega
    simp [h1, h2]
  · by_cases h2 : i < s + 8
    · have h3 : i - s < 8 := by omega
      simp [h1, h2, h3]
    · have h3 : ¬ i - s < 8 := by omega
      have h4 : 8 ≤ i - s := by omega
      simp [h1, h2, h3, BitVec.getLsbD_of_ge _ _ h4, Nat.sub_add_eq]

/-- `k ^= uint64(b) << s` when `k` holds the bytes above, shifted by `t = s + 8`: the switch of
    `Sum128` assembles the little-endian value from the most significant byte down. -/
theorem le64_step (bs : List UInt8) (b : UInt8) (s t : UInt64) (ht : t.toNat = s.toNat + 8)
    (h64 : t.toNat < 64) :
    (GoBits.le64 bs <<< t) ^^^ (b.toUInt64 <<< s) = GoBits.le64 (b :: bs) <<< s := by
  apply UInt64.eq_of_toBitVec_eq
  have hs : s.toNat < 64 := by omega
  have e1 : (t.toBitVec % 64).toNat = s.toNat + 8 := by
    simp [BitVec.toNat_umod]; omega
  have e2 : (s.toBitVec % 64).toNat = s.toNat := by
    simp [BitVec.toNat_umod]; omega
  simp only [GoBits.le64, UInt64.toBitVec_xor, UInt64.toBitVec_shiftLeft, UInt64.toBitVec_or,
    UInt8.toBitVec_toUInt64, BitVec.shiftLeft_eq', e1, e2]
  exact bv_step _ _ _

theorem le64_start0 (b : UInt8) (s : UInt64) :
    (0 : UInt64) ^^^ (b.toUInt64 <<< s) = GoBits.le64 [b] <<< s := by
  simp [GoBits.le64]

theorem and15 : ∀ n, n < 16 → n &&& 15 = n := by decide

theorem byteAt_of_lt (t : List UInt8) (i : Nat) (h : i < t.length) :
    GoBits.byteAt t i = t[i].toUInt64 := by
  rw [GoBits.byteAt, List.getD_eq_getElem?_getD, List.getElem?_eq_getElem h, Option.getD_some]

/-- the fall-through of `switch len(tail) & 15`: the statements `k ^= uint64(tail[i]) << s` of the
    cases `lo + n` down to `lo + 1`, which read the bytes `lo + n - 1` down to `lo`; the statement
    of `case i + 1` runs when `sel ≥ i + 1`. -/
def fall (t : List UInt8) (sel : Nat) : Nat → Nat → UInt64 → UInt64
  | _, 0, _ => 0
  | lo, n + 1, s =>
    let k := fall t sel (lo + 1) n (s + 8)
    if sel ≥ lo + 1 then k ^^^ (GoBits.byteAt t lo <<< s) else k

theorem toNat_add_eight {s : UInt64} (h : s.toNat + 8 ≤ 64) : (s + 8).toNat = s.toNat + 8 := by
  rw [UInt64.toNat_add]
  exact Nat.mod_eq_of_lt (Nat.lt_of_le_of_lt h (by decide))

/-- a byte the tail does not have contributes nothing. -/
theorem fall_eq (t : List UInt8) (n lo : Nat) (s : UInt64) (hs : s.toNat + 8 * n ≤ 64) :
    fall t t.length lo n s = GoBits.le64 ((t.drop lo).take n) <<< s := by
  induction n generalizing lo s with
  | zero => exact UInt64.zero_shiftLeft.symm
  | succ n ih =>
    have hs8 : (s + 8).toNat = s.toNat + 8 := toNat_add_eight (by omega)
    rw [fall, ih (lo + 1) (s + 8) (by omega)]
    by_cases h : t.length ≥ lo + 1
    · rw [if_pos h, List.drop_eq_getElem_cons h, List.take_succ_cons, byteAt_of_lt t lo h]
      cases n with
      | zero => exact (congrArg (· ^^^ _) UInt64.zero_shiftLeft).trans (le64_start0 _ _)
      | succ m => exact le64_step _ _ _ _ hs8 (by omega)
    · rw [if_neg h, List.drop_eq_nil_of_le (Nat.le_of_not_lt h),
        List.drop_eq_nil_of_le (Nat.le_succ_of_le (Nat.le_of_not_lt h)), List.take_nil, List.take_nil]
      exact UInt64.zero_shiftLeft.trans UInt64.zero_shiftLeft.symm

/-- the four guarded statements after a chain: `k *= a; k = rotl(k, r); k *= b; h ^= k`. -/
def guardMix (c : Prop) [Decidable c] (h k a b : UInt64) (r : Nat) : UInt64 :=
  let k := if c then k * a else k
  let k := if c then GoBits.rotl64 k r else k
  let k := if c then k * b else k
  if c then h ^^^ k else h

theorem guardMix_eq (c : Prop) [Decidable c] (h k a b : UInt64) (r : Nat) :
    guardMix c h k a b r = if c then h ^^^ (GoBits.rotl64 (k * a) r * b) else h := by
  by_cases hc : c
  · simp only [guardMix, if_pos hc]
  · simp only [guardMix, if_neg hc]

/-- one iteration of `Murmur.bmix` on the loaded words. -/
def modelBlock (h1 h2 k1 k2 : UInt64) : UInt64 × UInt64 :=
  let k1 := k1 * Murmur.c1
  let k1 := Murmur.rotl k1 31
  let k1 := k1 * Murmur.c2
  let h1 := h1 ^^^ k1
  let h1 := Murmur.rotl h1 27
  let h1 := h1 + h2
  let h1 := h1 * 5 + 0x52dce729
  let k2 := k2 * Murmur.c2
  let k2 := Murmur.rotl k2 33
  let k2 := k2 * Murmur.c1
  let h2 := h2 ^^^ k2
  let h2 := Murmur.rotl h2 31
  let h2 := h2 + h1
  let h2 := h2 * 5 + 0x38495ab5
  (h1, h2)

theorem bmix_zero (bs : List UInt8) (h1 h2 : UInt64) : Murmur.bmix 0 bs h1 h2 = (h1, h2, bs) := by
  rw [Murmur.bmix.eq_def]

theorem bmix_succ (n : Nat) (bs : List UInt8) (h1 h2 : UInt64) :
    Murmur.bmix (n+1) bs h1 h2 =
      Murmur.bmix n (bs.drop 16) (modelBlock h1 h2 (Murmur.le64 bs) (Murmur.le64 (bs.drop 8))).1
        (modelBlock h1 h2 (Murmur.le64 bs) (Murmur.le64 (bs.drop 8))).2 := by
  rw [Murmur.bmix.eq_def]; rfl

/-- the tail part of `Murmur.sum128` (bytes 8.. into `h2`, bytes 0..7 into `h1`). -/
def modelTail (tail : List UInt8) (h1 h2 : UInt64) : UInt64 × UInt64 :=
  let tl := tail.length
  let h2 := if tl > 8 then
      let k2 := Murmur.le64 (tail.drop 8)
      let k2 := k2 * Murmur.c2
      let k2 := Murmur.rotl k2 33
      let k2 := k2 * Murmur.c1
      h2 ^^^ k2
    else h2
  let h1 := if tl > 0 then
      let k1 := Murmur.le64 tail
      let k1 := k1 * Murmur.c1
      let k1 := Murmur.rotl k1 31
      let k1 := k1 * Murmur.c2
      h1 ^^^ k1
    else h1
  (h1, h2)

def modelFinal (h1 h2 dlen : UInt64) : UInt64 × UInt64 :=
  let h1 := h1 ^^^ dlen
  let h2 := h2 ^^^ dlen
  let h1 := h1 + h2
  let h2 := h2 + h1
  let h1 := Murmur.fmix64 h1
  let h2 := Murmur.fmix64 h2
  let h1 := h1 + h2
  let h2 := h2 + h1
  (h1, h2)

theorem model_sum128 (data : List UInt8) (h1 h2 : UInt64) (tail : List UInt8)
    (hb : Murmur.bmix (data.length / 16) data 0 0 = (h1, h2, tail)) :
    Murmur.sum128 data
      = modelFinal (modelTail tail h1 h2).1 (modelTail tail h1 h2).2 data.length.toUInt64 := by
  unfold Murmur.sum128
  simp only [hb]
  rfl

end Gostatix.MurmurTie
