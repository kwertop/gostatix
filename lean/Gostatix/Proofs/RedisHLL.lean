/-
  Gostatix.Proofs.RedisHLL — what `absHLL` means, and the element-wise loops of the merge and
  compare scripts of hyperloglog_redis.go, for the simulation theorems of Props/C08.lean.
-/
import Gostatix.Proofs.RedisCMS
import Gostatix.Proofs.HLL
namespace Gostatix.Redis

theorem absHLL_eq_some_iff (s : Store) (h : HLLHandle) (c : HLL) :
    absHLL s h = some c ↔ c.m = h.m ∧ RowIs s h.key h.m c.regs := by
  unfold absHLL RowIs
  constructor
  · intro hh
    split at hh
    · rename_i l hl
      split at hh
      · rename_i hlen
        rw [readNums, Option.map_eq_some_iff] at hh
        obtain ⟨regs, hr, rfl⟩ := hh
        exact ⟨rfl, l, hl, hlen, (optAll_eq_some_iff _ _).mp hr⟩
      · cases hh
    · cases hh
  · rintro ⟨hm, l, hl, hlen, hmap⟩
    rw [hl]; simp only [hlen, if_true]
    rw [readNums, (optAll_eq_some_iff _ _).mpr hmap]
    cases c; simp only at hm; subst hm; rfl

theorem hllMergeVals_spec (n : Nat) (l1 l2 : List String) (r1 r2 : List Nat) (s : Store)
    (h1 : l1.length = n) (h2 : l2.length = n)
    (m1 : l1.map parseDecimal = r1.map some) (m2 : l2.map parseDecimal = r2.map some) :
    ∃ l', hllMergeVals n l1 l2 s = (s, some l') ∧ l'.length = n ∧
      l'.map parseDecimal = (HLL.mergeRegs r1 r2).map some := by
  refine reads_induction₂ (P := fun n l1 l2 r1 r2 =>
    ∃ l', hllMergeVals n l1 l2 s = (s, some l') ∧ l'.length = n ∧
      l'.map parseDecimal = (HLL.mergeRegs r1 r2).map some)
    ⟨[], rfl, rfl, rfl⟩ ?_ n l1 l2 r1 r2 h1 h2 m1 m2
  intro n a b l1 l2 x y r1 r2 ha hb ⟨l', hrun, hlen, hmap⟩
  refine ⟨(if x < y then b else a) :: l', ?_, congrArg (· + 1) hlen, ?_⟩
  · unfold hllMergeVals
    rw [List.head?_cons, List.head?_cons, List.tail_cons, List.tail_cons,
      Script.bind_ok (luaNumber_some ha s), Script.bind_ok (luaNumber_some hb s), Script.bind_ok hrun]
    rfl
  · -- the script keeps the string of the larger register
    rw [List.map_cons, hmap, HLL.mergeRegs, List.map_cons]
    refine congrArg (· :: _) ?_
    split
    · rw [hb, Nat.max_eq_right (Nat.le_of_lt ‹x < y›)]
    · rw [ha, Nat.max_eq_left (Nat.le_of_not_lt ‹¬ x < y›)]

theorem mergeRegs_length (a b : List Nat) : (HLL.mergeRegs a b).length = a.length :=
  HLL.mergeRegs_length a b

theorem hllCompareVals_spec (n : Nat) (l1 l2 : List String) (r1 r2 : List Nat)
    (h1 : l1.length = n) (h2 : l2.length = n)
    (m1 : l1.map parseDecimal = r1.map some) (m2 : l2.map parseDecimal = r2.map some) :
    hllCompareVals n l1 l2 = (r1 == r2) := by
  refine reads_induction₂ (P := fun n l1 l2 r1 r2 => hllCompareVals n l1 l2 = (r1 == r2))
    rfl ?_ n l1 l2 r1 r2 h1 h2 m1 m2
  intro n a b l1 l2 x y r1 r2 ha hb ih
  unfold hllCompareVals
  simp only [List.head?_cons, List.tail_cons, Option.bind_some, ha, hb, ih]
  by_cases e : x = y
  · subst e; simp
  · simp [e]

end Gostatix.Redis
