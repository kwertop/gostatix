/-
  Gostatix.Proofs.CuckooFilter — `Cuckoo.insert` / `Cuckoo.lookup` / `Cuckoo.remove` over any lawful
  bucket implementation: well-formedness, the ways the operations can go, what they do
  (`InsertOk`, `InsertFull`, `RemoveOk`), the orbit count `kc`, tables without a stored fingerprint.
-/
import Gostatix.Proofs.CuckooKick
set_option linter.unusedSectionVars false
namespace Gostatix

def CRes.val {α : Type} : CRes α → α
  | .ok a => a
  | .full a => a

def CRes.isOk {α : Type} : CRes α → Bool
  | .ok _ => true
  | .full _ => false

namespace Cuckoo

section
variable {B F : Type} [DecidableEq F] [Inhabited B] {o : BucketOps B F} {emp : F}

structure WF (L : LawfulBucket o emp) (c : Cuckoo B) : Prop where
  bs : WFbs L c.n c.bsize c.buckets
  len : c.length = tocc L c.buckets

theorem insert_of_free1 (alt : Nat → F → Nat) (c : Cuckoo B) (fp : F) (i1 i2 : Nat)
    (d side : Bool) (slots : List Nat) (h : o.isFree (bucketAt c.buckets i1) = true) :
    insert o alt c fp i1 i2 d side slots =
      .ok { c with buckets := modAt c.buckets i1 (fun b => o.add b fp), length := c.length + 1 } := by
  rw [insert, if_pos h]

theorem insert_of_free2 (alt : Nat → F → Nat) (c : Cuckoo B) (fp : F) (i1 i2 : Nat)
    (d side : Bool) (slots : List Nat) (h1 : o.isFree (bucketAt c.buckets i1) = false)
    (h2 : o.isFree (bucketAt c.buckets i2) = true) :
    insert o alt c fp i1 i2 d side slots =
      .ok { c with buckets := modAt c.buckets i2 (fun b => o.add b fp), length := c.length + 1 } := by
  rw [insert, if_neg (Bool.eq_false_iff.mp h1), if_pos h2]

theorem insert_cases (alt : Nat → F → Nat) (c : Cuckoo B) (fp : F) (i1 i2 : Nat)
    (d side : Bool) (slots : List Nat) :
    (o.isFree (bucketAt c.buckets i1) = true ∧
      insert o alt c fp i1 i2 d side slots =
        .ok { c with buckets := modAt c.buckets i1 (fun b => o.add b fp), length := c.length + 1 }) ∨
    (o.isFree (bucketAt c.buckets i1) = false ∧ o.isFree (bucketAt c.buckets i2) = true ∧
      insert o alt c fp i1 i2 d side slots =
        .ok { c with buckets := modAt c.buckets i2 (fun b => o.add b fp), length := c.length + 1 }) ∨
    (o.isFree (bucketAt c.buckets i1) = false ∧ o.isFree (bucketAt c.buckets i2) = false ∧
      ∃ bs log found,
        kick o alt c.retries c.buckets (if side then i1 else i2) fp slots [] = (bs, log, found) ∧
        insert o alt c fp i1 i2 d side slots =
          if found then .ok { c with buckets := bs, length := c.length + 1 }
          else if d then .full { c with buckets := bs }
          else .full { c with buckets := rollback o bs log }) := by
  by_cases h1 : o.isFree (bucketAt c.buckets i1) = true
  · exact Or.inl ⟨h1, insert_of_free1 alt c fp i1 i2 d side slots h1⟩
  · have h1 := Bool.eq_false_iff.mpr h1
    by_cases h2 : o.isFree (bucketAt c.buckets i2) = true
    · exact Or.inr (Or.inl ⟨h1, h2, insert_of_free2 alt c fp i1 i2 d side slots h1 h2⟩)
    · rw [insert, if_neg (Bool.eq_false_iff.mp h1), if_neg h2]
      exact Or.inr (Or.inr ⟨h1, Bool.eq_false_iff.mpr h2, _, _, _, rfl, rfl⟩)

theorem remove_of_lookup1 (c : Cuckoo B) (fp : F) (i1 i2 : Nat)
    (h : o.lookup (bucketAt c.buckets i1) fp = true) :
    remove o c fp i1 i2 =
      ({ c with buckets := modAt c.buckets i1 (fun b => o.remove b fp), length := c.length - 1 }, true) := by
  rw [remove, if_pos h]

theorem remove_of_lookup2 (c : Cuckoo B) (fp : F) (i1 i2 : Nat)
    (h1 : o.lookup (bucketAt c.buckets i1) fp = false) (h2 : o.lookup (bucketAt c.buckets i2) fp = true) :
    remove o c fp i1 i2 =
      ({ c with buckets := modAt c.buckets i2 (fun b => o.remove b fp), length := c.length - 1 }, true) := by
  rw [remove, if_neg (Bool.eq_false_iff.mp h1), if_pos h2]

theorem remove_cases (c : Cuckoo B) (fp : F) (i1 i2 : Nat) :
    (o.lookup (bucketAt c.buckets i1) fp = true ∧
      remove o c fp i1 i2 =
        ({ c with buckets := modAt c.buckets i1 (fun b => o.remove b fp),
                  length := c.length - 1 }, true)) ∨
    (o.lookup (bucketAt c.buckets i1) fp = false ∧ o.lookup (bucketAt c.buckets i2) fp = true ∧
      remove o c fp i1 i2 =
        ({ c with buckets := modAt c.buckets i2 (fun b => o.remove b fp),
                  length := c.length - 1 }, true)) ∨
    (o.lookup (bucketAt c.buckets i1) fp = false ∧ o.lookup (bucketAt c.buckets i2) fp = false ∧
      remove o c fp i1 i2 = (c, false)) := by
  by_cases h1 : o.lookup (bucketAt c.buckets i1) fp = true
  · exact Or.inl ⟨h1, remove_of_lookup1 c fp i1 i2 h1⟩
  · have h1 := Bool.eq_false_iff.mpr h1
    by_cases h2 : o.lookup (bucketAt c.buckets i2) fp = true
    · exact Or.inr (Or.inl ⟨h1, h2, remove_of_lookup2 c fp i1 i2 h1 h2⟩)
    · exact Or.inr (Or.inr ⟨h1, Bool.eq_false_iff.mpr h2,
        by rw [remove, if_neg (Bool.eq_false_iff.mp h1), if_neg h2]⟩)

def SameParams (c c' : Cuckoo B) : Prop :=
  c'.n = c.n ∧ c'.bsize = c.bsize ∧ c'.fpl = c.fpl ∧ c'.retries = c.retries

theorem SameParams.refl (c : Cuckoo B) : SameParams c c := ⟨rfl, rfl, rfl, rfl⟩

theorem SameParams.trans {c c' c'' : Cuckoo B} (h : SameParams c c') (h' : SameParams c' c'') :
    SameParams c c'' :=
  ⟨h'.1.trans h.1, h'.2.1.trans h.2.1, h'.2.2.1.trans h.2.2.1, h'.2.2.2.trans h.2.2.2⟩

theorem insert_params (alt : Nat → F → Nat) (c : Cuckoo B) (fp : F) (i1 i2 : Nat)
    (d side : Bool) (slots : List Nat) : SameParams c (insert o alt c fp i1 i2 d side slots).val := by
  rcases insert_cases (o := o) alt c fp i1 i2 d side slots with
    ⟨_, h1⟩ | ⟨_, _, h1⟩ | ⟨_, _, bs, log, found, _, h1⟩
  · rw [h1]; exact ⟨rfl, rfl, rfl, rfl⟩
  · rw [h1]; exact ⟨rfl, rfl, rfl, rfl⟩
  · rw [h1]; cases found <;> cases d <;> exact ⟨rfl, rfl, rfl, rfl⟩

theorem remove_params (c : Cuckoo B) (fp : F) (i1 i2 : Nat) :
    SameParams c (remove o c fp i1 i2).1 := by
  unfold remove
  split
  · exact ⟨rfl, rfl, rfl, rfl⟩
  · split <;> exact ⟨rfl, rfl, rfl, rfl⟩

theorem insert_full_kick (alt : Nat → F → Nat) (c : Cuckoo B) (fp : F) (i1 i2 : Nat)
    (d side : Bool) (slots : List Nat) (c' : Cuckoo B)
    (h : insert o alt c fp i1 i2 d side slots = .full c') :
    o.isFree (bucketAt c.buckets i1) = false ∧ o.isFree (bucketAt c.buckets i2) = false ∧
    ∃ bs log, kick o alt c.retries c.buckets (if side then i1 else i2) fp slots [] = (bs, log, false) ∧
      c' = { c with buckets := if d then bs else rollback o bs log } := by
  rcases insert_cases (o := o) alt c fp i1 i2 d side slots with
    ⟨_, h1⟩ | ⟨_, _, h1⟩ | ⟨hf1, hf2, bs, log, found, hk, h1⟩
  · rw [h1] at h; cases h
  · rw [h1] at h; cases h
  · rw [h1] at h
    cases found with
    | true => simp at h
    | false => exact ⟨hf1, hf2, bs, log, hk, by cases d <;> exact (CRes.full.inj h).symm⟩

theorem insert_full_nondestructive (L : LawfulBucket o emp) (alt : Nat → F → Nat) (c : Cuckoo B)
    (fp : F) (i1 i2 : Nat) (side : Bool) (slots : List Nat) (c' : Cuckoo B)
    (h : insert o alt c fp i1 i2 false side slots = .full c') : c' = c := by
  obtain ⟨_, _, bs, log, hk, rfl⟩ := insert_full_kick alt c fp i1 i2 false side slots c' h
  have hr := kick_rollback L alt c.retries c.buckets _ fp slots [] (congrArg (·.2.2) hk)
  rw [hk] at hr
  show { c with buckets := rollback o bs log } = c
  rw [hr]
  rfl

theorem kick_start (bs : List B) (n i1 i2 : Nat) (side : Bool) (hi1 : i1 < n) (hi2 : i2 < n)
    (hf1 : o.isFree (bucketAt bs i1) = false) (hf2 : o.isFree (bucketAt bs i2) = false) :
    (if side then i1 else i2) < n ∧ o.isFree (bucketAt bs (if side then i1 else i2)) = false := by
  cases side
  · exact ⟨hi2, hf2⟩
  · exact ⟨hi1, hf1⟩

structure InsertOk (L : LawfulBucket o emp) (c c' : Cuckoo B) (fp : F) : Prop where
  wf : WF L c'
  params : SameParams c c'
  length : c'.length = c.length + 1
  tocc : tocc L c'.buckets = tocc L c.buckets + 1
  tcnt : ∀ g, g ≠ emp → tcnt L c'.buckets g = tcnt L c.buckets g + ind (fp = g)
  bucket : ∃ j0, j0 < c.n ∧ o.isFree (bucketAt c.buckets j0) = true ∧
    ∀ j, occB L c'.buckets j = occB L c.buckets j + ind (j = j0)

/-- what a failed insert does (destructive or not); in `tcnt`, `y` is the fingerprint left in hand
    when the loop gave up (`fp` itself after a rollback) -/
structure InsertFull (L : LawfulBucket o emp) (c c' : Cuckoo B) (fp : F) (i1 i2 : Nat) : Prop where
  wf : WF L c'
  params : SameParams c c'
  length : c'.length = c.length
  full1 : o.isFree (bucketAt c.buckets i1) = false
  full2 : o.isFree (bucketAt c.buckets i2) = false
  tocc : tocc L c'.buckets = tocc L c.buckets
  occB : ∀ j, occB L c'.buckets j = occB L c.buckets j
  tcnt : ∃ y, y ≠ emp ∧ (y = fp ∨ 0 < tcnt L c.buckets y) ∧
    ∀ g, tcnt L c'.buckets g + ind (y = g) = tcnt L c.buckets g + ind (fp = g)

/-! the same in terms of the slots of the table (`allSlots`) -/

theorem InsertOk.stored {L : LawfulBucket o emp} {c c' : Cuckoo B} {fp : F} (h : InsertOk L c c' fp) :
    occ emp (allSlots L c'.buckets) = occ emp (allSlots L c.buckets) + 1 := by
  rw [← tocc_eq_occ, ← tocc_eq_occ]; exact h.tocc

theorem InsertFull.stored {L : LawfulBucket o emp} {c c' : Cuckoo B} {fp : F} {i1 i2 : Nat}
    (h : InsertFull L c c' fp i1 i2) :
    occ emp (allSlots L c'.buckets) = occ emp (allSlots L c.buckets) := by
  rw [← tocc_eq_occ, ← tocc_eq_occ]; exact h.tocc

theorem InsertFull.displaced {L : LawfulBucket o emp} {c c' : Cuckoo B} {fp : F} {i1 i2 : Nat}
    (h : InsertFull L c c' fp i1 i2) :
    ∃ y, y ≠ emp ∧ (y = fp ∨ y ∈ allSlots L c.buckets) ∧
      ∀ g, (allSlots L c'.buckets).count g + ind (g = y)
         = (allSlots L c.buckets).count g + ind (g = fp) := by
  obtain ⟨y, hy, hy2, hy3⟩ := h.tcnt
  refine ⟨y, hy, hy2.imp_right fun hpos => List.count_pos_iff.mp (tcnt_eq_count L _ y ▸ hpos),
    fun g => ?_⟩
  rw [← tcnt_eq_count, ← tcnt_eq_count, ind_eq_comm g y, ind_eq_comm g fp]
  exact hy3 g

section
variable (L : LawfulBucket o emp) (alt : Nat → F → Nat) (c : Cuckoo B) (fp : F) (i1 i2 : Nat)
  (d side : Bool) (slots : List Nat) (c' : Cuckoo B)

section
variable (hwf : WF L c) (hAlt : ∀ j f, j < c.n → alt j f < c.n) (hs : 0 < c.bsize) (hfp : fp ≠ emp)
  (hi1 : i1 < c.n) (hi2 : i2 < c.n) (hsl : ∀ x ∈ slots, x < c.bsize)
include hwf hAlt hs hfp hi1 hi2 hsl

/-- a successful insert is a successful loop started at one of the two candidate buckets (of no
    round when that bucket has room) -/
theorem insert_ok_kick (h : insert o alt c fp i1 i2 d side slots = .ok c') :
    ∃ idx, (idx = i1 ∨ idx = i2) ∧ KickSpec L alt c.n c.bsize c.buckets c'.buckets idx fp true ∧
      c'.length = c.length + 1 ∧ SameParams c c' := by
  rcases insert_cases (o := o) alt c fp i1 i2 d side slots with
    ⟨hf, h1⟩ | ⟨_, hf, h1⟩ | ⟨hf1, hf2, bs, log, found, hk, h1⟩
  · obtain rfl := CRes.ok.inj (h1.symm.trans h)
    exact ⟨i1, Or.inl rfl, (add_step L c.n c.bsize c.buckets i1 fp hwf.bs hi1 hf hfp).kickSpec hi1 hf,
      rfl, rfl, rfl, rfl, rfl⟩
  · obtain rfl := CRes.ok.inj (h1.symm.trans h)
    exact ⟨i2, Or.inr rfl, (add_step L c.n c.bsize c.buckets i2 fp hwf.bs hi2 hf hfp).kickSpec hi2 hf,
      rfl, rfl, rfl, rfl, rfl⟩
  · have hst := kick_start c.buckets c.n i1 i2 side hi1 hi2 hf1 hf2
    have sp := kick_spec L alt c.n c.bsize hAlt hs c.retries c.buckets _ fp slots [] hwf.bs
      hst.1 hst.2 hfp hsl
    rw [hk] at sp
    rw [h1] at h
    cases found with
    | false => cases d <;> simp at h
    | true =>
      obtain rfl := CRes.ok.inj h
      exact ⟨_, by cases side <;> simp, sp, rfl, rfl, rfl, rfl, rfl⟩

theorem insert_ok_spec (h : insert o alt c fp i1 i2 d side slots = .ok c') : InsertOk L c c' fp := by
  obtain ⟨idx, _, sp, hlen, hp⟩ := insert_ok_kick L alt c fp i1 i2 d side slots c' hwf hAlt hs hfp hi1 hi2 hsl h
  exact ⟨⟨hp.1 ▸ hp.2.1 ▸ sp.wf, by rw [hlen, sp.ok_tocc rfl, hwf.len]⟩, hp, hlen, sp.ok_tocc rfl,
    sp.ok_tcnt rfl, sp.ok_bucket rfl⟩

theorem insert_full_spec (h : insert o alt c fp i1 i2 d side slots = .full c') :
    InsertFull L c c' fp i1 i2 := by
  cases d with
  | false =>
    obtain ⟨hf1, hf2, _⟩ := insert_full_kick alt c fp i1 i2 false side slots c' h
    obtain rfl := insert_full_nondestructive L alt c fp i1 i2 side slots c' h
    exact ⟨hwf, ⟨rfl, rfl, rfl, rfl⟩, rfl, hf1, hf2, rfl, fun _ => rfl,
      ⟨fp, hfp, Or.inl rfl, fun _ => rfl⟩⟩
  | true =>
    obtain ⟨hf1, hf2, bs, log, hk, hc⟩ := insert_full_kick alt c fp i1 i2 true side slots c' h
    obtain rfl : c' = { c with buckets := bs } := hc
    have hst := kick_start c.buckets c.n i1 i2 side hi1 hi2 hf1 hf2
    have sp := kick_spec L alt c.n c.bsize hAlt hs c.retries c.buckets _ fp slots [] hwf.bs
      hst.1 hst.2 hfp hsl
    rw [hk] at sp
    exact ⟨⟨sp.wf, by simp only; rw [sp.full_tocc rfl, hwf.len]⟩, ⟨rfl, rfl, rfl, rfl⟩, rfl, hf1, hf2,
      sp.full_tocc rfl, sp.full_occB rfl, sp.full_tcnt rfl⟩

theorem insert_wf :
    WF L (insert o alt c fp i1 i2 d side slots).val ∧
    SameParams c (insert o alt c fp i1 i2 d side slots).val := by
  cases h : insert o alt c fp i1 i2 d side slots with
  | ok c' =>
    have := insert_ok_spec L alt c fp i1 i2 d side slots c' hwf hAlt hs hfp hi1 hi2 hsl h
    exact ⟨this.wf, this.params⟩
  | full c' =>
    have := insert_full_spec L alt c fp i1 i2 d side slots c' hwf hAlt hs hfp hi1 hi2 hsl h
    exact ⟨this.wf, this.params⟩

end

/-- copies of `g` stored in the candidate pair `{j, alt j g}` -/
def kc (L : LawfulBucket o emp) (alt : Nat → F → Nat) (c : Cuckoo B) (j : Nat) (g : F) : Nat :=
  kcOf alt (cntB L c.buckets) j g

theorem lookupB_iff (bs : List B) (j : Nat) :
    o.lookup (bucketAt bs j) fp = true ↔ 0 < cntB L bs j fp := by
  unfold cntB
  rw [L.lookup_eq, List.contains_iff_mem, List.count_pos_iff]

theorem lookup_iff :
    lookup o c fp i1 i2 = true ↔ 0 < cntB L c.buckets i1 fp ∨ 0 < cntB L c.buckets i2 fp := by
  rw [lookup, Bool.or_eq_true, lookupB_iff L, lookupB_iff L]

theorem lookup_iff_kc :
    lookup o c fp i1 (alt i1 fp) = true ↔ 0 < kc L alt c i1 fp := by
  rw [lookup_iff L]
  unfold kc kcOf
  by_cases e : alt i1 fp = i1
  · rw [if_pos e, e]; simp
  · rw [if_neg e]; omega

section
variable (hwf : WF L c) (hInv : ∀ j f, j < c.n → alt j f < c.n ∧ alt (alt j f) f = j)
  (hs : 0 < c.bsize) (hfp : fp ≠ emp) (hi1 : i1 < c.n) (hsl : ∀ x ∈ slots, x < c.bsize)
include hwf hInv hs hfp hi1 hsl

/-- **C02 core**: a successful insert raises the orbit count of its own key by one and leaves every
    other orbit count unchanged, whatever the eviction loop did. -/
theorem insert_ok_kc
    (h : insert o alt c fp i1 (alt i1 fp) d side slots = .ok c') :
    ∀ j g, j < c.n → g ≠ emp →
      kc L alt c' j g = kc L alt c j g + ind (g = fp ∧ (j = i1 ∨ j = alt i1 fp)) := by
  intro j g hj hg
  obtain ⟨idx, hidx, sp, _, _⟩ := insert_ok_kick L alt c fp i1 (alt i1 fp) d side slots c' hwf
    (fun j f hj => (hInv j f hj).1) hs hfp hi1 (hInv i1 fp hi1).1 hsl h
  unfold kc
  rw [sp.ok_kc hInv rfl j g hj hg]
  rcases hidx with rfl | rfl
  · rfl
  · simp only [ind, orbit_alt alt c.n hInv i1 fp hi1 j]

theorem insert_ok_lookup
    (h : insert o alt c fp i1 (alt i1 fp) d side slots = .ok c')
    (g : F) (j : Nat) (hg : g ≠ emp) (hj : j < c.n) :
    lookup o c' g j (alt j g) = true ↔
      (lookup o c g j (alt j g) = true ∨ g = fp ∧ (j = i1 ∨ j = alt i1 fp)) := by
  rw [lookup_iff_kc L, lookup_iff_kc L,
    insert_ok_kc L alt c fp i1 d side slots c' hwf hInv hs hfp hi1 hsl h j g hj hg]
  by_cases e : g = fp ∧ (j = i1 ∨ j = alt i1 fp) <;> simp [ind, e]

end

theorem insert_nokick
    (hwf : WF L c) (hfp : fp ≠ emp) (hi1 : i1 < c.n) (hi2 : i2 < c.n)
    (hfree : o.isFree (bucketAt c.buckets i1) = true ∨ o.isFree (bucketAt c.buckets i2) = true) :
    ∃ c' j0, insert o alt c fp i1 i2 d side slots = .ok c' ∧ (j0 = i1 ∨ j0 = i2) ∧
      (∀ j g, g ≠ emp → cntB L c'.buckets j g = cntB L c.buckets j g + ind (j = j0 ∧ g = fp)) ∧
      lookup o c' fp i1 i2 = true ∧
      (∀ g k1 k2, g ≠ emp → lookup o c g k1 k2 = true → lookup o c' g k1 k2 = true) := by
  obtain ⟨j0, hj, hj0, hf, h1⟩ : ∃ j0, (j0 = i1 ∨ j0 = i2) ∧ j0 < c.n ∧
      o.isFree (bucketAt c.buckets j0) = true ∧ insert o alt c fp i1 i2 d side slots =
        .ok { c with buckets := modAt c.buckets j0 (fun b => o.add b fp), length := c.length + 1 } := by
    rcases insert_cases (o := o) alt c fp i1 i2 d side slots with
      ⟨hf, h1⟩ | ⟨_, hf, h1⟩ | ⟨hf1, hf2, _⟩
    · exact ⟨i1, Or.inl rfl, hi1, hf, h1⟩
    · exact ⟨i2, Or.inr rfl, hi2, hf, h1⟩
    · rcases hfree with h | h
      · rw [hf1] at h; cases h
      · rw [hf2] at h; cases h
  have hc : ∀ j g, g ≠ emp → cntB L (modAt c.buckets j0 (fun b => o.add b fp)) j g
      = cntB L c.buckets j g + ind (j = j0 ∧ g = fp) := fun j g hg => by
    rw [(add_step L c.n c.bsize c.buckets j0 fp hwf.bs hj0 hf hfp).cnt j g hg]
    simp only [show (fp = g) = (g = fp) from propext eq_comm]
  refine ⟨_, j0, h1, hj, hc, ?_, fun g k1 k2 hg hl => ?_⟩
  · rw [lookup_iff L, hc i1 fp hfp, hc i2 fp hfp]
    rcases hj with e | e <;> simp [ind, e]
  · rw [lookup_iff L] at hl ⊢
    rw [hc k1 g hg, hc k2 g hg]
    omega

end

structure RemoveOk (L : LawfulBucket o emp) (c c' : Cuckoo B) (fp : F) (i1 i2 : Nat) : Prop where
  wf : WF L c'
  params : SameParams c c'
  length : c'.length + 1 = c.length
  tocc : tocc L c'.buckets + 1 = tocc L c.buckets
  tcnt : ∀ g, g ≠ emp → tcnt L c'.buckets g + ind (fp = g) = tcnt L c.buckets g
  bucket : ∃ j0, (j0 = i1 ∨ j0 = i2) ∧
    (∀ j g, g ≠ emp → cntB L c'.buckets j g + ind (j = j0 ∧ fp = g) = cntB L c.buckets j g) ∧
    (∀ j, occB L c'.buckets j + ind (j = j0) = occB L c.buckets j)

theorem RemoveOk.stored {L : LawfulBucket o emp} {c c' : Cuckoo B} {fp : F} {i1 i2 : Nat}
    (h : RemoveOk L c c' fp i1 i2) :
    occ emp (allSlots L c'.buckets) + 1 = occ emp (allSlots L c.buckets) := by
  rw [← tocc_eq_occ, ← tocc_eq_occ]; exact h.tocc

theorem RemoveOk.count {L : LawfulBucket o emp} {c c' : Cuckoo B} {fp : F} {i1 i2 : Nat}
    (h : RemoveOk L c c' fp i1 i2) (g : F) (hg : g ≠ emp) :
    (allSlots L c'.buckets).count g + ind (g = fp) = (allSlots L c.buckets).count g := by
  rw [← tcnt_eq_count, ← tcnt_eq_count, ind_eq_comm g fp]
  exact h.tcnt g hg

section
variable (L : LawfulBucket o emp) (alt : Nat → F → Nat) (c : Cuckoo B) (fp : F) (i1 i2 : Nat)

theorem remove_absent (h : lookup o c fp i1 i2 = false) :
    remove o c fp i1 i2 = (c, false) := by
  rw [lookup, Bool.or_eq_false_iff] at h
  rw [remove, if_neg (by simp [h.1]), if_neg (by simp [h.2])]

section
variable (hwf : WF L c) (hfp : fp ≠ emp) (hi1 : i1 < c.n) (hi2 : i2 < c.n)
include hwf hfp hi1 hi2

theorem remove_present (h : lookup o c fp i1 i2 = true) :
    (remove o c fp i1 i2).2 = true ∧ RemoveOk L c (remove o c fp i1 i2).1 fp i1 i2 := by
  have direct : ∀ j0, j0 < c.n → (j0 = i1 ∨ j0 = i2) → o.lookup (bucketAt c.buckets j0) fp = true →
      RemoveOk L c { c with buckets := modAt c.buckets j0 (fun b => o.remove b fp),
                            length := c.length - 1 } fp i1 i2 := by
    intro j0 hj0 hj hl
    rw [L.lookup_eq, List.contains_iff_mem] at hl
    have rm := remove_step L c.n c.bsize c.buckets j0 fp hwf.bs hj0 hfp hl
    have h1 := rm.tocc
    have h2 := hwf.len
    exact ⟨⟨rm.wf, by simp only; omega⟩, ⟨rfl, rfl, rfl, rfl⟩, by simp only; omega, rm.tocc, rm.tcnt,
      ⟨j0, hj, rm.cnt, rm.occB⟩⟩
  rcases remove_cases (o := o) c fp i1 i2 with ⟨l1, hr⟩ | ⟨_, l2, hr⟩ | ⟨l1, l2, _⟩
  · rw [hr]; exact ⟨rfl, direct i1 hi1 (Or.inl rfl) l1⟩
  · rw [hr]; exact ⟨rfl, direct i2 hi2 (Or.inr rfl) l2⟩
  · rw [lookup, l1, l2] at h; cases h

theorem remove_result :
    (remove o c fp i1 i2).2 = lookup o c fp i1 i2 ∧ WF L (remove o c fp i1 i2).1 := by
  cases hl : lookup o c fp i1 i2 with
  | true =>
    have := remove_present L c fp i1 i2 hwf hfp hi1 hi2 hl
    exact ⟨this.1, this.2.wf⟩
  | false => rw [remove_absent c fp i1 i2 hl]; exact ⟨rfl, hwf⟩

end

section
variable (hwf : WF L c) (hInv : ∀ j f, j < c.n → alt j f < c.n ∧ alt (alt j f) f = j)
  (hfp : fp ≠ emp) (hi1 : i1 < c.n)
include hwf hInv hfp hi1

theorem remove_kc (h : lookup o c fp i1 (alt i1 fp) = true) :
    ∀ j g, j < c.n → g ≠ emp →
      kc L alt (remove o c fp i1 (alt i1 fp)).1 j g + ind (g = fp ∧ (j = i1 ∨ j = alt i1 fp))
        = kc L alt c j g := by
  intro j g hj hg
  have hi2 := (hInv i1 fp hi1).1
  have horb := orbit_alt alt c.n hInv i1 fp hi1 j
  obtain ⟨_, rm⟩ := remove_present L c fp i1 (alt i1 fp) hwf hfp hi1 hi2 h
  obtain ⟨j0, hj0, hc, _⟩ := rm.bucket
  unfold kc
  rcases hj0 with e | e
  · subst e
    rw [kcOf_add_key alt c.n hInv _ (cntB L c.buckets) j0 fp hi1 j g hj (fun j => (hc j g hg).symm)]
  · subst e
    rw [kcOf_add_key alt c.n hInv _ (cntB L c.buckets) (alt i1 fp) fp hi2 j g hj (fun j => (hc j g hg).symm)]
    simp only [ind, horb]

theorem remove_effect :
    ((remove o c fp i1 (alt i1 fp)).2 = true →
      ∀ j g, j < c.n → g ≠ emp →
        kc L alt (remove o c fp i1 (alt i1 fp)).1 j g + ind (g = fp ∧ (j = i1 ∨ j = alt i1 fp))
          = kc L alt c j g) ∧
    ((remove o c fp i1 (alt i1 fp)).2 = false → (remove o c fp i1 (alt i1 fp)).1 = c) := by
  cases hl : lookup o c fp i1 (alt i1 fp) with
  | true =>
    have := (remove_present L c fp i1 _ hwf hfp hi1 (hInv i1 fp hi1).1 hl).1
    exact ⟨fun _ => remove_kc L alt c fp i1 hwf hInv hfp hi1 hl, fun hf => by rw [this] at hf; cases hf⟩
  | false =>
    rw [remove_absent c fp i1 _ hl]
    exact ⟨nofun, fun _ => rfl⟩

end
end

/-! ### tables without a stored fingerprint -/

theorem bucketAt_replicate (n : Nat) (b : B) (j : Nat) (hj : j < n) :
    bucketAt (List.replicate n b) j = b := by
  simp [bucketAt, List.getD_eq_getElem?_getD, hj]

theorem wf_replicate (L : LawfulBucket o emp) (n s fpl retries : Nat) (b : B) (hb : L.wfb s b)
    (h0 : occ emp (L.slots b) = 0) : WF L ⟨n, s, fpl, retries, List.replicate n b, 0⟩ :=
  ⟨⟨List.length_replicate, fun _ h => List.eq_of_mem_replicate h ▸ hb⟩,
    ((tot_replicate _ n b).trans (by rw [h0, Nat.mul_zero])).symm⟩

theorem cntB_replicate (L : LawfulBucket o emp) (n : Nat) (b : B) (h0 : occ emp (L.slots b) = 0)
    (j : Nat) (g : F) (hj : j < n) (hg : g ≠ emp) : cntB L (List.replicate n b) j g = 0 := by
  rw [cntB, bucketAt_replicate n b j hj]
  exact List.count_eq_zero.mpr fun hm => hg ((occ_eq_zero_iff emp _).mp h0 g hm)

theorem slots_emp_of_length_zero (L : LawfulBucket o emp) (c : Cuckoo B) (hwf : WF L c)
    (h0 : c.length = 0) : ∀ b ∈ c.buckets, ∀ x ∈ L.slots b, x = emp := fun b hb =>
  (occ_eq_zero_iff emp _).mp ((tot_eq_zero_iff _ _).mp (hwf.len.symm.trans h0) b hb)

theorem lookup_false_of_length_zero (L : LawfulBucket o emp) (c : Cuckoo B) (hwf : WF L c)
    (h0 : c.length = 0) (fp : F) (i1 i2 : Nat) (hfp : fp ≠ emp) (hi1 : i1 < c.n) (hi2 : i2 < c.n) :
    lookup o c fp i1 i2 = false := by
  have hz : ∀ j, j < c.n → cntB L c.buckets j fp = 0 := fun j hj =>
    List.count_eq_zero.mpr fun hm => hfp (slots_emp_of_length_zero L c hwf h0 _
      (bucketAt_mem c.buckets j (hwf.bs.len ▸ hj)) fp hm)
  have := lookup_iff L c fp i1 i2
  rw [hz i1 hi1, hz i2 hi2] at this
  cases hl : lookup o c fp i1 i2 with
  | false => rfl
  | true => exact absurd (this.mp hl) (by omega)

end
end Cuckoo
end Gostatix
