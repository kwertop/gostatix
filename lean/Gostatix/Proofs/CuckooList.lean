/-
  Gostatix.Proofs.CuckooList — list / `modAt` helper lemmas used by the cuckoo-filter proofs.
  Core Lean only.
-/
import Gostatix.Model.Basic
import Gostatix.Model.Cuckoo
set_option linter.unusedSectionVars false
namespace Gostatix

abbrev ind (p : Prop) [Decidable p] : Nat := if p then 1 else 0

theorem ind_eq_comm {α : Type} [DecidableEq α] (a b : α) : ind (a = b) = ind (b = a) := by
  unfold ind
  by_cases h : a = b
  · rw [if_pos h, if_pos h.symm]
  · rw [if_neg h, if_neg (fun e => h e.symm)]

section occ
variable {F : Type} [DecidableEq F]

def occ (emp : F) (l : List F) : Nat := l.countP (fun x => decide (x ≠ emp))

@[simp] theorem occ_nil (emp : F) : occ emp [] = 0 := rfl

theorem occ_cons (emp : F) (a : F) (l : List F) :
    occ emp (a :: l) = occ emp l + ind (a ≠ emp) := by
  unfold occ ind
  rw [List.countP_cons]
  by_cases h : a = emp <;> simp [h]

theorem occ_add_count (emp : F) (l : List F) : occ emp l + l.count emp = l.length := by
  induction l with
  | nil => simp
  | cons a l ih =>
    rw [occ_cons, List.count_cons, List.length_cons]
    by_cases h : a = emp <;> simp [ind, h] <;> omega

theorem occ_le_length (emp : F) (l : List F) : occ emp l ≤ l.length := by
  have := occ_add_count emp l; omega

theorem occ_append (emp : F) (a b : List F) : occ emp (a ++ b) = occ emp a + occ emp b := by
  unfold occ; exact List.countP_append

theorem occ_replicate_emp (emp : F) (k : Nat) : occ emp (List.replicate k emp) = 0 := by
  induction k with
  | zero => rfl
  | succ k ih => rw [List.replicate_succ, occ_cons, ih]; simp [ind]

theorem not_mem_emp_of_occ_eq_length (emp : F) (l : List F) (h : occ emp l = l.length) :
    emp ∉ l := by
  have := occ_add_count emp l
  have h0 : l.count emp = 0 := by omega
  exact List.count_eq_zero.mp h0

theorem mem_emp_of_occ_lt_length (emp : F) (l : List F) (h : occ emp l < l.length) :
    emp ∈ l := by
  have := occ_add_count emp l
  have h0 : 0 < l.count emp := by omega
  exact List.count_pos_iff.mp h0

theorem occ_eq_zero_iff (emp : F) (l : List F) : occ emp l = 0 ↔ ∀ x ∈ l, x = emp := by
  induction l with
  | nil => simp
  | cons a l ih =>
    rw [occ_cons]
    by_cases h : a = emp
    · simp [ind, h, ih]
    · simp [ind, h]

theorem getD_ne_emp_of_not_mem (emp : F) (l : List F) (i : Nat) (hi : i < l.length) (h : emp ∉ l) :
    l.getD i emp ≠ emp := by
  intro e
  apply h
  have : l.getD i emp = l[i] := by simp [List.getD_eq_getElem?_getD, hi]
  rw [this] at e
  rw [← e]; exact List.getElem_mem hi

/-- additive form of `List.countP_set` (no truncated subtraction) -/
theorem countP_set_add (p : F → Bool) (l : List F) (i : Nat) (v d : F) (hi : i < l.length) :
    (l.set i v).countP p + ind (p (l.getD i d) = true) = l.countP p + ind (p v = true) := by
  induction l generalizing i with
  | nil => simp at hi
  | cons a l ih =>
    cases i with
    | zero =>
      simp only [List.set_cons_zero, List.countP_cons, List.getD_cons_zero, ind]
      omega
    | succ i =>
      have := ih i (by simpa using hi)
      simp only [List.set_cons_succ, List.countP_cons, List.getD_cons_succ] at this ⊢
      omega

theorem count_set_add (l : List F) (i : Nat) (v d g : F) (hi : i < l.length) :
    (l.set i v).count g + ind (l.getD i d = g) = l.count g + ind (v = g) := by
  simpa [List.count, ind] using countP_set_add (· == g) l i v d hi

theorem occ_set_add (emp : F) (l : List F) (i : Nat) (v d : F) (hi : i < l.length) :
    occ emp (l.set i v) + ind (l.getD i d ≠ emp) = occ emp l + ind (v ≠ emp) := by
  simpa [occ, ind] using countP_set_add (fun x => decide (x ≠ emp)) l i v d hi

theorem set_getD_self (l : List F) (i : Nat) (d : F) : l.set i (l.getD i d) = l := by
  induction l generalizing i with
  | nil => rfl
  | cons a l ih =>
    cases i with
    | zero => simp
    | succ i => simp only [List.set_cons_succ, List.getD_cons_succ, ih i]

theorem set_set_getD (l : List F) (i : Nat) (v d : F) : (l.set i v).set i (l.getD i d) = l := by
  rw [List.set_set, set_getD_self]

theorem idxOf_lt_of_mem (l : List F) (a : F) (h : a ∈ l) : l.idxOf a < l.length :=
  List.idxOf_lt_length_iff.mpr h

theorem getD_idxOf (l : List F) (a d : F) (h : a ∈ l) : l.getD (l.idxOf a) d = a := by
  have hi := idxOf_lt_of_mem l a h
  have : l.getD (l.idxOf a) d = l[l.idxOf a] := by simp [List.getD_eq_getElem?_getD, hi]
  rw [this]; exact List.getElem_idxOf hi

theorem set_idxOf (emp : F) (l : List F) (a v : F) (ha : a ∈ l) :
    occ emp (l.set (l.idxOf a) v) + ind (a ≠ emp) = occ emp l + ind (v ≠ emp) ∧
    ∀ g, (l.set (l.idxOf a) v).count g + ind (a = g) = l.count g + ind (v = g) := by
  have hi := idxOf_lt_of_mem l a ha
  have ho := occ_set_add emp l (l.idxOf a) v emp hi
  have hc := fun g => count_set_add l (l.idxOf a) v emp g hi
  rw [getD_idxOf l a emp ha] at ho hc
  exact ⟨ho, hc⟩

theorem set_idxOf_emp (emp : F) (l : List F) (e : F) (he : e ≠ emp) (hm : emp ∈ l) :
    occ emp (l.set (l.idxOf emp) e) = occ emp l + 1 ∧
    ∀ g, g ≠ emp → (l.set (l.idxOf emp) e).count g = l.count g + ind (e = g) := by
  obtain ⟨ho, hc⟩ := set_idxOf emp l emp e hm
  refine ⟨by simpa [ind, he] using ho, fun g hg => ?_⟩
  have : ¬ emp = g := fun x => hg x.symm
  simpa [ind, this] using hc g

theorem set_idxOf_clear (emp : F) (l : List F) (e : F) (he : e ≠ emp) (hm : e ∈ l) :
    occ emp (l.set (l.idxOf e) emp) + 1 = occ emp l ∧
    ∀ g, g ≠ emp → (l.set (l.idxOf e) emp).count g + ind (e = g) = l.count g := by
  obtain ⟨ho, hc⟩ := set_idxOf emp l e emp hm
  refine ⟨by simpa [ind, he] using ho, fun g hg => ?_⟩
  have : ¬ emp = g := fun x => hg x.symm
  simpa [ind, this] using hc g

theorem occ_eq_of_count_eq (emp : F) (l1 l2 : List F)
    (h : ∀ g, g ≠ emp → l1.count g = l2.count g) : occ emp l1 = occ emp l2 := by
  unfold occ
  rw [List.countP_eq_length_filter, List.countP_eq_length_filter]
  apply List.Perm.length_eq
  rw [List.perm_iff_count]
  intro g
  by_cases hg : g = emp
  · have h1 : ∀ l : List F, (l.filter (fun x => decide (x ≠ emp))).count g = 0 := by
      intro l
      rw [List.count_eq_zero]
      intro hm
      have := (List.mem_filter.1 hm).2
      simp [hg] at this
    rw [h1, h1]
  · have hp : decide (g ≠ emp) = true := by simpa using hg
    rw [List.count_filter (p := fun x => decide (x ≠ emp)) hp,
      List.count_filter (p := fun x => decide (x ≠ emp)) hp]
    exact h g hg

end occ

section modAt
variable {α : Type}

theorem modAt_modAt_same (l : List α) (i : Nat) (f g : α → α) :
    modAt (modAt l i f) i g = modAt l i (fun a => g (f a)) := by
  induction l generalizing i with
  | nil => rfl
  | cons a as ih => cases i <;> simp [modAt, ih]

theorem modAt_id (l : List α) (i : Nat) : modAt l i (fun a => a) = l := by
  induction l generalizing i with
  | nil => rfl
  | cons a as ih => cases i <;> simp [modAt, ih]

theorem modAt_congr (l : List α) (i : Nat) (f g : α → α) (d : α)
    (h : f (l.getD i d) = g (l.getD i d)) : modAt l i f = modAt l i g := by
  induction l generalizing i with
  | nil => rfl
  | cons a as ih =>
    cases i with
    | zero => simpa [modAt] using h
    | succ i => simp only [modAt]; rw [ih i (by simpa using h)]

theorem modAt_eq_self (l : List α) (i : Nat) (f : α → α) (d : α)
    (h : f (l.getD i d) = l.getD i d) : modAt l i f = l := by
  rw [modAt_congr l i f (fun a => a) d h, modAt_id]

theorem forall_mem_modAt (l : List α) (i : Nat) (f : α → α) (d : α) (P : α → Prop)
    (h : ∀ a ∈ l, P a) (hf : i < l.length → P (f (l.getD i d))) : ∀ a ∈ modAt l i f, P a := by
  induction l generalizing i with
  | nil => intro a ha; simp [modAt] at ha
  | cons x xs ih =>
    cases i with
    | zero =>
      intro a ha
      simp only [modAt, List.mem_cons] at ha
      rcases ha with rfl | ha
      · exact hf (by simp)
      · exact h a (List.mem_cons_of_mem _ ha)
    | succ i =>
      intro a ha
      simp only [modAt, List.mem_cons] at ha
      rcases ha with rfl | ha
      · exact h _ (List.mem_cons_self)
      · exact ih i (fun a ha => h a (List.mem_cons_of_mem _ ha))
          (fun hi => by simpa using hf (by simpa using hi)) a ha

def tot (m : α → Nat) (l : List α) : Nat := (l.map m).sum

@[simp] theorem tot_nil (m : α → Nat) : tot m [] = 0 := rfl
@[simp] theorem tot_cons (m : α → Nat) (a : α) (l : List α) : tot m (a :: l) = m a + tot m l := by
  simp [tot]

theorem tot_modAt (m : α → Nat) (l : List α) (i : Nat) (f : α → α) (d : α) (hi : i < l.length) :
    tot m (modAt l i f) + m (l.getD i d) = tot m l + m (f (l.getD i d)) := by
  induction l generalizing i with
  | nil => simp at hi
  | cons a as ih =>
    cases i with
    | zero => simp [modAt]; omega
    | succ i =>
      have := ih i (by simpa using hi)
      simp only [modAt, tot_cons, List.getD_cons_succ] at this ⊢
      omega

theorem tot_eq_zero_iff (m : α → Nat) (l : List α) : tot m l = 0 ↔ ∀ a ∈ l, m a = 0 := by
  induction l with
  | nil => simp
  | cons a l ih => simp [ih]

theorem tot_replicate (m : α → Nat) (k : Nat) (a : α) : tot m (List.replicate k a) = k * m a := by
  induction k with
  | zero => simp
  | succ k ih => rw [List.replicate_succ, tot_cons, ih, Nat.succ_mul]; omega

theorem getD_mem_of_lt (l : List α) (i : Nat) (d : α) (hi : i < l.length) : l.getD i d ∈ l := by
  have : l.getD i d = l[i] := by simp [List.getD_eq_getElem?_getD, hi]
  rw [this]; exact List.getElem_mem hi

theorem headD_lt (slots : List Nat) (s : Nat) (hs : 0 < s) (h : ∀ x ∈ slots, x < s) :
    slots.headD 0 < s := by
  cases slots with
  | nil => exact hs
  | cons a as => exact h a List.mem_cons_self

theorem tail_lt (slots : List Nat) (s : Nat) (h : ∀ x ∈ slots, x < s) : ∀ x ∈ slots.tail, x < s :=
  fun x hx => h x (List.mem_of_mem_tail hx)

end modAt

end Gostatix
