/-
  Gostatix.Proofs.TopKCMS — the estimates of the Count-Min sketch never decrease under updates
  (of any element): what discharges the monotonicity part of `TopK.EstOK`.
-/
import Gostatix.Model.CMS
namespace Gostatix.CMS

def LeAll : List Nat → List Nat → Prop
  | [], [] => True
  | a :: as, b :: bs => a ≤ b ∧ LeAll as bs
  | _, _ => False

theorem LeAll.refl : ∀ l, LeAll l l
  | [] => trivial
  | _ :: l => ⟨Nat.le_refl _, LeAll.refl l⟩

theorem foldl_min_mono : ∀ (vs ws : List Nat) (a b : Nat), LeAll vs ws → a ≤ b →
    vs.foldl (fun mn x => if x < mn then x else mn) a ≤
      ws.foldl (fun mn x => if x < mn then x else mn) b
  | [], [], _, _, _, h => h
  | v :: vs, w :: ws, a, b, hl, h => by
    refine foldl_min_mono vs ws _ _ hl.2 ?_
    dsimp only
    split
    · next hva =>
      split
      · exact hl.1
      · exact Nat.le_trans (Nat.le_of_lt hva) h
    · next hva =>
      split
      · exact Nat.le_trans (Nat.le_of_not_lt hva) hl.1
      · exact h
  | [], _ :: _, _, _, hl, _ => hl.elim
  | _ :: _, [], _, _, hl, _ => hl.elim

theorem minInit_mono (vs ws : List Nat) (h : LeAll vs ws) : minInit vs ≤ minInit ws := by
  cases vs <;> cases ws
  · exact Nat.le_refl _
  · exact h.elim
  · exact h.elim
  · exact foldl_min_mono _ _ _ _ h.2 h.1

theorem getD_le_modAt (row : List Nat) (p q c : Nat) :
    row.getD q 0 ≤ (modAt row p (· + c)).getD q 0 := by
  by_cases hp : p < row.length
  · rw [modAt_getD row p q _ 0 hp]
    split
    · rename_i h; subst h; omega
    · exact Nat.le_refl _
  · rw [modAt_of_ge row p _ (by omega)]
    exact Nat.le_refl _

theorem cells_updRows_mono : ∀ (m : List (List Nat)) (p q : List Nat) (c : Nat),
    LeAll (cells m q) (cells (updRows m p c) q)
  | [], _, _, _ => trivial
  | _ :: _, [], [], _ => trivial
  | _ :: _, _ :: _, [], _ => trivial
  | _ :: _, [], _ :: _, _ => LeAll.refl _
  | row :: m, p :: ps, q :: qs, c => ⟨getD_le_modAt row p q c, cells_updRows_mono m ps qs c⟩

/-- **Estimates never decrease**: after any update the estimate of any element is at least its
    previous estimate. -/
theorem count_update_ge (s : CMS) (p q : List Nat) (c : Nat) :
    (s.update p c).count q ≥ s.count q := by
  unfold count update
  exact minInit_mono _ _ (cells_updRows_mono s.m p q c)

end Gostatix.CMS
