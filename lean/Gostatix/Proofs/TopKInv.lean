/-
  Gostatix.Proofs.TopKInv — working with the specification (Model/TopKSpec.lean):
  `step_of_admit`, `step_of_not_admit` (how an implementation takes a `Step`) and `reach_foldl`
  (how it runs through `Reach`) are the interface used by TopKMem, TopKRedis and Props/C04.
  That no element is tracked twice is proved apart from the invariant: it needs no hypothesis on
  the estimates, and `reach_foldl` hands it to the implementations.  Then the invariant
  `Inv0` / `Inv` of a history with Count-Min-like estimates (`EstOK`), its preservation, and the
  size of a reachable heap.
-/
import Gostatix.Proofs.TopKHist
namespace Gostatix.TopK

variable {E : Type} [DecidableEq E]

omit [DecidableEq E] in
theorem exists_min_freq : ∀ (heap : List (E × Nat)), heap ≠ [] →
    ∃ m ∈ heap, ∀ p ∈ heap, m.2 ≤ p.2
  | [], h => absurd rfl h
  | [a], _ => ⟨a, by simp, by simp⟩
  | a :: b :: t, _ => by
    obtain ⟨m, hm, hmin⟩ := exists_min_freq (b :: t) (List.cons_ne_nil _ _)
    by_cases h : a.2 ≤ m.2
    · exact ⟨a, List.mem_cons_self, List.forall_mem_cons.2
        ⟨Nat.le_refl _, fun p hp => Nat.le_trans h (hmin p hp)⟩⟩
    · exact ⟨m, List.mem_cons_of_mem _ hm, List.forall_mem_cons.2 ⟨Nat.le_of_not_le h, hmin⟩⟩

omit [DecidableEq E] in
theorem admit_iff_isMinFreq (k : Nat) (heap : List (E × Nat)) (f : Nat) :
    Admit k heap f ↔ (heap.length < k ∨ ∃ mn, isMinFreq heap mn ∧ mn ≤ f) := by
  unfold Admit isMinFreq
  constructor
  · rintro (h | ⟨m, hm, hmin, hf⟩)
    · exact Or.inl h
    · exact Or.inr ⟨m.2, ⟨⟨m, hm, rfl⟩, hmin⟩, hf⟩
  · rintro (h | ⟨mn, ⟨⟨m, hm, rfl⟩, hmin⟩, hf⟩)
    · exact Or.inl h
    · exact Or.inr ⟨m, hm, hmin, hf⟩

theorem mem_upsert (heap : List (E × Nat)) (x : E) (f : Nat) (p : E × Nat) :
    p ∈ upsert heap x f ↔ (p ∈ heap ∧ p.1 ≠ x) ∨ p = (x, f) := by
  simp [upsert, List.mem_filter]

theorem upsert_nodup (heap : List (E × Nat)) (x : E) (f : Nat)
    (h : (heap.map (·.1)).Nodup) : ((upsert heap x f).map (·.1)).Nodup := by
  unfold upsert
  rw [List.map_append, List.nodup_append]
  refine ⟨List.Nodup.sublist (List.Sublist.map _ List.filter_sublist) h, by simp, ?_⟩
  intro a ha b hb
  simp only [List.map_cons, List.map_nil, List.mem_singleton] at hb
  subst hb
  simp only [List.mem_map, List.mem_filter] at ha
  obtain ⟨p, ⟨_, hp⟩, rfl⟩ := ha
  simpa using hp

theorem filter_ne_of_nodup_snoc {r : List (E × Nat)} {e : E × Nat}
    (hn : ((r ++ [e]).map (·.1)).Nodup) : (r ++ [e]).filter (fun p => p.1 ≠ e.1) = r := by
  rw [List.map_append, List.nodup_append] at hn
  rw [List.filter_append, List.filter_eq_self.2 fun p hp =>
    decide_eq_true (hn.2.2 _ (List.mem_map_of_mem hp) _ (List.mem_singleton.2 rfl))]
  simp

theorem length_le_filter_succ (x : E) : ∀ (heap : List (E × Nat)), (heap.map (·.1)).Nodup →
    heap.length ≤ (heap.filter (fun e => e.1 ≠ x)).length + 1
  | [], _ => by simp
  | p :: t, h => by
    rw [List.map_cons, List.nodup_cons] at h
    by_cases hp : p.1 = x
    · -- no other entry has the key `x`
      have hall : ∀ q ∈ t, (decide (q.1 ≠ x)) = true := fun q hq =>
        decide_eq_true fun hq' => h.1 (by rw [hp, ← hq']; exact List.mem_map_of_mem hq)
      rw [List.filter_cons_of_neg (by simp [hp]), List.filter_eq_self.2 hall]
      exact Nat.le_refl _
    · rw [List.filter_cons_of_pos (by simpa using hp)]
      exact Nat.succ_le_succ (length_le_filter_succ x t h.2)

theorem upsert_length_le (heap : List (E × Nat)) (x : E) (f : Nat) :
    (upsert heap x f).length ≤ heap.length + 1 := by
  have := List.length_filter_le (fun e : E × Nat => decide (e.1 ≠ x)) heap
  simp only [upsert, List.length_append, List.length_cons, List.length_nil]; omega

theorem le_upsert_length (heap : List (E × Nat)) (x : E) (f : Nat)
    (h : (heap.map (·.1)).Nodup) : heap.length ≤ (upsert heap x f).length := by
  have := length_le_filter_succ x heap h
  simp only [upsert, List.length_append, List.length_cons, List.length_nil]; omega

variable {k : Nat} {evs : List (Event E)} {heap heap' u : List (E × Nat)} {xf : E × Nat}

/-- How an implementation takes an admitted step: it builds the upserted entries `u` in some
    order and, over capacity, splits off an entry `v` of minimal frequency. -/
theorem step_of_admit (hA : Admit k heap xf.2) (hu : u.Perm (upsert heap xf.1 xf.2))
    (hev : k < u.length → ∃ v, (∀ e ∈ u, v.2 ≤ e.2) ∧ (v :: heap').Perm u)
    (hkeep : ¬ k < u.length → heap'.Perm u) : Step k heap xf heap' := by
  refine ⟨fun _ => ⟨fun hgt => ?_, fun hgt => (hkeep (hu.length_eq ▸ hgt)).trans hu⟩,
    fun h => absurd hA h⟩
  obtain ⟨v, hmin, hp⟩ := hev (hu.length_eq ▸ hgt)
  have hv : v ∈ u := hp.mem_iff.1 List.mem_cons_self
  exact ⟨v, hu.mem_iff.1 hv, fun e he => hmin e (hu.mem_iff.2 he),
    (hp.trans (List.perm_cons_erase hv)).cons_inv.trans (hu.erase v)⟩

theorem step_of_not_admit (hA : ¬ Admit k heap xf.2) (hp : heap'.Perm heap) : Step k heap xf heap' :=
  ⟨fun h => absurd h hA, fun _ => hp⟩

theorem step_nodup (hs : Step k heap xf heap') (hn : (heap.map (·.1)).Nodup) : (heap'.map (·.1)).Nodup := by
  obtain ⟨hadm, hrej⟩ := hs
  by_cases hA : Admit k heap xf.2
  · obtain ⟨hev, hkeep⟩ := hadm hA
    have h1 := upsert_nodup heap xf.1 xf.2 hn
    by_cases hgt : k < (upsert heap xf.1 xf.2).length
    · obtain ⟨v, _, _, hp⟩ := hev hgt
      exact ((hp.map (·.1)).nodup_iff).2
        (List.Nodup.sublist (List.Sublist.map _ List.erase_sublist) h1)
    · exact (((hkeep hgt).map (·.1)).nodup_iff).2 h1
  · exact (((hrej hA).map (·.1)).nodup_iff).2 hn

theorem reach_nodup (hr : Reach k evs heap) : (heap.map (·.1)).Nodup := by
  induction hr with
  | nil => simp
  | snoc _ hs ih => exact step_nodup hs ih

/-- Any implementation whose step refines `Step` (on states satisfying its own invariant `I`,
    read through `abs`) runs through reachable heaps of the specification. -/
theorem reach_foldl {σ : Type} (abs : σ → List (E × Nat)) (I : σ → Prop) (off : σ → Event E → σ)
    (k : Nat)
    (hstep : ∀ s e, I s → ((abs s).map (·.1)).Nodup →
      Step k (abs s) (e.x, e.f) (abs (off s e)) ∧ I (off s e))
    (s₀ : σ) (h₀ : abs s₀ = []) (hI : I s₀) (evs : List (Event E)) :
    Reach k evs (abs (evs.foldl off s₀)) ∧ I (evs.foldl off s₀) := by
  induction evs using snocInd with
  | nil => exact ⟨h₀ ▸ Reach.nil, hI⟩
  | snoc evs e ih =>
    rw [List.foldl_append]
    obtain ⟨s1, s2⟩ := hstep _ e ih.2 (reach_nodup ih.1)
    exact ⟨Reach.snoc ih.1 s1, s2⟩

/-- the part of the invariant that does not mention `k` -/
structure Inv0 (evs : List (Event E)) (heap : List (E × Nat)) : Prop where
  nodup : (heap.map (·.1)).Nodup
  /-- the stored frequency is the estimate of the element's LAST insert -/
  stored : ∀ p ∈ heap, lastEst evs p.1 = some p.2
  /-- an untracked element's last estimate is at most every stored frequency -/
  light : ∀ y g, lastEst evs y = some g → (∀ p ∈ heap, p.1 ≠ y) → ∀ p ∈ heap, g ≤ p.2

structure Inv (k : Nat) (evs : List (Event E)) (heap : List (E × Nat)) : Prop
    extends Inv0 evs heap where
  size : heap.length ≤ k
  /-- while the heap is not full every inserted element is tracked -/
  notfull : heap.length < k → ∀ y g, lastEst evs y = some g → ∃ p ∈ heap, p.1 = y

theorem Inv0.perm (hi : Inv0 evs heap) (hp : heap'.Perm heap) : Inv0 evs heap' where
  nodup := ((hp.map (·.1)).nodup_iff).2 hi.nodup
  stored := fun p hm => hi.stored p (hp.mem_iff.1 hm)
  light := fun y g hg hno p hm =>
    hi.light y g hg (fun q hq => hno q (hp.mem_iff.2 hq)) p (hp.mem_iff.1 hm)

theorem Inv.perm (hi : Inv k evs heap) (hp : heap'.Perm heap) : Inv k evs heap' where
  toInv0 := hi.toInv0.perm hp
  size := by rw [hp.length_eq]; exact hi.size
  notfull := fun hl y g hg => by
    obtain ⟨p, hm, hk⟩ := hi.notfull (by rw [← hp.length_eq]; exact hl) y g hg
    exact ⟨p, hp.mem_iff.2 hm, hk⟩

theorem inv_nil (k : Nat) : Inv k ([] : List (Event E)) [] where
  nodup := by simp
  stored := by simp
  light := by simp
  size := by simp
  notfull := by simp

/-- a tracked element is always re-admitted by its own insert: its new estimate is at least
    its stored one, which is at least the minimum. -/
theorem admit_of_tracked (hi : Inv0 evs heap) (e : Event E)
    (hmono : ∀ e' ∈ evs, e'.x = e.x → e'.f ≤ e.f)
    (p : E × Nat) (hp : p ∈ heap) (hx : p.1 = e.x) : Admit k heap e.f := by
  obtain ⟨m, hm, hmin⟩ := exists_min_freq heap (List.ne_nil_of_mem hp)
  obtain ⟨e', he', hx', hf'⟩ := lastEst_mem evs p.1 p.2 (hi.stored p hp)
  have : p.2 ≤ e.f := by rw [← hf']; exact hmono e' he' (hx'.trans hx)
  exact Or.inr ⟨m, hm, hmin, Nat.le_trans (hmin p hp) this⟩

theorem inv_reject (hi : Inv k evs heap) (e : Event E)
    (hmono : ∀ e' ∈ evs, e'.x = e.x → e'.f ≤ e.f)
    (hA : ¬ Admit k heap e.f) : Inv k (evs ++ [e]) heap := by
  have hnot : ∀ p ∈ heap, p.1 ≠ e.x := fun p hp hx =>
    hA (admit_of_tracked hi.toInv0 e hmono p hp hx)
  have hfull : ¬ heap.length < k := fun h => hA (Or.inl h)
  refine { nodup := hi.nodup, size := hi.size, stored := ?_, light := ?_, notfull := ?_ }
  · intro p hp
    rw [lastEst_snoc_ne evs e p.1 (fun h => hnot p hp h.symm)]
    exact hi.stored p hp
  · intro y g hg hno p hp
    by_cases hy : e.x = y
    · subst hy
      obtain rfl : e.f = g := Option.some.inj ((lastEst_snoc_self evs e).symm.trans hg)
      obtain ⟨m, hm, hmin⟩ := exists_min_freq heap (List.ne_nil_of_mem hp)
      exact Nat.le_trans (Nat.le_of_lt (Nat.lt_of_not_le fun h => hA (Or.inr ⟨m, hm, hmin, h⟩)))
        (hmin p hp)
    · rw [lastEst_snoc_ne evs e y hy] at hg
      exact hi.light y g hg hno p hp
  · intro h; exact absurd h hfull

theorem inv0_upsert (hi : Inv k evs heap) (e : Event E) (hA : Admit k heap e.f) :
    Inv0 (evs ++ [e]) (upsert heap e.x e.f) := by
  refine { nodup := upsert_nodup heap e.x e.f hi.nodup, stored := ?_, light := ?_ }
  · intro p hp
    rcases (mem_upsert heap e.x e.f p).1 hp with ⟨hm, hne⟩ | rfl
    · rw [lastEst_snoc_ne evs e p.1 (fun h => hne h.symm)]
      exact hi.stored p hm
    · exact lastEst_snoc_self evs e
  · intro y g hg hno p hp
    have hy : e.x ≠ y := fun h => hno (e.x, e.f) ((mem_upsert _ _ _ _).2 (Or.inr rfl)) h
    rw [lastEst_snoc_ne evs e y hy] at hg
    have hno' : ∀ q ∈ heap, q.1 ≠ y := by
      intro q hq hqy
      exact hno q ((mem_upsert _ _ _ _).2 (Or.inl ⟨hq, fun h => hy (h.symm.trans hqy)⟩)) hqy
    rcases (mem_upsert heap e.x e.f p).1 hp with ⟨hm, _⟩ | rfl
    · exact hi.light y g hg hno' p hm
    · rcases hA with hl | ⟨m, hm, _, hf⟩
      · obtain ⟨q, hq, hqy⟩ := hi.notfull hl y g hg
        exact absurd hqy (hno' q hq)
      · exact Nat.le_trans (hi.light y g hg hno' m hm) hf

theorem inv0_erase (hi : Inv0 evs heap)
    (v : E × Nat) (hmin : ∀ p ∈ heap, v.2 ≤ p.2) : Inv0 evs (heap.erase v) := by
  have hsub : ∀ p ∈ heap.erase v, p ∈ heap := fun p hp => List.mem_of_mem_erase hp
  refine { nodup := ?_, stored := fun p hp => hi.stored p (hsub p hp), light := ?_ }
  · exact List.Nodup.sublist (List.Sublist.map _ List.erase_sublist) hi.nodup
  · intro y g hg hno p hp
    by_cases hex : ∃ q ∈ heap, q.1 = y
    · obtain ⟨q, hq, hqy⟩ := hex
      -- the tracked entry of `y` is gone, so it was the victim
      obtain rfl : q = v :=
        Decidable.byContradiction fun hne => hno q ((List.mem_erase_of_ne hne).2 hq) hqy
      have := hi.stored q hq
      rw [hqy, hg] at this
      exact Option.some.inj this ▸ hmin p (hsub p hp)
    · have hno' : ∀ q ∈ heap, q.1 ≠ y := fun q hq hqy => hex ⟨q, hq, hqy⟩
      exact hi.light y g hg hno' p (hsub p hp)

theorem inv_step (hi : Inv k evs heap) (e : Event E)
    (hmono : ∀ e' ∈ evs, e'.x = e.x → e'.f ≤ e.f)
    (hs : Step k heap (e.x, e.f) heap') : Inv k (evs ++ [e]) heap' := by
  obtain ⟨hadm, hrej⟩ := hs
  by_cases hA : Admit k heap e.f
  · obtain ⟨hev, hkeep⟩ := hadm hA
    have h0 := inv0_upsert hi e hA
    by_cases hgt : k < (upsert heap e.x e.f).length
    · obtain ⟨v, hv, hvmin, hperm⟩ := hev hgt
      have hlen : heap'.length = (upsert heap e.x e.f).length - 1 := by
        rw [hperm.length_eq, List.length_erase_of_mem hv]
      have hle : (upsert heap e.x e.f).length ≤ k + 1 :=
        Nat.le_trans (upsert_length_le heap e.x e.f) (Nat.add_le_add_right hi.size 1)
      exact { toInv0 := (inv0_erase h0 v hvmin).perm hperm
              size := hlen ▸ Nat.sub_le_of_le_add hle
              notfull := fun hl => absurd (hlen ▸ hl) (Nat.not_lt.2 (Nat.le_sub_one_of_lt hgt)) }
    · have hperm := hkeep hgt
      refine { toInv0 := h0.perm hperm, size := hperm.length_eq ▸ Nat.le_of_not_lt hgt,
               notfull := fun hl y g hg => ?_ }
      -- `heap` was not full either, so it tracked every element of the old history
      have hl' : heap.length < k :=
        Nat.lt_of_le_of_lt (le_upsert_length heap e.x e.f hi.nodup) (hperm.length_eq ▸ hl)
      by_cases hy : e.x = y
      · exact ⟨(e.x, e.f), hperm.mem_iff.2 ((mem_upsert _ _ _ _).2 (Or.inr rfl)), hy⟩
      · rw [lastEst_snoc_ne evs e y hy] at hg
        obtain ⟨p, hp, hpy⟩ := hi.notfull hl' y g hg
        exact ⟨p, hperm.mem_iff.2 ((mem_upsert _ _ _ _).2
          (Or.inl ⟨hp, fun h => hy (h.symm.trans hpy)⟩)), hpy⟩
  · exact (inv_reject hi e hmono hA).perm (hrej hA)

theorem reach_inv (hr : Reach k evs heap) (he : EstOK evs) : Inv k evs heap := by
  induction hr with
  | nil => exact inv_nil k
  | @snoc evs heap e heap' _ hs ih =>
    obtain ⟨h0, _, _, hmono⟩ := (estOK_snoc evs e).1 he
    exact inv_step (ih h0) e hmono hs

theorem inv_size (hi : Inv k evs heap) : heap.length = min k (numDistinct evs) := by
  unfold numDistinct
  -- tracked elements occur in the history; while the heap is not full, all of them are tracked
  have hle := hi.nodup.length_le_of_subset (l₂ := distinct (evs.map (·.x))) fun a ha => by
    obtain ⟨p, hp, rfl⟩ := List.mem_map.1 ha
    obtain ⟨e, he, hx, _⟩ := lastEst_mem evs p.1 p.2 (hi.stored p hp)
    exact (mem_distinct _ _).2 (List.mem_map.2 ⟨e, he, hx⟩)
  have hge : heap.length < k → (distinct (evs.map (·.x))).length ≤ (heap.map (·.1)).length :=
    fun hl => (distinct_nodup _).length_le_of_subset fun a ha => by
      obtain ⟨e, he, rfl⟩ := List.mem_map.1 ((mem_distinct _ _).1 ha)
      obtain ⟨g, hg⟩ := lastEst_of_mem evs e he
      obtain ⟨p, hp, hpx⟩ := hi.notfull hl e.x g hg
      exact List.mem_map.2 ⟨p, hp, hpx⟩
  rw [List.length_map] at hle hge
  have hsz := hi.size
  omega

end Gostatix.TopK
