/-
  Gostatix.Proofs.Bloom — helper lemmas for the Bloom filter properties (Props/C01.lean) and for
  the counting of Proofs/BloomProb.lean: which bits `setBits` sets (`setBits_getD_iff`), that
  bits are never cleared and the length never changes along a history.
-/
import Gostatix.Model.Bloom
namespace Gostatix.Bloom

theorem setBits_length (bits : List Bool) (ps : List Nat) : (setBits bits ps).length = bits.length := by
  induction ps generalizing bits with
  | nil => rfl
  | cons p ps ih => simp [setBits, List.foldl_cons] at *; rw [ih]; simp

theorem getD_set_true_iff (bits : List Bool) (p q : Nat) :
    (bits.set p true).getD q false = true
      ↔ bits.getD q false = true ∨ (q < bits.length ∧ q = p) := by
  by_cases e : p = q
  · subst e
    by_cases hl : p < bits.length
    · simp [List.getD_eq_getElem?_getD, hl]
    · simp [List.getD_eq_getElem?_getD, hl]
  · have e' : ¬ q = p := fun h => e h.symm
    simp [List.getD_eq_getElem?_getD, List.getElem?_set_ne e, e']

theorem setBits_getD_iff (bits : List Bool) (ps : List Nat) (q : Nat) :
    (setBits bits ps).getD q false = true
      ↔ bits.getD q false = true ∨ (q < bits.length ∧ q ∈ ps) := by
  induction ps generalizing bits with
  | nil => exact ⟨Or.inl, fun h => h.elim id fun h => absurd h.2 List.not_mem_nil⟩
  | cons p ps ih =>
    show (setBits (bits.set p true) ps).getD q false = true ↔ _
    rw [ih, getD_set_true_iff, List.length_set, List.mem_cons, and_or_left, or_assoc]

theorem setBits_mono (bits : List Bool) (ps : List Nat) (q : Nat) (h : bits.getD q false = true) :
    (setBits bits ps).getD q false = true :=
  (setBits_getD_iff bits ps q).2 (Or.inl h)

theorem setBits_sets (bits : List Bool) (ps : List Nat) (q : Nat) (hq : q ∈ ps) (hr : q < bits.length) :
    (setBits bits ps).getD q false = true :=
  (setBits_getD_iff bits ps q).2 (Or.inr ⟨hr, hq⟩)

theorem lookup_mono (b b' : Bloom) (ps : List Nat)
    (hle : ∀ q, b.bits.getD q false = true → b'.bits.getD q false = true)
    (h : b.lookup ps = true) : b'.lookup ps = true := by
  simp only [lookup, List.all_eq_true] at *
  intro p hp; exact hle p (h p hp)

theorem insert_bits_mono (b : Bloom) (ps : List Nat) (q : Nat) (h : b.bits.getD q false = true) :
    (b.insert ps).bits.getD q false = true := setBits_mono b.bits ps q h

theorem step_bits_mono {E} (probes : E → List Nat) (b : Bloom) (op : BloomOp E) (q : Nat)
    (h : b.bits.getD q false = true) : (step probes b op).bits.getD q false = true := by
  cases op with
  | insert e => exact insert_bits_mono b _ q h
  | lookup e => exact h

theorem run_bits_mono {E} (probes : E → List Nat) (b : Bloom) (h : List (BloomOp E)) (q : Nat)
    (hq : b.bits.getD q false = true) : (run probes b h).bits.getD q false = true := by
  induction h generalizing b with
  | nil => exact hq
  | cons op h ih => exact ih _ (step_bits_mono probes b op q hq)

theorem step_length {E} (probes : E → List Nat) (b : Bloom) (op : BloomOp E) :
    (step probes b op).bits.length = b.bits.length := by
  cases op with
  | insert e => exact setBits_length _ _
  | lookup e => rfl

theorem run_length {E} (probes : E → List Nat) (b : Bloom) (h : List (BloomOp E)) :
    (run probes b h).bits.length = b.bits.length := by
  induction h generalizing b with
  | nil => rfl
  | cons op h ih => simp only [run, List.foldl_cons] at *; rw [ih]; exact step_length probes b op

end Gostatix.Bloom
