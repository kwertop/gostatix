/-
  Gostatix.Proofs.C14Strict — the cuckoo `Insert` WITHOUT totalised accesses
  (helpers for Props/C14Strict.lean and for `C14_failure_signalled` of Props/C14.lean).  Generic in
  the bucket implementation.

  The model's accesses are total (`getD`, `modAt`); the Go code indexes a slice (panic), a map of
  bucket handles (nil handle: panic) or a Redis list (LINDEX nil reply / LSET error).  `kickS`,
  `rollbackS`, `insertS` are the walk, the replay and `Insert` on `bs[i]?` and primitives with an
  explicit failure (`StrictOps`; `none` = "the Go code leaves the path the model describes").
  `kick_walk` (which buckets and slots the totalised walk touches) is the induction everything
  rests on; `WalkInv` / `walk_round` / `rollback_round` tell the same round by round, as an
  invariant, and the whole-walk theorems do not go through them.  The two `StrictLawful` instances
  are in Props/C14Strict.lean, next to the Go lines they transcribe.

  No `fp ≠ emp` hypothesis anywhere: the invariant only uses that a slot write keeps the cached
  length (`isFree_set`) and the number of slots (`slots_set`).
  Core Lean only.
-/
import Gostatix.Proofs.CuckooFilter
set_option linter.unusedSectionVars false
namespace Gostatix

/-- the bucket primitives `Insert` uses, with an explicit failure (`none`) -/
structure StrictOps (B F : Type) where
  /-- `at(index)` -/
  get? : B → Nat → Option F
  /-- `set(index, element)` -/
  set? : B → Nat → F → Option B
  /-- `add(element)` -/
  add? : B → F → Option B

namespace Cuckoo

section defs
variable {B F : Type}

/-- strict `modAt`: the bucket must exist and the update must succeed -/
def modAt? (bs : List B) (i : Nat) (f : B → Option B) : Option (List B) :=
  (bs[i]?).bind fun b => (f b).map fun b' => bs.set i b'

/-- the eviction loop on the strict primitives.  Same control flow and same order of accesses as
    `Cuckoo.kick` (and as the Go loop: `at`, `set`, `isFree` of the alternate bucket, `add`).
    The random stream is still read with `headD 0`: that is a draw, not a memory access. -/
def kickS (o : BucketOps B F) (so : StrictOps B F) (alt : Nat → F → Nat) :
    Nat → List B → Nat → F → List Nat → List (F × Nat × Nat) →
      Option (List B × List (F × Nat × Nat) × Bool)
  | 0, bs, _, _, _, log => some (bs, log, false)
  | r+1, bs, idx, cur, slots, log =>
    (bs[idx]?).bind fun b =>
    (so.get? b (slots.headD 0)).bind fun prev =>
    (so.set? b (slots.headD 0) cur).bind fun b' =>
    ((bs.set idx b')[alt idx prev]?).bind fun nb =>
    if o.isFree nb then
      (so.add? nb prev).map fun nb' =>
        ((bs.set idx b').set (alt idx prev) nb', (prev, idx, slots.headD 0) :: log, true)
    else kickS o so alt r (bs.set idx b') (alt idx prev) prev slots.tail
      ((prev, idx, slots.headD 0) :: log)

/-- the roll-back replay on the strict primitives (newest entry first, as `Cuckoo.rollback`) -/
def rollbackS (so : StrictOps B F) : List B → List (F × Nat × Nat) → Option (List B)
  | bs, [] => some bs
  | bs, it :: log =>
    (modAt? bs it.2.1 (fun b => so.set? b it.2.2 it.1)).bind fun bs' => rollbackS so bs' log

/-- `Insert(data, destructive)` on the strict primitives.  As in Go the second candidate bucket is
    only addressed when the first one is full. -/
def insertS (o : BucketOps B F) (so : StrictOps B F) (alt : Nat → F → Nat) (c : Cuckoo B)
    (fp : F) (i1 i2 : Nat) (destructive : Bool) (side : Bool) (slots : List Nat) :
    Option (CRes (Cuckoo B)) :=
  (c.buckets[i1]?).bind fun b1 =>
  if o.isFree b1 then
    (so.add? b1 fp).map fun b' =>
      .ok { c with buckets := c.buckets.set i1 b', length := c.length + 1 }
  else
    (c.buckets[i2]?).bind fun b2 =>
    if o.isFree b2 then
      (so.add? b2 fp).map fun b' =>
        .ok { c with buckets := c.buckets.set i2 b', length := c.length + 1 }
    else
      (kickS o so alt c.retries c.buckets (if side then i1 else i2) fp slots []).bind fun res =>
      if res.2.2 then some (.ok { c with buckets := res.1, length := c.length + 1 })
      else if destructive then some (.full { c with buckets := res.1 })
      else (rollbackS so res.1 res.2.1).map fun bs' => .full { c with buckets := bs' }

/-- the arguments of one `Insert` call are in range: candidate buckets and every alternate bucket
    `< n`, every drawn slot `< bsize`, and the table is not degenerate -/
structure InRange (c : Cuckoo B) (alt : Nat → F → Nat) (i1 i2 : Nat) (slots : List Nat) : Prop where
  n_pos : 0 < c.n
  bsize_pos : 0 < c.bsize
  i1_lt : i1 < c.n
  i2_lt : i2 < c.n
  alt_lt : ∀ j f, j < c.n → alt j f < c.n
  slots_lt : ∀ x ∈ slots, x < c.bsize

end defs

section
variable {B F : Type} [DecidableEq F] [Inhabited B] {o : BucketOps B F} {emp : F}

/-! ### the walk of the totalised `insert` -/

/-- what the walk needs of the table: `n` buckets; a bucket WITHOUT room has exactly `s` slots; a
    bucket WITH room is well-formed.  Weaker than `WFbs` (`WalkShape.of_wf`), and — unlike `WFbs` —
    kept by a slot write of ANY fingerprint, the empty one included. -/
structure WalkShape (L : LawfulBucket o emp) (n s : Nat) (bs : List B) : Prop where
  len : bs.length = n
  full : ∀ j, j < n → o.isFree (bucketAt bs j) = false → (L.slots (bucketAt bs j)).length = s
  free : ∀ j, j < n → o.isFree (bucketAt bs j) = true → L.wfb s (bucketAt bs j)

theorem WalkShape.of_wf {L : LawfulBucket o emp} {n s : Nat} {bs : List B} (h : WFbs L n s bs) :
    WalkShape L n s bs :=
  ⟨h.len, fun j hj hf => (full_of_not_free L s _ (h.at j hj) hf).1, fun j hj _ => h.at j hj⟩

theorem slotsLen_modAt_set (L : LawfulBucket o emp) (bs : List B) (i k : Nat) (x : F) (j : Nat) :
    (L.slots (bucketAt (modAt bs i (fun b => o.set b k x)) j)).length
      = (L.slots (bucketAt bs j)).length := by
  rcases Nat.lt_or_ge i bs.length with hi | hi
  · rw [bucketAt_modAt bs i j _ hi]
    split
    · subst j; rw [L.slots_set, List.length_set]
    · rfl
  · rw [modAt_of_ge bs i _ hi]

/-- `hset`: a slot write does not touch the cached length.  Both bucket kinds have it by `rfl`; it
    is a hypothesis of the walk lemmas, not a law of `LawfulBucket`, because the counting proofs
    never need it (`LawfulBucket` only says so for a write that keeps the number of occupied
    slots). -/
theorem isFree_modAt_set (hset : ∀ b i e, o.isFree (o.set b i e) = o.isFree b)
    (bs : List B) (i k : Nat) (x : F) (j : Nat) :
    o.isFree (bucketAt (modAt bs i (fun b => o.set b k x)) j) = o.isFree (bucketAt bs j) := by
  rcases Nat.lt_or_ge i bs.length with hi | hi
  · rw [bucketAt_modAt bs i j _ hi]
    split
    · subst j; exact hset ..
    · rfl
  · rw [modAt_of_ge bs i _ hi]

theorem WalkShape.modAt_set {L : LawfulBucket o emp}
    (hset : ∀ b i e, o.isFree (o.set b i e) = o.isFree b)
    {n s : Nat} {bs : List B} (h : WalkShape L n s bs) (i k : Nat) (x : F)
    (hfull : o.isFree (bucketAt bs i) = false) :
    WalkShape L n s (modAt bs i (fun b => o.set b k x)) := by
  refine ⟨by rw [modAt_length, h.len], fun j hj hf => ?_, fun j hj hf => ?_⟩ <;>
    rw [isFree_modAt_set hset] at hf
  · rw [slotsLen_modAt_set]
    exact h.full j hj hf
  · -- a bucket with room is not the one written to
    have e : j ≠ i := fun e => by rw [e, hfull] at hf; cases hf
    rw [bucketAt, modAt_getD_ne _ _ _ _ _ e]
    exact h.free j hj hf

/-- **the whole walk**, for every `r`, random stream, carried fingerprint (the empty one included)
    and log so far; `new` are the entries this run added (newest first).  All facts are about the
    INITIAL table `bs`: no slot write changes `isFree` or a number of slots. -/
theorem kick_walk (L : LawfulBucket o emp) (alt : Nat → F → Nat) (n s : Nat)
    (hAlt : ∀ j f, j < n → alt j f < n) (hs : 0 < s)
    (r : Nat) (bs : List B) (idx : Nat) (cur : F) (slots : List Nat) (log : List (F × Nat × Nat))
    (hset : ∀ b i e, o.isFree (o.set b i e) = o.isFree b)
    (hsh : WalkShape L n s bs) (hidx : idx < n) (hfull : o.isFree (bucketAt bs idx) = false)
    (hsl : ∀ x ∈ slots, x < s) :
    ∃ new, (kick o alt r bs idx cur slots log).2.1 = new ++ log ∧
      (∀ e ∈ new, e.2.1 < n ∧ e.2.2 < s ∧ alt e.2.1 e.1 < n ∧
        o.isFree (bucketAt bs e.2.1) = false) ∧
      ((kick o alt r bs idx cur slots log).2.2 = false → new.length = r ∧
        WalkShape L n s (kick o alt r bs idx cur slots log).1 ∧
        (∀ j, o.isFree (bucketAt (kick o alt r bs idx cur slots log).1 j) = o.isFree (bucketAt bs j)) ∧
        ∀ e ∈ new, o.isFree (bucketAt bs (alt e.2.1 e.1)) = false) := by
  fun_induction kick o alt r bs idx cur slots log with
  | case1 bs idx cur slots log =>
    exact ⟨[], rfl, nofun, fun _ => ⟨rfl, hsh, fun _ => rfl, nofun⟩⟩
  | case2 r bs idx cur slots log slot prev log1 bs1 nidx hfree =>
    refine ⟨[(prev, idx, slot)], rfl, fun e he => ?_, nofun⟩
    obtain rfl := List.mem_singleton.mp he
    exact ⟨hidx, headD_lt slots s hs hsl, hAlt idx prev hidx, hfull⟩
  | case3 r bs idx cur slots log slot prev log1 bs1 nidx hfree ih =>
    have hnidx : nidx < n := hAlt idx prev hidx
    have hfree1 : ∀ j, o.isFree (bucketAt bs1 j) = o.isFree (bucketAt bs j) :=
      isFree_modAt_set hset bs idx slot cur
    have hfull1 : o.isFree (bucketAt bs1 nidx) = false := by simpa using hfree
    obtain ⟨new, h1, h2, h3⟩ :=
      ih (hsh.modAt_set hset idx slot cur hfull) hnidx hfull1 (tail_lt slots s hsl)
    refine ⟨new ++ [(prev, idx, slot)], by rw [h1, List.append_assoc]; rfl, fun e he => ?_,
      fun hf => ?_⟩
    · rcases List.mem_append.mp he with he | he
      · rw [← hfree1]; exact h2 e he
      · obtain rfl := List.mem_singleton.mp he
        exact ⟨hidx, headD_lt slots s hs hsl, hnidx, hfull⟩
    · obtain ⟨a, b, c, d⟩ := h3 hf
      refine ⟨by rw [List.length_append, a]; rfl, b, fun j => (c j).trans (hfree1 j), fun e he => ?_⟩
      rw [← hfree1]
      rcases List.mem_append.mp he with he | he
      · exact d e he
      · obtain rfl := List.mem_singleton.mp he
        exact hfull1

theorem insert_full_walk (L : LawfulBucket o emp) (alt : Nat → F → Nat) (c : Cuckoo B) (fp : F) (i1 i2 : Nat)
    (d side : Bool) (slots : List Nat) (c' : Cuckoo B)
    (hset : ∀ b i e, o.isFree (o.set b i e) = o.isFree b)
    (hsh : WalkShape L c.n c.bsize c.buckets)
    (hAlt : ∀ j f, j < c.n → alt j f < c.n) (hs : 0 < c.bsize) (hi1 : i1 < c.n) (hi2 : i2 < c.n)
    (hsl : ∀ x ∈ slots, x < c.bsize) (h : insert o alt c fp i1 i2 d side slots = .full c') :
    o.isFree (bucketAt c.buckets i1) = false ∧ o.isFree (bucketAt c.buckets i2) = false ∧
    ∃ bs log, kick o alt c.retries c.buckets (if side then i1 else i2) fp slots [] = (bs, log, false) ∧
      log.length = c.retries ∧
      ∀ e ∈ log, e.2.1 < c.n ∧ e.2.2 < c.bsize ∧ alt e.2.1 e.1 < c.n ∧
        o.isFree (bucketAt c.buckets e.2.1) = false ∧
        o.isFree (bucketAt c.buckets (alt e.2.1 e.1)) = false := by
  obtain ⟨hf1, hf2, bs, log, hk, _⟩ := insert_full_kick alt c fp i1 i2 d side slots c' h
  have hst := kick_start c.buckets c.n i1 i2 side hi1 hi2 hf1 hf2
  obtain ⟨new, e1, e2, e3⟩ := kick_walk L alt c.n c.bsize hAlt hs c.retries c.buckets _ fp
    slots [] hset hsh hst.1 hst.2 hsl
  rw [hk] at e1 e3
  rw [List.append_nil] at e1
  subst e1
  obtain ⟨hlen, _, _, hfa⟩ := e3 rfl
  exact ⟨hf1, hf2, bs, log, hk, hlen,
    fun e he => let ⟨a, b, cc, dd⟩ := e2 e he; ⟨a, b, cc, dd, hfa e he⟩⟩

structure StrictLawful (L : LawfulBucket o emp) (so : StrictOps B F) : Prop where
  get?_eq : ∀ b i, so.get? b i = if i < (L.slots b).length then some (o.get b i) else none
  set?_eq : ∀ b i e, so.set? b i e = if i < (L.slots b).length then some (o.set b i e) else none
  add?_ok : ∀ s b e, L.wfb s b → o.isFree b = true → so.add? b e = some (o.add b e)
  isFree_set : ∀ b i e, o.isFree (o.set b i e) = o.isFree b

theorem getElem?_eq_bucketAt (bs : List B) (i : Nat) (hi : i < bs.length) :
    bs[i]? = some (bucketAt bs i) := by
  simp [bucketAt, List.getD_eq_getElem?_getD, hi]

theorem getElem?_eq_ite_getD {α : Type} (l : List α) (i : Nat) (d : α) :
    l[i]? = if i < l.length then some (l.getD i d) else none := by
  split <;> simp [List.getD_eq_getElem?_getD, *]

theorem getElem?_none_of_ge (bs : List B) (i : Nat) (hi : bs.length ≤ i) : bs[i]? = none :=
  List.getElem?_eq_none hi

theorem set_eq_modAt (bs : List B) (i : Nat) (f : B → B) :
    bs.set i (f (bucketAt bs i)) = modAt bs i f := by
  induction bs generalizing i with
  | nil => rfl
  | cons a as ih =>
    cases i with
    | zero => rfl
    | succ i =>
      have := ih i
      simp only [bucketAt, List.getD_cons_succ, List.set_cons_succ, modAt] at this ⊢
      rw [this]

theorem modAt?_eq (bs : List B) (i : Nat) (f : B → Option B) (g : B → B) (hi : i < bs.length)
    (h : f (bucketAt bs i) = some (g (bucketAt bs i))) : modAt? bs i f = some (modAt bs i g) := by
  unfold modAt?
  rw [getElem?_eq_bucketAt bs i hi]
  simp only [Option.bind_some, h, Option.map_some, set_eq_modAt]

theorem modAt?_none_of_ge (bs : List B) (i : Nat) (f : B → Option B) (hi : bs.length ≤ i) :
    modAt? bs i f = none := by
  unfold modAt?; rw [getElem?_none_of_ge bs i hi]; rfl

/-- the log entry `(prev, idx, slot)` addresses an existing slot of an existing bucket of `bs` -/
def EntryIn (L : LawfulBucket o emp) (bs : List B) (e : F × Nat × Nat) : Prop :=
  e.2.1 < bs.length ∧ e.2.2 < (L.slots (bucketAt bs e.2.1)).length

/-- **the invariant**: the table has the walk shape, the carried position is an existing bucket
    without room, and every log entry addresses an existing slot -/
structure WalkInv (L : LawfulBucket o emp) (n s : Nat) (bs : List B) (idx : Nat)
    (log : List (F × Nat × Nat)) : Prop where
  shape : WalkShape L n s bs
  idx_lt : idx < n
  full : o.isFree (bucketAt bs idx) = false
  log_in : ∀ e ∈ log, EntryIn L bs e

theorem EntryIn.modAt_set (L : LawfulBucket o emp) (bs : List B) (i k : Nat) (x : F)
    (e : F × Nat × Nat) (h : EntryIn L bs e) :
    EntryIn L (modAt bs i (fun b => o.set b k x)) e := by
  unfold EntryIn at *
  rw [modAt_length, slotsLen_modAt_set]
  exact h

theorem WalkInv.init (L : LawfulBucket o emp) (alt : Nat → F → Nat) (c : Cuckoo B) (i1 i2 : Nat)
    (side : Bool) (slots : List Nat) (hsh : WalkShape L c.n c.bsize c.buckets)
    (hr : InRange c alt i1 i2 slots) (hf1 : o.isFree (bucketAt c.buckets i1) = false)
    (hf2 : o.isFree (bucketAt c.buckets i2) = false) :
    WalkInv L c.n c.bsize c.buckets (if side then i1 else i2) [] :=
  have hst := kick_start c.buckets c.n i1 i2 side hr.i1_lt hr.i2_lt hf1 hf2
  ⟨hsh, hst.1, hst.2, fun _ h => nomatch h⟩

/-- **one round of the forward walk** keeps the invariant and makes only in-range accesses -/
theorem walk_round (L : LawfulBucket o emp) {so : StrictOps B F} (S : StrictLawful L so)
    (alt : Nat → F → Nat) (n s : Nat) (hAlt : ∀ j f, j < n → alt j f < n)
    (bs : List B) (idx : Nat) (cur : F) (slot : Nat) (log : List (F × Nat × Nat))
    (hI : WalkInv L n s bs idx log) (hslot : slot < s) :
    let prev := o.get (bucketAt bs idx) slot
    let bs1 := modAt bs idx (fun b => o.set b slot cur)
    idx < bs.length ∧ slot < (L.slots (bucketAt bs idx)).length ∧ alt idx prev < bs1.length ∧
    (∀ e ∈ (prev, idx, slot) :: log, EntryIn L bs1 e) ∧
    (o.isFree (bucketAt bs1 (alt idx prev)) = false →
      WalkInv L n s bs1 (alt idx prev) ((prev, idx, slot) :: log)) := by
  intro prev bs1
  have hlen : idx < bs.length := by rw [hI.shape.len]; exact hI.idx_lt
  have hsl : slot < (L.slots (bucketAt bs idx)).length := by
    rw [hI.shape.full idx hI.idx_lt hI.full]; exact hslot
  have hn := hAlt idx prev hI.idx_lt
  have hlog : ∀ e ∈ (prev, idx, slot) :: log, EntryIn L bs1 e := by
    intro e he
    apply EntryIn.modAt_set
    rcases List.mem_cons.mp he with rfl | he
    · exact ⟨hlen, hsl⟩
    · exact hI.log_in e he
  exact ⟨hlen, hsl, by rw [modAt_length, hI.shape.len]; exact hn, hlog,
    fun hf => ⟨hI.shape.modAt_set S.isFree_set idx slot cur hI.full, hn, hf, hlog⟩⟩

theorem rollback_round (L : LawfulBucket o emp) (bs : List B) (e0 : F × Nat × Nat)
    (log : List (F × Nat × Nat)) (h : ∀ e ∈ e0 :: log, EntryIn L bs e) :
    EntryIn L bs e0 ∧
    ∀ e ∈ log, EntryIn L (modAt bs e0.2.1 (fun b => o.set b e0.2.2 e0.1)) e :=
  ⟨h e0 List.mem_cons_self,
    fun e he => EntryIn.modAt_set L bs _ _ _ e (h e (List.mem_cons_of_mem _ he))⟩

theorem EntryIn.of_full (L : LawfulBucket o emp) {n s : Nat} {bs : List B} (h : WalkShape L n s bs)
    (e : F × Nat × Nat) (h1 : e.2.1 < n) (h2 : e.2.2 < s)
    (h3 : o.isFree (bucketAt bs e.2.1) = false) : EntryIn L bs e :=
  ⟨by rw [h.len]; exact h1, by rw [h.full _ h1 h3]; exact h2⟩

/-- **every access of the walk is in range**: `kick_walk` read as `EntryIn`, in the initial table
    and, when the walk fails, in the final one, where the roll-back replay starts. -/
theorem kick_in_range (L : LawfulBucket o emp) {so : StrictOps B F} (S : StrictLawful L so)
    (alt : Nat → F → Nat) (n s : Nat) (hAlt : ∀ j f, j < n → alt j f < n) (hs : 0 < s)
    (r : Nat) (bs : List B) (idx : Nat) (cur : F) (slots : List Nat)
    (bs' : List B) (log' : List (F × Nat × Nat)) (found : Bool)
    (hsh : WalkShape L n s bs) (hidx : idx < n) (hfull : o.isFree (bucketAt bs idx) = false)
    (hsl : ∀ x ∈ slots, x < s)
    (h : kick o alt r bs idx cur slots [] = (bs', log', found)) :
    (∀ e ∈ log', e.2.1 < bs.length ∧ e.2.2 < (L.slots (bucketAt bs e.2.1)).length ∧
      alt e.2.1 e.1 < bs.length) ∧
    (found = false → log'.length = r ∧ bs'.length = bs.length ∧ ∀ e ∈ log', EntryIn L bs' e) := by
  obtain ⟨new, e1, e2, e3⟩ :=
    kick_walk L alt n s hAlt hs r bs idx cur slots [] S.isFree_set hsh hidx hfull hsl
  rw [h] at e1 e3
  rw [List.append_nil] at e1; subst e1
  refine ⟨?_, ?_⟩
  · intro e he
    obtain ⟨a, b, c, d⟩ := e2 e he
    exact ⟨(EntryIn.of_full L hsh e a b d).1, (EntryIn.of_full L hsh e a b d).2, by rw [hsh.len]; exact c⟩
  · intro hf
    obtain ⟨a, hsh', hfree', _⟩ := e3 hf
    refine ⟨a, by rw [hsh'.len, hsh.len], ?_⟩
    intro e he
    obtain ⟨a, b, _, d⟩ := e2 e he
    exact EntryIn.of_full L hsh' e a b (by rw [hfree']; exact d)

theorem kickS_zero (so : StrictOps B F) (alt : Nat → F → Nat) (bs : List B) (idx : Nat) (cur : F)
    (slots : List Nat) (log : List (F × Nat × Nat)) :
    kickS o so alt 0 bs idx cur slots log = some (bs, log, false) := rfl

theorem kickS_succ (so : StrictOps B F) (alt : Nat → F → Nat) (r : Nat) (bs : List B) (idx : Nat)
    (cur : F) (slots : List Nat) (log : List (F × Nat × Nat)) :
    kickS o so alt (r+1) bs idx cur slots log =
      (bs[idx]?).bind fun b =>
      (so.get? b (slots.headD 0)).bind fun prev =>
      (so.set? b (slots.headD 0) cur).bind fun b' =>
      ((bs.set idx b')[alt idx prev]?).bind fun nb =>
      if o.isFree nb then
        (so.add? nb prev).map fun nb' =>
          ((bs.set idx b').set (alt idx prev) nb', (prev, idx, slots.headD 0) :: log, true)
      else kickS o so alt r (bs.set idx b') (alt idx prev) prev slots.tail
        ((prev, idx, slots.headD 0) :: log) := rfl

theorem kickS_eq (L : LawfulBucket o emp) {so : StrictOps B F} (S : StrictLawful L so)
    (alt : Nat → F → Nat) (n s : Nat) (hAlt : ∀ j f, j < n → alt j f < n) (hs : 0 < s) :
    ∀ (r : Nat) (bs : List B) (idx : Nat) (cur : F) (slots : List Nat) (log : List (F × Nat × Nat)),
      WalkShape L n s bs → idx < n → o.isFree (bucketAt bs idx) = false →
      (∀ x ∈ slots, x < s) →
      kickS o so alt r bs idx cur slots log = some (kick o alt r bs idx cur slots log) := by
  intro r
  induction r with
  | zero => intro bs idx cur slots log _ _ _ _; rfl
  | succ r ih =>
    intro bs idx cur slots log hsh hidx hfull hsl
    have hslot := headD_lt slots s hs hsl
    have hlen : idx < bs.length := hsh.len ▸ hidx
    have hsl' : slots.headD 0 < (L.slots (bucketAt bs idx)).length := hsh.full idx hidx hfull ▸ hslot
    have hsh1 := hsh.modAt_set S.isFree_set idx (slots.headD 0) cur hfull
    have hnidx := hAlt idx (o.get (bucketAt bs idx) (slots.headD 0)) hidx
    have hnl := hsh1.len ▸ hnidx
    rw [kickS_succ, kick_succ, getElem?_eq_bucketAt bs idx hlen]
    simp only [Option.bind_some, S.get?_eq, S.set?_eq, if_pos hsl']
    rw [set_eq_modAt bs idx (fun b => o.set b (slots.headD 0) cur), getElem?_eq_bucketAt _ _ hnl]
    simp only [Option.bind_some]
    split
    · rename_i hfree
      rw [S.add?_ok s _ _ (hsh1.free _ hnidx hfree) hfree]
      simp only [Option.map_some]
      rw [set_eq_modAt _ _ (fun b => o.add b (o.get (bucketAt bs idx) (slots.headD 0)))]
    · rename_i hfree
      exact ih _ _ _ _ _ hsh1 hnidx (by simpa using hfree) (tail_lt slots s hsl)

theorem rollbackS_eq (L : LawfulBucket o emp) {so : StrictOps B F} (S : StrictLawful L so) :
    ∀ (log : List (F × Nat × Nat)) (bs : List B), (∀ e ∈ log, EntryIn L bs e) →
      rollbackS so bs log = some (rollback o bs log) := by
  intro log
  induction log with
  | nil => intro bs _; rfl
  | cons e0 log ih =>
    intro bs h
    obtain ⟨⟨h1, h2⟩, h3⟩ := rollback_round L bs e0 log h
    show (modAt? bs e0.2.1 (fun b => so.set? b e0.2.2 e0.1)).bind _ = _
    rw [modAt?_eq bs e0.2.1 _ (fun b => o.set b e0.2.2 e0.1) h1 (by rw [S.set?_eq, if_pos h2])]
    simp only [Option.bind_some]
    rw [ih _ h3, rollback_cons]

section
variable (L : LawfulBucket o emp) {so : StrictOps B F} (S : StrictLawful L so)
  (alt : Nat → F → Nat) (c : Cuckoo B) (fp : F) (i1 i2 : Nat) (d side : Bool) (slots : List Nat)
  (c' : Cuckoo B) (hsh : WalkShape L c.n c.bsize c.buckets) (hr : InRange c alt i1 i2 slots)
include S hsh hr

theorem insertS_eq :
    insertS o so alt c fp i1 i2 d side slots = some (insert o alt c fp i1 i2 d side slots) := by
  have hl1 : i1 < c.buckets.length := by rw [hsh.len]; exact hr.i1_lt
  have hl2 : i2 < c.buckets.length := by rw [hsh.len]; exact hr.i2_lt
  unfold insertS insert
  rw [getElem?_eq_bucketAt _ _ hl1]
  simp only [Option.bind_some]
  by_cases h1 : o.isFree (bucketAt c.buckets i1) = true
  · rw [if_pos h1, if_pos h1, S.add?_ok c.bsize _ _ (hsh.free i1 hr.i1_lt h1) h1]
    simp only [Option.map_some]
    rw [set_eq_modAt c.buckets i1 (fun b => o.add b fp)]
  · rw [if_neg h1, if_neg h1, getElem?_eq_bucketAt _ _ hl2]
    simp only [Option.bind_some]
    by_cases h2 : o.isFree (bucketAt c.buckets i2) = true
    · rw [if_pos h2, if_pos h2, S.add?_ok c.bsize _ _ (hsh.free i2 hr.i2_lt h2) h2]
      simp only [Option.map_some]
      rw [set_eq_modAt c.buckets i2 (fun b => o.add b fp)]
    · rw [if_neg h2, if_neg h2]
      obtain ⟨hidx, hfull⟩ := kick_start c.buckets c.n i1 i2 side hr.i1_lt hr.i2_lt
        (Bool.eq_false_iff.mpr h1) (Bool.eq_false_iff.mpr h2)
      rw [kickS_eq L S alt c.n c.bsize hr.alt_lt hr.bsize_pos _ _ _ _ _ _ hsh hidx hfull hr.slots_lt]
      simp only [Option.bind_some]
      cases hk : kick o alt c.retries c.buckets (if side = true then i1 else i2) fp slots [] with
      | mk bs rest =>
        obtain ⟨log, found⟩ := rest
        cases found with
        | true => simp
        | false =>
          cases d with
          | true => simp
          | false =>
            have hin := ((kick_in_range L S alt c.n c.bsize hr.alt_lt hr.bsize_pos _ _ _ _ _ _ _ _
              hsh hidx hfull hr.slots_lt hk).2 rfl).2.2
            simp [rollbackS_eq L S log bs hin]

theorem insertS_rollback_exact :
    insertS o so alt c fp i1 i2 false side slots ≠ none ∧
    ∀ c', insertS o so alt c fp i1 i2 false side slots = some (.full c') → c' = c := by
  rw [insertS_eq L S alt c fp i1 i2 false side slots hsh hr]
  exact ⟨nofun, fun c' h =>
    insert_full_nondestructive L alt c fp i1 i2 side slots c' (Option.some.inj h)⟩

theorem insertS_full_iff :
    (insertS o so alt c fp i1 i2 false side slots = some (.full c')
      ↔ insert o alt c fp i1 i2 false side slots = .full c') ∧
    (insert o alt c fp i1 i2 false side slots = .full c' → c' = c) := by
  rw [insertS_eq L S alt c fp i1 i2 false side slots hsh hr]
  exact ⟨⟨fun h => Option.some.inj h, congrArg some⟩,
    insert_full_nondestructive L alt c fp i1 i2 side slots c'⟩

theorem insertS_full_signalled
    (h : insertS o so alt c fp i1 i2 d side slots = some (.full c')) :
    o.isFree (bucketAt c.buckets i1) = false ∧ o.isFree (bucketAt c.buckets i2) = false ∧
    ∃ bs log, kickS o so alt c.retries c.buckets (if side then i1 else i2) fp slots []
        = some (bs, log, false) ∧ log.length = c.retries ∧
      ∀ e ∈ log, e.2.1 < c.n ∧ e.2.2 < c.bsize ∧ alt e.2.1 e.1 < c.n ∧
        o.isFree (bucketAt c.buckets e.2.1) = false ∧
        o.isFree (bucketAt c.buckets (alt e.2.1 e.1)) = false := by
  rw [insertS_eq L S alt c fp i1 i2 d side slots hsh hr] at h
  obtain ⟨f1, f2, bs, log, hk, hl, hall⟩ := insert_full_walk L alt c fp i1 i2 d side
    slots c' S.isFree_set hsh hr.alt_lt hr.bsize_pos hr.i1_lt hr.i2_lt hr.slots_lt (Option.some.inj h)
  refine ⟨f1, f2, bs, log, ?_, hl, hall⟩
  have hst := kick_start c.buckets c.n i1 i2 side hr.i1_lt hr.i2_lt f1 f2
  rw [kickS_eq L S alt c.n c.bsize hr.alt_lt hr.bsize_pos _ _ _ _ _ _ hsh hst.1 hst.2 hr.slots_lt, hk]

end

end
end Cuckoo
end Gostatix
