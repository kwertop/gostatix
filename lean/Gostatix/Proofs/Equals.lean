/-
  Lemmas for C17.  Every `Equals` of Model/Equals.lean is a cascade of guards, sequenced comparisons
  and counted loops; each of these computes `decide` of a conjunction when its parts compute `decide`
  of the conjuncts.  A loop that compares entry `i` of two lists at step `i` thereby decides their
  equality (`forN_eq_decide_list_eq`); the Go, Lua and cuckoo bucket loops are instances.

  `Gostatix.Equals` has its own `BloomMem`, `BloomRedis`, `CuckooMem`, `CuckooRedis`, `TopKMem`,
  `TopKRedis`, `forN` and `…WF`, unrelated to those of the same names in `Gostatix.Json`.
-/
import Gostatix.Model.Equals
namespace Gostatix.Equals

section
variable {r r₁ r₂ : Option Bool} {g p p₁ p₂ q : Prop} [Decidable g] [Decidable p] [Decidable p₁]
  [Decidable p₂] [Decidable q]

theorem eq_some_decide_of_iff (h : r = some (decide p)) (hpq : p ↔ q) : r = some (decide q) :=
  h.trans (congrArg some (decide_eq_decide.2 hpq))

/-! With `p := a = b`: `equals a b` never panics, is `true` only on equal states, is `true` on a
    state and itself, and is symmetric. -/

theorem ne_none_of_eq_some_decide (h : r = some (decide p)) : r ≠ none :=
  h ▸ Option.some_ne_none _

theorem of_eq_some_decide (h : r = some (decide p)) (ht : r = some true) : p :=
  of_decide_eq_true (Option.some.inj (h.symm.trans ht))

section
variable {S : Type} [DecidableEq S] {eq : S → S → Option Bool} {a b : S}

theorem complete_of_spec (h : eq a a = some (decide (a = a))) : eq a a = some true :=
  h.trans (congrArg some (decide_eq_true rfl))

theorem symm_of_spec (hab : eq a b = some (decide (a = b))) (hba : eq b a = some (decide (b = a))) :
    eq a b = eq b a :=
  (eq_some_decide_of_iff hab eq_comm).trans hba.symm

end

/-- `if g { return false }` in front of a comparison. -/
theorem guard_eq_decide (hr : ¬g → r = some (decide p)) :
    (if g then some false else r) = some (decide (¬g ∧ p)) := by
  by_cases hg : g
  · rw [if_pos hg, decide_eq_false (fun h => h.1 hg)]
  · rw [if_neg hg, hr hg]
    exact congrArg some (decide_eq_decide.2 ⟨fun hp => ⟨hg, hp⟩, fun h => h.2⟩)

theorem ne_guard_eq_decide {α : Type} [DecidableEq α] {x y : α} (hr : x = y → r = some (decide p)) :
    (if x ≠ y then some false else r) = some (decide (x = y ∧ p)) :=
  eq_some_decide_of_iff (guard_eq_decide fun h => hr (Decidable.not_not.1 h))
    (and_congr_left' Decidable.not_not)

theorem ne_or_guard_eq_decide {α : Type} [DecidableEq α] {x y : α}
    (hr : x = y → (if g then some false else r) = some (decide p)) :
    (if x ≠ y ∨ g then some false else r) = some (decide (x = y ∧ p)) := by
  by_cases h : x = y
  · rw [ite_congr (propext (or_iff_right (not_not_intro h))) (fun _ => rfl) (fun _ => rfl), hr h]
    exact congrArg some (decide_eq_decide.2 (and_iff_right h).symm)
  · rw [if_pos (.inl h), decide_eq_false fun hp => h hp.1]

/-- `if !first { return false }` in front of a comparison, where `first` may panic. -/
theorem andThen_eq_decide (h₁ : r₁ = some (decide p₁)) (h₂ : p₁ → r₂ = some (decide p₂)) :
    (match (generalizing := false) r₁ with
      | none => none
      | some false => some false
      | some true => r₂) = some (decide (p₁ ∧ p₂)) := by
  by_cases hp : p₁
  · rw [h₁, decide_eq_true hp, h₂ hp]
    exact congrArg some (decide_eq_decide.2 ⟨fun h => ⟨hp, h⟩, fun h => h.2⟩)
  · rw [h₁, decide_eq_false hp, decide_eq_false (fun h => hp h.1)]

end

theorem forFrom_cases (f : Nat → Option Bool) (i n : Nat) :
    (forFrom f i n = some true ∧ ∀ j, j < n → f (i + j) = some true) ∨
    ∃ j, j < n ∧ f (i + j) ≠ some true ∧ forFrom f i n = f (i + j) := by
  induction n generalizing i with
  | zero => exact .inl ⟨rfl, fun _ h => absurd h (Nat.not_lt_zero _)⟩
  | succ n ih =>
    by_cases h : f i = some true
    · rw [forFrom, h]
      refine (ih (i + 1)).imp ?_ ?_
      · rintro ⟨ht, hall⟩
        refine ⟨ht, fun j hj => ?_⟩
        cases j with
        | zero => exact h
        | succ j =>
          have e : i + 1 + j = i + (j + 1) := Nat.add_right_comm i 1 j
          exact e ▸ hall j (Nat.lt_of_succ_lt_succ hj)
      · rintro ⟨j, hj, hne, heq⟩
        have e : i + 1 + j = i + (j + 1) := Nat.add_right_comm i 1 j
        exact ⟨j + 1, Nat.succ_lt_succ hj, e ▸ hne, e ▸ heq⟩
    · refine .inr ⟨0, Nat.succ_pos n, h, ?_⟩
      rw [forFrom]
      split
      · next h' => exact h'.symm
      · next h' => exact h'.symm
      · next h' => exact absurd h' h

theorem forFrom_congr (f g : Nat → Option Bool) (i n : Nat)
    (h : ∀ j, j < n → f (i + j) = g (i + j)) : forFrom f i n = forFrom g i n := by
  induction n generalizing i with
  | zero => rfl
  | succ n ih =>
    have h0 : f i = g i := h 0 (Nat.succ_pos n)
    rw [forFrom, forFrom, h0, ih (i + 1) fun j hj =>
      (Nat.add_right_comm i 1 j : i + 1 + j = i + (j + 1)) ▸ h (j + 1) (Nat.succ_lt_succ hj)]

theorem forN_cases (n : Nat) (f : Nat → Option Bool) :
    (forN n f = some true ∧ ∀ i, i < n → f i = some true) ∨
    ∃ i, i < n ∧ f i ≠ some true ∧ forN n f = f i := by
  simpa only [forN, Nat.zero_add] using forFrom_cases f 0 n

theorem forN_congr (n : Nat) (f g : Nat → Option Bool)
    (h : ∀ i, i < n → f i = g i) : forN n f = forN n g :=
  forFrom_congr f g 0 n (by simpa only [Nat.zero_add] using h)

theorem forN_eq_false_imp (n : Nat) (f : Nat → Option Bool) (h : forN n f = some false) :
    ∃ i, i < n ∧ f i = some false :=
  (forN_cases n f).elim (fun ⟨ht, _⟩ => by rw [ht] at h; cases h)
    fun ⟨i, hi, _, heq⟩ => ⟨i, hi, heq.symm.trans h⟩

section
variable {α : Type} [DecidableEq α]

theorem decide_some_eq_some (x y : α) : decide (some x = some y) = decide (x = y) :=
  decide_eq_decide.2 ⟨Option.some.inj, congrArg some⟩

/-- the shape of every payload comparison; two missing entries agree. -/
theorem forN_eq_decide_list_eq {n : Nat} {f : Nat → Option Bool} {xs ys : List α}
    (hx : xs.length ≤ n) (hy : ys.length ≤ n)
    (h : ∀ i, i < n → f i = some (decide (xs[i]? = ys[i]?))) :
    forN n f = some (decide (xs = ys)) := by
  rcases forN_cases n f with ⟨ht, hall⟩ | ⟨i, hi, hne, heq⟩
  · rw [ht, decide_eq_true (List.ext_getElem? fun i =>
      if hi : i < n then of_eq_some_decide (h i hi) (hall i hi)
      else by
        rw [List.getElem?_eq_none (Nat.le_trans hx (Nat.le_of_not_lt hi)),
          List.getElem?_eq_none (Nat.le_trans hy (Nat.le_of_not_lt hi))])]
  · have hp : xs[i]? ≠ ys[i]? := fun hp => hne (by rw [h i hi, decide_eq_true hp])
    rw [heq, h i hi, decide_eq_false hp, decide_eq_false fun e => hp (congrArg (·[i]?) e)]

theorem forN_luaIdxEq_eq_decide {n : Nat} {xs ys : List α} (hx : xs.length ≤ n)
    (hy : ys.length ≤ n) : forN n (luaIdxEq xs ys) = some (decide (xs = ys)) :=
  forN_eq_decide_list_eq hx hy fun _ _ => rfl

theorem goIdxEq_eq_luaIdxEq {xs ys : List α} {i : Nat} (hx : i < xs.length) (hy : i < ys.length) :
    goIdxEq xs ys i = luaIdxEq xs ys i := by
  rw [goIdxEq, luaIdxEq, List.getElem?_eq_getElem hx, List.getElem?_eq_getElem hy,
    decide_some_eq_some]

theorem goIdxEq_eq_none_iff (xs ys : List α) (i : Nat) :
    goIdxEq xs ys i = none ↔ xs.length ≤ i ∨ ys.length ≤ i := by
  by_cases hx : i < xs.length
  · by_cases hy : i < ys.length
    · exact iff_of_false (by rw [goIdxEq_eq_luaIdxEq hx hy]; exact Option.some_ne_none _)
        fun h => h.elim (Nat.not_le_of_lt hx) (Nat.not_le_of_lt hy)
    · refine iff_of_true ?_ (.inr (Nat.le_of_not_lt hy))
      rw [goIdxEq, List.getElem?_eq_none (Nat.le_of_not_lt hy)]
      cases xs[i]? <;> rfl
  · refine iff_of_true ?_ (.inl (Nat.le_of_not_lt hx))
    rw [goIdxEq, List.getElem?_eq_none (Nat.le_of_not_lt hx)]

theorem forN_goIdxEq_eq_decide {n : Nat} {xs ys : List α} (hx : xs.length = n)
    (hy : ys.length = n) : forN n (goIdxEq xs ys) = some (decide (xs = ys)) :=
  forN_eq_decide_list_eq (Nat.le_of_eq hx) (Nat.le_of_eq hy) fun _ hi =>
    goIdxEq_eq_luaIdxEq (hx ▸ hi) (hy ▸ hi)

end

section
variable {B : Type} {beq : B → B → Option Bool} {as bs : List B}

theorem bucketLoop_eq_decide [DecidableEq B] (hlen : as.length = bs.length)
    (h : ∀ (i : Nat) (x y : B), as[i]? = some x → bs[i]? = some y → beq y x = some (decide (y = x))) :
    bucketLoop beq as bs = some (decide (as = bs)) :=
  forN_eq_decide_list_eq (Nat.le_refl _) (Nat.le_of_eq hlen.symm) fun i hi => by
    have hx := List.getElem?_eq_getElem hi
    have hy := List.getElem?_eq_getElem (hlen ▸ hi)
    rw [hx, hy, decide_some_eq_some]
    exact eq_some_decide_of_iff (h i _ _ hx hy) eq_comm

end

/-- strictly positive, finite, non-zero float64 (sign bit 0, exponent < 0x7FF, bits ≠ 0). -/
def F64.PosFinite (b : Nat) : Prop := 0 < b ∧ b < 0x7FF0000000000000

instance (b : Nat) : Decidable (F64.PosFinite b) := by unfold F64.PosFinite; infer_instance

/-- the exponent field `b / 2^52` is below `0x7FF`. -/
theorem F64.isNaN_of_posFinite {b : Nat} (h : F64.PosFinite b) : F64.isNaN b = false := by
  unfold F64.isNaN
  rw [beq_eq_false_iff_ne.2 fun e =>
    Nat.not_le_of_lt (Nat.div_lt_of_lt_mul h.2) (e ▸ Nat.mod_le _ _), Bool.false_and]

theorem F64.isZero_of_posFinite {b : Nat} (h : F64.PosFinite b) : F64.isZero b = false := by
  rw [F64.isZero, Nat.mod_eq_of_lt (Nat.lt_trans h.2 (by decide)),
    beq_eq_false_iff_ne.2 (Nat.ne_of_gt h.1)]

/-- on positive finite values Go's `!=` is inequality of the bit patterns. -/
theorem f64_guard_eq_decide {x y : Nat} (hx : F64.PosFinite x) (hy : F64.PosFinite y)
    {r : Option Bool} {p : Prop} [Decidable p] (hr : r = some (decide p)) :
    (if F64.ne x y then some false else r) = some (decide (x = y ∧ p)) :=
  eq_some_decide_of_iff (guard_eq_decide fun _ => hr)
    (and_congr_left' (by
      simp [F64.ne, F64.isNaN_of_posFinite hx, F64.isNaN_of_posFinite hy,
        F64.isZero_of_posFinite hx]))

theorem wordCount_eq_wordsNeeded {len : Nat} (h : len ≤ 2 ^ 64 - 64) :
    wordCount len = wordsNeeded len := by
  rw [wordCount, wordsNeeded, if_neg (Nat.not_lt.2 h),
    Nat.mod_eq_of_lt (Nat.lt_of_le_of_lt (Nat.add_le_add_right h 63) (by decide))]

theorem withScores_injective (z1 z2 : List (String × Nat)) (h : withScores z1 = withScores z2) :
    z1 = z2 := by
  induction z1 generalizing z2 with
  | nil => cases z2 with
    | nil => rfl
    | cons p z => cases h
  | cons p z1 ih => cases z2 with
    | nil => cases h
    | cons q z2 =>
      injection h with hm h
      injection h with hs h
      injection hm with hm
      injection hs with hs
      rw [ih z2 h, Prod.ext hm hs]

theorem BloomMem.ext_iff {a b : BloomMem} :
    a = b ↔ a.size = b.size ∧ a.k = b.k ∧ a.length = b.length ∧ a.words = b.words := by
  cases a; cases b; exact Iff.of_eq (BloomMem.mk.injEq ..)

theorem BloomRedis.ext_iff {a b : BloomRedis} :
    a = b ↔ a.size = b.size ∧ a.k = b.k ∧ a.str = b.str := by
  cases a; cases b; exact Iff.of_eq (BloomRedis.mk.injEq ..)

theorem _root_.Gostatix.CMS.ext_iff {a b : CMS} :
    a = b ↔ a.rows = b.rows ∧ a.cols = b.cols ∧ a.m = b.m := by
  cases a; cases b; exact Iff.of_eq (CMS.mk.injEq ..)

theorem _root_.Gostatix.HLL.ext_iff {a b : HLL} : a = b ↔ a.m = b.m ∧ a.regs = b.regs := by
  cases a; cases b; exact Iff.of_eq (HLL.mk.injEq ..)

end Gostatix.Equals
