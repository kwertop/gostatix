/-
  Gostatix.Proofs.GoArith — `toNat` characterisations of the Go primitives of Model/GoArith.lean.
  These lemmas do not mention the generated definitions; Props/ArithTieHLL.lean and
  Props/LoopTieHLL.lean rewrite with them.
-/
import Gostatix.Model.GoArith
import Gostatix.Proofs.HLL
namespace Gostatix.GoArith

theorem toNat_goShl (x n : UInt64) : (goShl x n).toNat = (x.toNat * 2 ^ n.toNat) % 2 ^ 64 := by
  unfold goShl
  by_cases h : n < 64
  · have h' : n.toNat < 64 := by simpa [UInt64.lt_iff_toNat_lt] using h
    simp [h, UInt64.toNat_shiftLeft, Nat.shiftLeft_eq, Nat.mod_eq_of_lt h']
  · have h' : 64 ≤ n.toNat := by
      have : ¬ n.toNat < 64 := by simpa [UInt64.lt_iff_toNat_lt] using h
      omega
    have hd : 2 ^ 64 ∣ x.toNat * 2 ^ n.toNat :=
      Nat.dvd_trans (Nat.pow_dvd_pow 2 h') (Nat.dvd_mul_left _ _)
    simp [h, Nat.mod_eq_zero_of_dvd hd]

theorem toNat_goShr (x n : UInt64) : (goShr x n).toNat = x.toNat / 2 ^ n.toNat := by
  unfold goShr
  by_cases h : n < 64
  · have h' : n.toNat < 64 := by simpa [UInt64.lt_iff_toNat_lt] using h
    simp [h, UInt64.toNat_shiftRight, Nat.shiftRight_eq_div_pow, Nat.mod_eq_of_lt h']
  · have h' : 64 ≤ n.toNat := by
      have : ¬ n.toNat < 64 := by simpa [UInt64.lt_iff_toNat_lt] using h
      omega
    have hx : x.toNat < 2 ^ n.toNat :=
      Nat.lt_of_lt_of_le x.toNat_lt (Nat.pow_le_pow_right (by decide) h')
    simp [h, Nat.div_eq_of_lt hx]

/-- the bit scan agrees with the `log2` formula of the hand-written model. -/
theorem clzAux_eq (i x : Nat) (hx : x < 2 ^ i) :
    clzAux i x = i - (if x = 0 then 0 else Nat.log2 x + 1) := by
  induction i with
  | zero => exact (Nat.zero_sub _).symm
  | succ i ih =>
    rw [clzAux]
    split
    · next hb =>
      -- bit `i` is the highest set bit: `log2 x = i`
      have hx0 : x ≠ 0 := fun h => by rw [h, Nat.zero_testBit] at hb; exact Bool.false_ne_true hb
      rw [if_neg hx0, (Nat.log2_eq_iff hx0).2 ⟨Nat.ge_two_pow_of_testBit hb, hx⟩, Nat.sub_self]
    · next hb =>
      have hlt : x < 2 ^ i := Nat.lt_pow_two_of_testBit x fun j hj => by
        rcases Nat.eq_or_lt_of_le hj with rfl | hj'
        · exact Bool.eq_false_iff.2 hb
        · exact Nat.testBit_lt_two_pow (Nat.lt_of_lt_of_le hx (Nat.pow_le_pow_right (by decide) hj'))
      have hle : (if x = 0 then 0 else Nat.log2 x + 1) ≤ i := by
        split
        · exact Nat.zero_le _
        · next h0 => exact (Nat.log2_lt h0).2 hlt
      rw [ih hlt]
      omega

theorem clzAux_le (i x : Nat) : clzAux i x ≤ i := by
  induction i with
  | zero => simp [clzAux]
  | succ i ih => unfold clzAux; split <;> omega

theorem toNat_clz64u (x : UInt64) : (clz64u x).toNat = HLL.clz64 x.toNat := by
  have hle := clzAux_le 64 x.toNat
  have h := clzAux_eq 64 x.toNat x.toNat_lt
  have hsz : clzAux 64 x.toNat < UInt64.size := Nat.lt_of_le_of_lt hle (by decide)
  unfold clz64u HLL.clz64
  rw [UInt64.toNat_ofNat_of_lt' hsz, h]
  by_cases hx0 : x.toNat = 0
  · simp [hx0]
  · have : Nat.log2 x.toNat < 64 := (Nat.log2_lt hx0).2 x.toNat_lt
    simp [hx0]
    omega

/-- `uint64(1 + bits.LeadingZeros64(hash << p))` is `HLL.indexOf`, for EVERY `p` (for 64 and more
    both sides shift everything out and give 65). -/
theorem toNat_rank (hash nb : UInt64) :
    (1 + clz64u (goShl hash nb)).toNat = HLL.indexOf hash.toNat nb.toNat := by
  have h := HLL.clz64_le ((hash.toNat * 2 ^ nb.toNat) % 2 ^ 64)
  rw [UInt64.toNat_add, toNat_clz64u, toNat_goShl, HLL.indexOf]
  exact Nat.mod_eq_of_lt (Nat.lt_of_le_of_lt (Nat.add_le_add_left h 1) (by decide))

/-- `hash >> uint(32 - p)` in the range `p ≤ 32` -/
theorem toNat_count (hash nb : UInt64) (hp : nb.toNat ≤ 32) :
    (goShr hash (32 - nb)).toNat = hash.toNat / 2 ^ (32 - nb.toNat) := by
  rw [toNat_goShr, UInt64.toNat_sub_of_le _ _ (UInt64.le_iff_toNat_le.2 hp)]
  rfl

theorem toNat_trunc8 (x : UInt64) : (trunc8 x).toNat = x.toNat % 256 := by
  simp [trunc8]

theorem toNat_trunc16 (x : UInt64) : (trunc16 x).toNat = x.toNat % 65536 := by
  simp [trunc16]

theorem toNat_trunc32 (x : UInt64) : (trunc32 x).toNat = x.toNat % 4294967296 := by
  simp [trunc32]

end Gostatix.GoArith
