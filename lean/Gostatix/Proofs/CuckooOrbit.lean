/-
  Gostatix.Proofs.CuckooOrbit — orbit-count arithmetic: facts about functions `Nat → F → Nat`, no
  tables (CuckooList is imported for the indicator `ind` only).
  `kcOf alt c j g` is the number of copies of fingerprint `g` in the candidate pair `{j, alt j g}`
  for a per-bucket count function `c`.
-/
import Gostatix.Proofs.CuckooList
set_option linter.unusedSectionVars false
namespace Gostatix

section
variable {F : Type} [DecidableEq F]

def kcOf (alt : Nat → F → Nat) (c : Nat → F → Nat) (j : Nat) (g : F) : Nat :=
  if alt j g = j then c j g else c j g + c (alt j g) g

theorem kcOf_congr (alt : Nat → F → Nat) (c c' : Nat → F → Nat) (j : Nat) (g : F)
    (h : ∀ j, c' j g = c j g) : kcOf alt c' j g = kcOf alt c j g := by
  unfold kcOf; rw [h j, h (alt j g)]

theorem kcOf_add (alt : Nat → F → Nat) (c d : Nat → F → Nat) (j : Nat) (g : F) :
    kcOf alt (fun j g => c j g + d j g) j g = kcOf alt c j g + kcOf alt d j g := by
  unfold kcOf
  split
  · rfl
  · exact Nat.add_add_add_comm ..

/-- one stored copy of `f` in bucket `i` counts for exactly the candidate pairs `{i, alt i f}` -/
theorem kcOf_key (alt : Nat → F → Nat) (n : Nat)
    (hInv : ∀ j f, j < n → alt j f < n ∧ alt (alt j f) f = j) (i : Nat) (f : F) (hi : i < n)
    (j : Nat) (g : F) (hj : j < n) :
    kcOf alt (fun j g => ind (j = i ∧ f = g)) j g = ind (g = f ∧ (j = i ∨ j = alt i f)) := by
  unfold kcOf
  by_cases hg : f = g
  · subst hg
    have e : (alt j f = i) = (j = alt i f) :=
      propext ⟨fun h => by rw [← h, (hInv j f hj).2], fun h => by rw [h, (hInv i f hi).2]⟩
    simp only [ind, and_true, true_and, e]
    by_cases a4 : alt j f = j
    · have : (j = alt i f) = (j = i) := by rw [← e, a4]
      simp [a4, this]
    · by_cases a1 : j = i
      · subst a1
        have : ¬ j = alt j f := fun h => a4 h.symm
        simp [this]
      · simp [a4, a1]
  · have hg' : ¬ g = f := fun e => hg e.symm
    simp [hg, hg']

theorem kcOf_add_key (alt : Nat → F → Nat) (n : Nat)
    (hInv : ∀ j f, j < n → alt j f < n ∧ alt (alt j f) f = j)
    (c c' : Nat → F → Nat) (i : Nat) (f : F) (hi : i < n)
    (j : Nat) (g : F) (hj : j < n)
    (h : ∀ j, c' j g = c j g + ind (j = i ∧ f = g)) :
    kcOf alt c' j g = kcOf alt c j g + ind (g = f ∧ (j = i ∨ j = alt i f)) := by
  rw [kcOf_congr alt (fun j g => c j g + ind (j = i ∧ f = g)) c' j g h, kcOf_add,
    kcOf_key alt n hInv i f hi j g hj]

/-- replacing a copy of `f'` in bucket `i` by a copy of `f`, in additive form -/
theorem kcOf_replace_key (alt : Nat → F → Nat) (n : Nat)
    (hInv : ∀ j f, j < n → alt j f < n ∧ alt (alt j f) f = j)
    (c c' : Nat → F → Nat) (i : Nat) (f f' : F) (hi : i < n) (j : Nat) (g : F) (hj : j < n)
    (h : ∀ j, c' j g + ind (j = i ∧ f' = g) = c j g + ind (j = i ∧ f = g)) :
    kcOf alt c' j g + ind (g = f' ∧ (j = i ∨ j = alt i f'))
      = kcOf alt c j g + ind (g = f ∧ (j = i ∨ j = alt i f)) := by
  rw [← kcOf_key alt n hInv i f' hi j g hj, ← kcOf_key alt n hInv i f hi j g hj,
    ← kcOf_add, ← kcOf_add]
  exact kcOf_congr alt _ _ j g h

theorem orbit_alt (alt : Nat → F → Nat) (n : Nat)
    (hInv : ∀ j f, j < n → alt j f < n ∧ alt (alt j f) f = j) (i : Nat) (f : F) (hi : i < n) (j : Nat) :
    (j = alt i f ∨ j = alt (alt i f) f) ↔ (j = i ∨ j = alt i f) := by
  rw [(hInv i f hi).2]; exact Or.comm

end
end Gostatix
