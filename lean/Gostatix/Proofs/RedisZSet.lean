/-
  Gostatix.Proofs.RedisZSet — the sorted-set commands of Model/RedisTopK.lean: evaluation lemmas,
  preservation of the canonical form, and the frame property.
-/
import Gostatix.Model.RedisTopK
import Gostatix.Proofs.TopKRedis
import Gostatix.Proofs.RedisBucket
import Gostatix.Proofs.RedisFrame
namespace Gostatix.Redis
open Gostatix.TopK

theorem zsetPut_self (s : Store) (k : String) (z : List HElem) :
    (zsetPut s k z) k = if z = [] then none else some (.zset z) := by
  unfold zsetPut; split
  · exact Store.del_self _ _
  · exact Store.set_self _ _ _

theorem zsetPut_ne (s : Store) {k k' : String} (z : List HElem) (h : k' ≠ k) :
    (zsetPut s k z) k' = s k' := by
  unfold zsetPut; split
  · exact Store.del_ne _ h
  · exact Store.set_ne _ _ h

theorem zsetAt_zsetPut (s : Store) (k : String) (z : List HElem) :
    zsetAt (zsetPut s k z) k = some z := by
  unfold zsetAt; rw [zsetPut_self]
  by_cases h : z = []
  · rw [if_pos h, h]
  · rw [if_neg h]

theorem zwf_iff (z : List HElem) : ZWf z ↔ ZSorted z ∧ (z.map (·.1)).Nodup := Iff.rfl

theorem absZSet_eq_some_iff (st : Store) (k : String) (z : List HElem) :
    absZSet st k = some z ↔ zsetAt st k = some z ∧ ZWf z := by
  unfold absZSet
  constructor
  · intro h
    split at h
    · rename_i z' hz'
      split at h
      · rename_i hw; cases h; exact ⟨hz', hw⟩
      · cases h
    · cases h
  · rintro ⟨h1, h2⟩
    rw [h1]; simp only [h2, if_true]

theorem absZSet_zsetPut (s : Store) (k : String) {z : List HElem} (h : ZWf z) :
    absZSet (zsetPut s k z) k = some z :=
  (absZSet_eq_some_iff _ _ _).mpr ⟨zsetAt_zsetPut s k z, h⟩

section eval
variable {s : Store} {k : String} {z : List HElem}

theorem cmdZCARD_eq (h : zsetAt s k = some z) : cmdZCARD k s = (s, some z.length) := by
  unfold cmdZCARD; rw [h]

theorem cmdZRANGE0_eq (h : zsetAt s k = some z) : cmdZRANGE0 k s = (s, some (z.take 1)) := by
  unfold cmdZRANGE0; rw [h]

theorem cmdZRANGEALL_eq (h : zsetAt s k = some z) : cmdZRANGEALL k s = (s, some z) := by
  unfold cmdZRANGEALL; rw [h]

theorem cmdZSCORE_eq (h : zsetAt s k = some z) (x : String) :
    cmdZSCORE k x s = (s, some (zscore z x)) := by
  unfold cmdZSCORE; rw [h]

theorem cmdZREM_eq (h : zsetAt s k = some z) (x : String) :
    cmdZREM k x s = (zsetPut s k (zrem z x), some (z.length - (zrem z x).length)) := by
  unfold cmdZREM; rw [h]

theorem cmdZADD_eq (h : zsetAt s k = some z) (x : String) (f : Nat) :
    cmdZADD k x f s = (zsetPut s k (zadd z x f), some (if (zscore z x).isSome then 0 else 1)) := by
  unfold cmdZADD; rw [h]

theorem cmdZPOPMIN_eq (h : zsetAt s k = some z) :
    cmdZPOPMIN k s = (zsetPut s k z.tail, some (z.take 1)) := by
  unfold cmdZPOPMIN; rw [h]

end eval

theorem head?_take_one {α} (l : List α) : (l.take 1).head? = l.head? := by
  cases l <;> rfl

theorem zadd_zrem (z : List HElem) (x : String) (f : Nat) : zadd (zrem z x) x f = zadd z x f := by
  unfold zadd zrem
  rw [List.filter_filter]
  congr 1
  apply List.filter_congr
  intro e _; simp

theorem zrem_wf (z : List HElem) (x : String) (h : ZWf z) : ZWf (zrem z x) := by
  unfold zrem
  exact ⟨List.Pairwise.sublist List.filter_sublist h.1,
    (List.Sublist.map _ List.filter_sublist).nodup h.2⟩

theorem zadd_wf (z : List HElem) (x : String) (f : Nat) (h : ZWf z) : ZWf (zadd z x f) := by
  refine ⟨zadd_sorted z x f h.1, ?_⟩
  exact ((zadd_perm z x f).map (·.1)).nodup_iff.2 (upsert_nodup z x f h.2)

theorem tail_wf (z : List HElem) (h : ZWf z) : ZWf z.tail :=
  ⟨List.Pairwise.sublist (List.tail_sublist z) h.1,
    (List.Sublist.map _ (List.tail_sublist z)).nodup h.2⟩

theorem zscore_eq_some_iff (z : List HElem) (x : String) (n : Nat) (h : ZWf z) :
    zscore z x = some n ↔ (x, n) ∈ z := by
  unfold zscore
  induction z with
  | nil => simp
  | cons a t ih =>
    have ht : ZWf t := tail_wf (a :: t) h
    have hnd := h.2
    rw [List.map_cons, List.nodup_cons] at hnd
    rw [List.find?_cons]
    by_cases ha : a.1 = x
    · simp only [ha, beq_self_eq_true, Option.map_some, Option.some.injEq, List.mem_cons]
      constructor
      · intro e; left; rw [← ha, ← e]
      · rintro (e | e)
        · rw [← e]
        · exact absurd (List.mem_map.mpr ⟨(x, n), e, rfl⟩) (ha ▸ hnd.1)
    · have : (a.1 == x) = false := by simpa using ha
      simp only [this, List.mem_cons]
      rw [ih ht]
      constructor
      · exact Or.inr
      · rintro (e | e)
        · exact absurd (by rw [← e]) ha
        · exact e

/-- `offerRedis` with its guard written as `offerGuard` on what ZCARD and ZRANGE 0 0 return
    (definitional; `TopK.offerRedis_eq` is the form with the specification guard `Admit`, which
    needs the list sorted) -/
theorem offerRedis_unfold (k : Nat) (z : List HElem) (x : String) (f : Nat) :
    offerRedis k z x f =
      if offerGuard z.length k (z.take 1) f = true then
        (if (zadd z x f).length > k then (zadd z x f).tail else zadd z x f)
      else z := by
  cases z <;> rfl

section frames
variable {K : List String} {k : String}

theorem zsetAt_congr {s s' : Store} (h : s k = s' k) : zsetAt s k = zsetAt s' k := by
  unfold zsetAt; rw [h]

theorem supported_zread {ρ : Type} (hk : k ∈ K) (g : List HElem → ρ) :
    SupportedOn K (fun s => match zsetAt s k with
      | some z => (s, some (g z))
      | none => (s, none)) := by
  apply supported_single hk
  · intro s k' _; split <;> rfl
  · intro s s' h; rw [zsetAt_congr h]; split <;> exact ⟨rfl, h⟩

theorem supported_zwrite {ρ : Type} (hk : k ∈ K) (w : List HElem → List HElem)
    (g : List HElem → ρ) :
    SupportedOn K (fun s => match zsetAt s k with
      | some z => (zsetPut s k (w z), some (g z))
      | none => (s, none)) := by
  apply supported_single hk
  · intro s k' hne; split
    · exact zsetPut_ne _ _ hne
    · rfl
  · intro s s' h; rw [zsetAt_congr h]; split
    · exact ⟨rfl, (zsetPut_self _ _ _).trans (zsetPut_self _ _ _).symm⟩
    · exact ⟨rfl, h⟩

theorem supported_ZCARD (hk : k ∈ K) : SupportedOn K (cmdZCARD k) :=
  supported_zread hk List.length

theorem supported_ZRANGE0 (hk : k ∈ K) : SupportedOn K (cmdZRANGE0 k) :=
  supported_zread hk (List.take 1)

theorem supported_ZRANGEALL (hk : k ∈ K) : SupportedOn K (cmdZRANGEALL k) :=
  supported_zread hk id

theorem supported_ZSCORE (hk : k ∈ K) (x : String) : SupportedOn K (cmdZSCORE k x) :=
  supported_zread hk (zscore · x)

theorem supported_ZREM (hk : k ∈ K) (x : String) : SupportedOn K (cmdZREM k x) :=
  supported_zwrite hk (zrem · x) fun z => z.length - (zrem z x).length

theorem supported_ZADD (hk : k ∈ K) (x : String) (f : Nat) : SupportedOn K (cmdZADD k x f) :=
  supported_zwrite hk (zadd · x f) fun z => if (zscore z x).isSome then 0 else 1

theorem supported_ZPOPMIN (hk : k ∈ K) : SupportedOn K (cmdZPOPMIN k) :=
  supported_zwrite hk List.tail (List.take 1)

end frames

theorem supported_topkInsertCmds (heapKey : String) (k : Nat) (x : String) (f : Nat) :
    SupportedOn [heapKey] (topkInsertCmds heapKey k x f) := by
  have hm : heapKey ∈ [heapKey] := List.mem_cons_self
  unfold topkInsertCmds
  refine supported_bind (supported_ZCARD hm) fun n => ?_
  refine supported_bind (supported_ZRANGE0 hm) fun mn => ?_
  refine supported_ite _ ?_ (supported_pure _ _)
  refine supported_bind (supported_try (supported_ZSCORE hm x)) fun idx => ?_
  refine supported_bind ?_ fun _ => ?_
  · exact supported_ite _ (supported_bind (supported_ZREM hm x) fun _ => supported_pure _ _)
      (supported_pure _ _)
  refine supported_bind (supported_ZADD hm x f) fun _ => ?_
  refine supported_bind (supported_ZCARD hm) fun n' => ?_
  exact supported_ite _ (supported_bind (supported_ZPOPMIN hm) fun _ => supported_pure _ _)
    (supported_pure _ _)

theorem supported_topkValues (heapKey : String) : SupportedOn [heapKey] (topkValues heapKey) :=
  supported_bind (supported_ZRANGEALL List.mem_cons_self) fun _ => supported_pure _ _

end Gostatix.Redis
