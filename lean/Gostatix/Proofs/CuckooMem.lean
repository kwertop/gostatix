/-
  Gostatix.Proofs.CuckooMem — the in-memory cuckoo filter (`BucketMem.ops emp`): concrete
  well-formedness predicate and counting functions used to state the property theorems, and
  their identification with the generic (`LawfulBucket`) notions.
-/
import Gostatix.Proofs.CuckooHistory
set_option linter.unusedSectionVars false
namespace Gostatix

/-- default bucket for concrete examples over `Nat` fingerprints (never read on valid positions) -/
instance instInhabitedBucketMemNat : Inhabited (BucketMem Nat) := ⟨⟨0, [], 0⟩⟩

namespace Cuckoo.Mem

section
variable {F : Type} [DecidableEq F] [Inhabited (BucketMem F)]

def cnt (c : Cuckoo (BucketMem F)) (j : Nat) (f : F) : Nat := (bucketAt c.buckets j).elements.count f

def kc (alt : Nat → F → Nat) (c : Cuckoo (BucketMem F)) (j : Nat) (f : F) : Nat :=
  if alt j f = j then cnt c j f else cnt c j f + cnt c (alt j f) f

def allSlots (c : Cuckoo (BucketMem F)) : List F := (c.buckets.map (·.elements)).flatten

def stored (emp : F) (c : Cuckoo (BucketMem F)) : Nat := occ emp (allSlots c)

structure WF (emp : F) (c : Cuckoo (BucketMem F)) : Prop where
  nbuckets : c.buckets.length = c.n
  bucket : ∀ b ∈ c.buckets, b.size = c.bsize ∧ b.elements.length = c.bsize ∧ b.length = occ emp b.elements
  length : c.length = stored emp c

instance (emp : F) (c : Cuckoo (BucketMem F)) : Decidable (WF emp c) :=
  decidable_of_iff (c.buckets.length = c.n ∧ (∀ b ∈ c.buckets, b.size = c.bsize ∧
      b.elements.length = c.bsize ∧ b.length = occ emp b.elements) ∧ c.length = stored emp c)
    ⟨fun ⟨h1, h2, h3⟩ => ⟨h1, h2, h3⟩, fun h => ⟨h.nbuckets, h.bucket, h.length⟩⟩

/-- the filter `NewCuckooFilter` builds: `n` buckets of `bsize` empty slots -/
def empty (emp : F) (n bsize fpl retries : Nat) : Cuckoo (BucketMem F) :=
  ⟨n, bsize, fpl, retries, List.replicate n (BucketMem.new emp bsize), 0⟩

/-! ### bridge to the generic development

`cnt`, `kc`, `allSlots` and `stored` unfold to `cntB`, `Cuckoo.kc`, `Cuckoo.allSlots` and the
`occ` of the latter at `BucketMem.lawful emp`: they are equal by `rfl`, so a theorem over a lawful
bucket is used for this kind by `exact` (the property files do just that); to `rw` with one, first
`show` the goal in the generic notions.  Only `WF` needs a lemma, `wf_iff`. -/

theorem wf_iff (emp : F) (c : Cuckoo (BucketMem F)) :
    WF emp c ↔ Cuckoo.WF (BucketMem.lawful emp) c :=
  ⟨fun h => ⟨⟨h.nbuckets, h.bucket⟩, h.length.trans (tocc_eq_occ (BucketMem.lawful emp) c.buckets).symm⟩,
    fun h => ⟨h.bs.len, h.bs.wfb, h.len.trans (tocc_eq_occ (BucketMem.lawful emp) c.buckets)⟩⟩

theorem cnt_eq (emp : F) (c : Cuckoo (BucketMem F)) (j : Nat) (f : F) :
    cnt c j f = cntB (BucketMem.lawful emp) c.buckets j f := rfl

theorem new_wfb (emp : F) (s : Nat) : BucketMem.WFB emp s (BucketMem.new emp s) :=
  ⟨rfl, List.length_replicate, (occ_replicate_emp emp s).symm⟩

theorem empty_wf (emp : F) (n bsize fpl retries : Nat) : WF emp (empty emp n bsize fpl retries) :=
  (wf_iff emp _).mpr (wf_replicate (BucketMem.lawful emp) n bsize fpl retries _ (new_wfb emp bsize)
    (occ_replicate_emp emp bsize))

theorem empty_inv (emp : F) (n bsize fpl retries : Nat) :
    Inv (BucketMem.lawful emp) n bsize (empty emp n bsize fpl retries) :=
  ⟨(wf_iff emp _).mp (empty_wf emp n bsize fpl retries), rfl, rfl⟩

theorem empty_cnt (emp : F) (n bsize fpl retries : Nat) (j : Nat) (g : F) (hj : j < n) (hg : g ≠ emp) :
    cnt (empty emp n bsize fpl retries) j g = 0 :=
  cntB_replicate (BucketMem.lawful emp) n (BucketMem.new emp bsize) (occ_replicate_emp emp bsize) j g hj hg

/-- a bucket whose slots are all empty is the new bucket (in memory only: a Redis list keeps
    empty-string holes of any number, so an emptied Redis bucket is not unique) -/
theorem bucket_eq_new (emp : F) (s : Nat) (b : BucketMem F) (h : BucketMem.WFB emp s b)
    (h0 : ∀ x ∈ b.elements, x = emp) : b = BucketMem.new emp s := by
  obtain ⟨h1, h2, h3⟩ := h
  have he : b.elements = List.replicate s emp := by
    rw [← h2]; exact List.eq_replicate_iff.mpr ⟨rfl, h0⟩
  cases b
  simp only [BucketMem.new] at *
  subst h1; subst he; rw [h3, occ_replicate_emp]

theorem buckets_eq_empty (emp : F) (c : Cuckoo (BucketMem F)) (h : WF emp c) (h0 : c.length = 0) :
    c.buckets = List.replicate c.n (BucketMem.new emp c.bsize) := by
  rw [← h.nbuckets]
  exact List.eq_replicate_iff.mpr ⟨rfl, fun b hb => bucket_eq_new emp c.bsize b (h.bucket b hb)
    (slots_emp_of_length_zero (BucketMem.lawful emp) c ((wf_iff emp c).mp h) h0 b hb)⟩

end
end Cuckoo.Mem
end Gostatix
