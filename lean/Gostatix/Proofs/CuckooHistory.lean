/-
  Gostatix.Proofs.CuckooHistory — histories of insert / remove / lookup operations on a cuckoo
  filter, the per-key and global accounting of successful operations.
-/
import Gostatix.Proofs.CuckooFilter
set_option linter.unusedSectionVars false
namespace Gostatix.Cuckoo

/-- one operation of a history; the element is given by its fingerprint and first bucket,
    the second bucket is `alt i1 fp`; an insert carries its random choices -/
inductive COp (F : Type) where
  | insert (fp : F) (i1 : Nat) (destructive side : Bool) (slots : List Nat)
  | remove (fp : F) (i1 : Nat)
  | lookup (fp : F) (i1 : Nat)

section
variable {B F : Type} [DecidableEq F] [Inhabited B] {o : BucketOps B F} {emp : F}

/-- run one operation: new state and the Boolean the Go method returns
    (`Insert` panicking with "filter is full" is `false`) -/
def step (o : BucketOps B F) (alt : Nat → F → Nat) (c : Cuckoo B) : COp F → Cuckoo B × Bool
  | .insert fp i1 d side slots =>
    ((insert o alt c fp i1 (alt i1 fp) d side slots).val,
     (insert o alt c fp i1 (alt i1 fp) d side slots).isOk)
  | .remove fp i1 => remove o c fp i1 (alt i1 fp)
  | .lookup fp i1 => (c, lookup o c fp i1 (alt i1 fp))

def run (o : BucketOps B F) (alt : Nat → F → Nat) (c : Cuckoo B) (h : List (COp F)) : Cuckoo B :=
  h.foldl (fun c op => (step o alt c op).1) c

@[simp] theorem run_nil (alt : Nat → F → Nat) (c : Cuckoo B) : run o alt c [] = c := rfl
@[simp] theorem run_cons (alt : Nat → F → Nat) (c : Cuckoo B) (op : COp F) (h : List (COp F)) :
    run o alt c (op :: h) = run o alt (step o alt c op).1 h := rfl

def insHit (o : BucketOps B F) (alt : Nat → F → Nat) (sel : F → Nat → Bool) (c : Cuckoo B) :
    COp F → Nat
  | .insert fp i1 d side slots =>
    if (insert o alt c fp i1 (alt i1 fp) d side slots).isOk = true ∧ sel fp i1 = true then 1 else 0
  | _ => 0

def remHit (o : BucketOps B F) (alt : Nat → F → Nat) (sel : F → Nat → Bool) (c : Cuckoo B) :
    COp F → Nat
  | .remove fp i1 => if (remove o c fp i1 (alt i1 fp)).2 = true ∧ sel fp i1 = true then 1 else 0
  | _ => 0

def okInserts (o : BucketOps B F) (alt : Nat → F → Nat) (sel : F → Nat → Bool) :
    Cuckoo B → List (COp F) → Nat
  | _, [] => 0
  | c, op :: h => insHit o alt sel c op + okInserts o alt sel (step o alt c op).1 h

def okRemoves (o : BucketOps B F) (alt : Nat → F → Nat) (sel : F → Nat → Bool) :
    Cuckoo B → List (COp F) → Nat
  | _, [] => 0
  | c, op :: h => remHit o alt sel c op + okRemoves o alt sel (step o alt c op).1 h

/-- elements with the key (fingerprint `g`, orbit of bucket `j`) -/
def keySel (alt : Nat → F → Nat) (g : F) (j : Nat) : F → Nat → Bool :=
  fun fp i1 => decide (fp = g ∧ (j = i1 ∨ j = alt i1 fp))

def allSel : F → Nat → Bool := fun _ _ => true

def ValidOp (emp : F) (n s : Nat) : COp F → Prop
  | .insert fp i1 _ _ slots => fp ≠ emp ∧ i1 < n ∧ ∀ x ∈ slots, x < s
  | .remove fp i1 => fp ≠ emp ∧ i1 < n
  | .lookup fp i1 => fp ≠ emp ∧ i1 < n

def OpSafe (o : BucketOps B F) (alt : Nat → F → Nat) (c : Cuckoo B) : COp F → Prop
  | .insert fp i1 true side slots => (insert o alt c fp i1 (alt i1 fp) true side slots).isOk = true
  | _ => True

def NoDestructiveFail (o : BucketOps B F) (alt : Nat → F → Nat) : Cuckoo B → List (COp F) → Prop
  | _, [] => True
  | c, op :: h => OpSafe o alt c op ∧ NoDestructiveFail o alt (step o alt c op).1 h

def NonDestructive : List (COp F) → Prop
  | [] => True
  | .insert _ _ d _ _ :: h => d = false ∧ NonDestructive h
  | _ :: h => NonDestructive h

theorem noDestructiveFail_of_nonDestructive (alt : Nat → F → Nat) (c : Cuckoo B) (h : List (COp F))
    (hn : NonDestructive h) : NoDestructiveFail o alt c h := by
  induction h generalizing c with
  | nil => trivial
  | cons op h ih =>
    cases op with
    | insert fp i1 d side slots =>
      obtain ⟨hd, hn⟩ := hn
      subst hd
      exact ⟨trivial, ih _ hn⟩
    | remove fp i1 => exact ⟨trivial, ih _ hn⟩
    | lookup fp i1 => exact ⟨trivial, ih _ hn⟩

def Inv (L : LawfulBucket o emp) (n s : Nat) (c : Cuckoo B) : Prop := WF L c ∧ c.n = n ∧ c.bsize = s

/-- **one operation**: the filter stays well-formed, `length` and the number of occupied slots move
    by the successful insert / remove, and — when `alt` is an involution and the operation is not a
    failing destructive insert — so does the orbit count of every key -/
theorem step_spec (L : LawfulBucket o emp) (alt : Nat → F → Nat) (n s : Nat)
    (hAlt : ∀ j f, j < n → alt j f < n) (hs : 0 < s) (c : Cuckoo B) (op : COp F)
    (hI : Inv L n s c) (hv : ValidOp emp n s op) :
    Inv L n s (step o alt c op).1 ∧
    (step o alt c op).1.length + remHit o alt allSel c op = c.length + insHit o alt allSel c op ∧
    tocc L (step o alt c op).1.buckets + remHit o alt allSel c op
      = tocc L c.buckets + insHit o alt allSel c op ∧
    ((∀ j f, j < n → alt j f < n ∧ alt (alt j f) f = j) → OpSafe o alt c op → ∀ j g, j < n → g ≠ emp →
      kc L alt (step o alt c op).1 j g + remHit o alt (keySel alt g j) c op
        = kc L alt c j g + insHit o alt (keySel alt g j) c op) := by
  obtain ⟨hwf, hn, hb⟩ := hI
  subst hn; subst hb
  have comm : ∀ g fp : F, (g = fp) = (fp = g) := fun _ _ => propext ⟨Eq.symm, Eq.symm⟩
  cases op with
  | insert fp i1 d side slots =>
    obtain ⟨hfp, hi1, hsl⟩ := hv
    have hi2 := hAlt i1 fp hi1
    simp only [step, insHit, remHit, allSel, and_true, keySel, decide_eq_true_eq]
    cases h : insert o alt c fp i1 (alt i1 fp) d side slots with
    | ok c' =>
      have sp := insert_ok_spec L alt c fp i1 _ d side slots c' hwf hAlt hs hfp hi1 hi2 hsl h
      refine ⟨⟨sp.wf, sp.params.1, sp.params.2.1⟩, by simp [CRes.val, CRes.isOk, sp.length],
        by simp [CRes.val, CRes.isOk, sp.tocc], fun hI2 _ j g hj hg => ?_⟩
      simp only [CRes.val, CRes.isOk, true_and, Nat.add_zero]
      rw [insert_ok_kc L alt c fp i1 d side slots c' hwf hI2 hs hfp hi1 hsl h j g hj hg]
      simp only [ind, comm g fp]
    | full c' =>
      have sp := insert_full_spec L alt c fp i1 _ d side slots c' hwf hAlt hs hfp hi1 hi2 hsl h
      refine ⟨⟨sp.wf, sp.params.1, sp.params.2.1⟩, by simp [CRes.val, CRes.isOk, sp.length],
        by simp [CRes.val, CRes.isOk, sp.tocc], fun _ hsafe j g _ _ => ?_⟩
      cases d with
      | false =>
        rw [insert_full_nondestructive L alt c fp i1 _ side slots c' h]
        simp [CRes.val, CRes.isOk]
      | true =>
        simp only [OpSafe] at hsafe
        rw [h] at hsafe
        cases hsafe
  | remove fp i1 =>
    obtain ⟨hfp, hi1⟩ := hv
    have hi2 := hAlt i1 fp hi1
    simp only [step, insHit, remHit, allSel, and_true, keySel, decide_eq_true_eq]
    cases hl : lookup o c fp i1 (alt i1 fp) with
    | true =>
      obtain ⟨h1, sp⟩ := remove_present L c fp i1 _ hwf hfp hi1 hi2 hl
      have := sp.length
      have := sp.tocc
      refine ⟨⟨sp.wf, sp.params.1, sp.params.2.1⟩, by simp only [h1, if_true]; omega,
        by simp only [h1, if_true]; omega, fun hI2 _ j g hj hg => ?_⟩
      rw [← remove_kc L alt c fp i1 hwf hI2 hfp hi1 hl j g hj hg]
      simp only [h1, true_and, ind, comm g fp, Nat.add_zero]
    | false =>
      rw [remove_absent c fp i1 _ hl]
      exact ⟨⟨hwf, rfl, rfl⟩, by simp, by simp, fun _ _ _ _ _ _ => by simp⟩
  | lookup fp i1 => exact ⟨⟨hwf, rfl, rfl⟩, rfl, rfl, fun _ _ _ _ _ _ => rfl⟩

theorem step_params (alt : Nat → F → Nat) (c : Cuckoo B) (op : COp F) :
    SameParams c (step o alt c op).1 := by
  cases op with
  | insert fp i1 d side slots => exact insert_params alt c fp i1 _ d side slots
  | remove fp i1 => exact remove_params c fp i1 _
  | lookup fp i1 => exact SameParams.refl c

theorem run_params (alt : Nat → F → Nat) (c : Cuckoo B) (h : List (COp F)) :
    SameParams c (run o alt c h) := by
  induction h generalizing c with
  | nil => exact SameParams.refl c
  | cons op h ih => exact (step_params alt c op).trans (ih _)

theorem account_trans {a b c r1 r2 i1 i2 : Nat} (h1 : b + r1 = a + i1) (h2 : c + r2 = b + i2) :
    c + (r1 + r2) = a + (i1 + i2) := by omega

section
variable (L : LawfulBucket o emp) (alt : Nat → F → Nat) (n s : Nat)

section
variable (hAlt : ∀ j f, j < n → alt j f < n) (hs : 0 < s) (c : Cuckoo B) (h : List (COp F))
  (hI : Inv L n s c) (hv : ∀ op ∈ h, ValidOp emp n s op)
include hAlt hs hI hv

theorem run_inv :
    Inv L n s (run o alt c h) ∧
    (run o alt c h).length + okRemoves o alt allSel c h = c.length + okInserts o alt allSel c h ∧
    tocc L (run o alt c h).buckets + okRemoves o alt allSel c h
      = tocc L c.buckets + okInserts o alt allSel c h := by
  induction h generalizing c with
  | nil => exact ⟨hI, rfl, rfl⟩
  | cons op h ih =>
    obtain ⟨h1, h2, h3, _⟩ := step_spec L alt n s hAlt hs c op hI (hv op List.mem_cons_self)
    obtain ⟨k1, k2, k3⟩ := ih _ h1 (fun op' hop => hv op' (List.mem_cons_of_mem _ hop))
    exact ⟨k1, account_trans h2 k2, account_trans h3 k3⟩

/-- **`length` is exact**: it equals the number of occupied slots (from any well-formed start) and,
    from a start with `length = 0`, #successful inserts − #successful removes -/
theorem length_exact (h0 : c.length = 0) :
    (run o alt c h).length = occ emp (allSlots L (run o alt c h).buckets) ∧
    (run o alt c h).length + okRemoves o alt allSel c h = okInserts o alt allSel c h := by
  obtain ⟨h1, h2, _⟩ := run_inv L alt n s hAlt hs c h hI hv
  exact ⟨h1.1.len.trans (tocc_eq_occ L _), by omega⟩

theorem run_capacity :
    ∀ b ∈ (run o alt c h).buckets, L.wfb s b ∧ occ emp (L.slots b) ≤ s := by
  obtain ⟨⟨hw, _, hs'⟩, _, _⟩ := run_inv L alt n s hAlt hs c h hI hv
  intro b hb
  have hwb := hs' ▸ hw.bs.wfb b hb
  exact ⟨hwb, Nat.le_trans (occ_le_length emp _) (L.len_le s b hwb)⟩

theorem balanced_history (h0 : c.length = 0)
    (hbal : okInserts o alt allSel c h = okRemoves o alt allSel c h) :
    Inv L n s (run o alt c h) ∧ (run o alt c h).length = 0 := by
  obtain ⟨h1, h2, _⟩ := run_inv L alt n s hAlt hs c h hI hv
  exact ⟨h1, by omega⟩

end

section
variable (hInv : ∀ j f, j < n → alt j f < n ∧ alt (alt j f) f = j) (hs : 0 < s) (c : Cuckoo B)
  (h : List (COp F)) (hI : Inv L n s c) (hv : ∀ op ∈ h, ValidOp emp n s op)
  (hsafe : NoDestructiveFail o alt c h)
include hInv hs hI hv hsafe

theorem run_kc (j : Nat) (g : F) (hj : j < n) (hg : g ≠ emp) :
    kc L alt (run o alt c h) j g + okRemoves o alt (keySel alt g j) c h
      = kc L alt c j g + okInserts o alt (keySel alt g j) c h := by
  induction h generalizing c with
  | nil => rfl
  | cons op h ih =>
    have hv1 := hv op List.mem_cons_self
    obtain ⟨h1, _, _, h2⟩ := step_spec L alt n s (fun j f hj => (hInv j f hj).1) hs c op hI hv1
    have h2 := h2 hInv hsafe.1 j g hj hg
    exact account_trans h2
      (ih _ h1 (fun op' hop => hv op' (List.mem_cons_of_mem _ hop)) hsafe.2)

theorem live_count_exact
    (hz : ∀ j g, j < n → g ≠ emp → cntB L c.buckets j g = 0)
    (g : F) (j : Nat) (hg : g ≠ emp) (hj : j < n) :
    kc L alt (run o alt c h) j g + okRemoves o alt (keySel alt g j) c h
      = okInserts o alt (keySel alt g j) c h := by
  have := run_kc L alt n s hInv hs c h hI hv hsafe j g hj hg
  have h0 : kc L alt c j g = 0 := by
    unfold kc kcOf
    rw [hz j g hj hg, hz _ g (hInv j g hj).1 hg]
    split <;> rfl
  omega

theorem no_false_negative_of_live
    (hz : ∀ j g, j < n → g ≠ emp → cntB L c.buckets j g = 0)
    (g : F) (j : Nat) (hg : g ≠ emp) (hj : j < n)
    (hlive : okRemoves o alt (keySel alt g j) c h < okInserts o alt (keySel alt g j) c h) :
    lookup o (run o alt c h) g j (alt j g) = true := by
  rw [lookup_iff_kc L]
  have := live_count_exact L alt n s hInv hs c h hI hv hsafe hz g j hg hj
  omega

end
end

end
end Gostatix.Cuckoo
