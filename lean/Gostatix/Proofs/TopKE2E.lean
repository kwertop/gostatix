/-
  Gostatix.Proofs.TopKE2E — the event history `sketchEvents` of a run of `TopK.insert`, field by
  field; the Redis-variant insert `insertRedis` (counterpart of `TopK.insert`: sketch update,
  estimate, `offerRedis`) and its run as a fold over the same events; for the concrete examples,
  `posOK_ite` and `offerL`, a form of `offer` the kernel can evaluate.
-/
import Gostatix.Props.C03
import Gostatix.Proofs.TopKRun
import Gostatix.Proofs.TopKRedis
namespace Gostatix.TopK

variable (posOf : String → List Nat) (k : Nat) (t : TopK) (st : CMS × List HElem) (s : CMS)
  (ops : List (String × Nat))

theorem sketchEvents_length :
    (sketchEvents posOf s ops).length = ops.length := by
  induction ops generalizing s with
  | nil => rfl
  | cons o ops ih => obtain ⟨x, c⟩ := o; simp [sketchEvents, ih]

theorem sketchEvents_map_x :
    (sketchEvents posOf s ops).map (·.x) = ops.map (·.1) := by
  induction ops generalizing s with
  | nil => rfl
  | cons o ops ih => obtain ⟨x, c⟩ := o; simp [sketchEvents, ih]

theorem sketchEvents_mem_x {posOf s ops} {y : String} (hy : y ∈ ops.map (·.1)) :
    ∃ e ∈ sketchEvents posOf s ops, e.x = y := by
  rw [← sketchEvents_map_x posOf s ops] at hy
  obtain ⟨e, he, hx⟩ := List.mem_map.1 hy
  exact ⟨e, he, hx⟩

theorem sketchEvents_take (n : Nat) :
    (sketchEvents posOf s ops).take n = sketchEvents posOf s (ops.take n) := by
  induction ops generalizing s n with
  | nil => simp [sketchEvents]
  | cons o ops ih =>
    obtain ⟨x, c⟩ := o
    cases n with
    | zero => simp [sketchEvents]
    | succ n => simp only [sketchEvents, List.take_succ_cons, ih]

theorem sketchEvents_trueTotal (y : String) :
    trueTotal (sketchEvents posOf s ops) y = CMS.trueCount ops y := by
  induction ops generalizing s with
  | nil => rfl
  | cons o ops ih =>
    obtain ⟨x, c⟩ := o
    have ih' := ih (s.update (posOf x) c)
    unfold trueTotal CMS.trueCount at *
    simp only [sketchEvents, List.filter_cons]
    by_cases e : x = y
    · subst e
      simp only [decide_true, if_true, List.map_cons, List.sum_cons, sumL_cons]
      rw [ih']
    · simp only [e, decide_false, Bool.false_eq_true, if_false]
      exact ih'

theorem sketchEvents_total :
    total (sketchEvents posOf s ops) = CMS.total ops := by
  induction ops generalizing s with
  | nil => rfl
  | cons o ops ih =>
    obtain ⟨x, c⟩ := o
    have ih' := ih (s.update (posOf x) c)
    unfold total CMS.total at *
    simp only [sketchEvents, List.map_cons, List.sum_cons, sumL_cons, ih']

theorem sketchEvents_getElem (i : Nat) (hi : i < ops.length) :
    (sketchEvents posOf s ops)[i]'(by rw [sketchEvents_length]; exact hi) =
      ⟨ops[i].1, ops[i].2, (CMS.run posOf s (ops.take (i + 1))).count (posOf ops[i].1)⟩ := by
  induction ops generalizing s i with
  | nil => simp at hi
  | cons o ops ih =>
    obtain ⟨x, c⟩ := o
    cases i with
    | zero => simp [sketchEvents, CMS.run]
    | succ i =>
      have := ih (s.update (posOf x) c) i (by simpa using hi)
      simp only [sketchEvents, List.getElem_cons_succ, this, List.take_succ_cons]
      rfl

/-- the bounds half from ANY well-formed start sketch `s`, relative to the estimate in `s`
    (C03 general-state theorems) -/
theorem sketchEvents_bounds_general (posOf : String → List Nat) (s : CMS) (hs : CMS.WF s)
    (hrows : 1 ≤ s.rows) (hpos : CMS.PosOK posOf s.rows s.cols) (ops : List (String × Nat))
    (i : Nat) (hi : i < (sketchEvents posOf s ops).length) :
    s.count (posOf (sketchEvents posOf s ops)[i].x)
        + trueTotal ((sketchEvents posOf s ops).take (i + 1)) (sketchEvents posOf s ops)[i].x
      ≤ (sketchEvents posOf s ops)[i].f ∧
    (sketchEvents posOf s ops)[i].f
      ≤ s.count (posOf (sketchEvents posOf s ops)[i].x)
        + total ((sketchEvents posOf s ops).take (i + 1)) := by
  have hi' : i < ops.length := by rwa [sketchEvents_length] at hi
  rw [sketchEvents_getElem posOf _ ops i hi', sketchEvents_take, sketchEvents_trueTotal,
    sketchEvents_total]
  exact ⟨CMS.C03_lower_general posOf s _ _ hs hrows hpos, CMS.C03_upper_general posOf s _ _ hs hpos⟩

/-- `TopKRedis.Insert`: sketch update, estimate, sorted-set part -/
def insertRedis (k : Nat) (st : CMS × List HElem) (x : String) (pos : List Nat) (c : Nat) :
    CMS × List HElem :=
  let sk := st.1.update pos c
  (sk, offerRedis k st.2 x (sk.count pos))

def runInsertsRedis (posOf : String → List Nat) (k : Nat) (st : CMS × List HElem)
    (ops : List (String × Nat)) : CMS × List HElem :=
  ops.foldl (fun st o => insertRedis k st o.1 (posOf o.1) o.2) st

theorem runInsertsRedis_zset :
    (runInsertsRedis posOf k st ops).2 =
      (sketchEvents posOf st.1 ops).foldl (fun z e => offerRedis k z e.x e.f) st.2 := by
  induction ops generalizing st with
  | nil => rfl
  | cons o ops ih =>
    obtain ⟨x, c⟩ := o
    simp only [runInsertsRedis, List.foldl_cons, sketchEvents] at *
    rw [ih]
    rfl

theorem runInsertsRedis_sketch :
    (runInsertsRedis posOf k st ops).1 = CMS.run posOf st.1 ops :=
  (List.foldl_hom Prod.fst fun _ _ => rfl).symm

theorem runInserts_sketch :
    (runInserts posOf t ops).sketch = CMS.run posOf t.sketch ops :=
  (List.foldl_hom TopK.sketch fun _ _ => rfl).symm

theorem posOK_ite {c : Prop} [Decidable c] {a b : List Nat} {rows cols : Nat}
    (ha : a.length = rows ∧ ∀ p ∈ a, p < cols) (hb : b.length = rows ∧ ∀ p ∈ b, p < cols) :
    (if c then a else b).length = rows ∧ ∀ p ∈ (if c then a else b), p < cols := by
  split
  · exact ha
  · exact hb

/-! ### a kernel-evaluable form of `offer` (for concrete examples)

`Array.findIdx?` does not reduce in the kernel; `List.findIdx?` does. -/

theorem indexOf_list (h : Array HElem) (x : String) :
    GoHeap.indexOf h x = h.toList.findIdx? (fun e => e.1 == x) := by
  unfold GoHeap.indexOf
  cases h with | mk l => exact List.findIdx?_toArray _ l

def offerL (k : Nat) (heap : Array HElem) (x : String) (f : Nat) : Array HElem :=
  if heap.size < k ∨ f ≥ (heap.getD 0 ("", 0)).2 then
    let heap := match heap.toList.findIdx? (fun e => e.1 == x) with
      | some i => GoHeap.remove heap i
      | none => heap
    let heap := GoHeap.push heap (x, f)
    if heap.size > k then GoHeap.pop heap else heap
  else heap

theorem offer_eq_offerL : offer = offerL := by
  funext k heap x f
  unfold offer offerL
  rw [indexOf_list]
  rfl

end Gostatix.TopK
