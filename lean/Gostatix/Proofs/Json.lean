/-
  Gostatix.Proofs.Json — lemmas behind C10 (JSON Export/Import round trip).

  The namespace `Gostatix.Json` has its own `BloomMem`, `CuckooMem`, `TopKRedis`, …, its own `forN` (a fold
  over a state) and its own `…WF`; those of `Gostatix.Equals` (Model/Equals.lean) with the same names are
  unrelated.
-/
import Gostatix.Model.Json
import Gostatix.Proofs.Codec
namespace Gostatix.Json

/-! ### stores -/
namespace Store
@[simp] theorem set_same (st : Store) (k : Key) (v : Val) : st.set k v k = v := if_pos rfl
theorem set_other (st : Store) {k k' : Key} (v : Val) (h : k' ≠ k) : st.set k v k' = st k' := if_neg h
theorem set_apply (st : Store) (k k' : Key) (v : Val) :
    st.set k v k' = if k' = k then v else st k' := rfl
end Store

/-! ### `forN` -/
theorem forN_zero {σ : Type} (f : σ → Nat → σ) (s : σ) : forN 0 f s = s := rfl
theorem forN_succ {σ : Type} (n : Nat) (f : σ → Nat → σ) (s : σ) : forN (n + 1) f s = f (forN n f s) n := by
  simp [forN, List.range_succ]

theorem forN_ind {σ : Type} {f : σ → Nat → σ} (P : Nat → σ → Prop) (n : Nat) (s : σ) (h0 : P 0 s)
    (hs : ∀ i t, i < n → P i t → P (i + 1) (f t i)) : P n (forN n f s) := by
  induction n with
  | zero => exact h0
  | succ n ih =>
    rw [forN_succ]
    exact hs n _ (Nat.lt_succ_self n) (ih fun i t hi => hs i t (Nat.lt_succ_of_lt hi))

/-! ### Bloom -/

theorem revNat_invol : ∀ n, n < 256 → revNat (revNat n % 256) = n := by decide +kernel

/-! ### lists -/

theorem map_eq_self {α : Type} {f : α → α} {l : List α} (h : ∀ a ∈ l, f a = a) : l.map f = l :=
  (List.map_congr_left h).trans (List.map_id l)

theorem map_fix_id {N : Type} (f : N → N) (l : List (N × Nat))
    (h : ∀ e ∈ l, f e.1 = e.1) : l.map (fun e => (f e.1, e.2)) = l :=
  map_eq_self fun e he => by rw [h e he]

theorem range_map_getD_id {α : Type} (l : List α) (d : α) (n : Nat) (h : l.length = n) :
    (List.range n).map (fun i => l.getD i d) = l := by
  subst h
  refine List.ext_getElem (by rw [List.length_map, List.length_range]) fun i _ h2 => ?_
  rw [List.getElem_map, List.getElem_range, List.getD_eq_getElem?_getD, List.getElem?_eq_getElem h2]
  rfl

theorem range_map_getD {α β : Type} (l : List α) (f : α → β) (d : β) (n : Nat) (h : l.length = n) :
    (List.range n).map (fun i => ((l[i]?).map f).getD d) = l.map f := by
  rw [← range_map_getD_id (l.map f) d n (List.length_map f ▸ h)]
  simp only [List.getD_eq_getElem?_getD, List.getElem?_map]

theorem getD_range_map {α : Type} (f : Nat → α) (d : α) {n i : Nat} (h : i < n) :
    ((List.range n).map f).getD i d = f i := by
  simp [List.getD_eq_getElem?_getD, h]

/-! ### occupied slots of a bucket -/

theorem occupied_cons (e : String) (es : List String) :
    occupied (e :: es) = (if e ≠ "" then 1 else 0) + occupied es := by
  rw [occupied, List.countP_cons, Nat.add_comm]
  simp only [decide_eq_true_eq, occupied]

theorem occupied_set (l : List String) (i : Nat) (e : String) (hi : i < l.length) :
    occupied (l.set i e) + (if l[i] ≠ "" then 1 else 0) = occupied l + (if e ≠ "" then 1 else 0) := by
  induction l generalizing i with
  | nil => exact absurd hi (Nat.not_lt_zero _)
  | cons x xs ih =>
    cases i with
    | zero => simp only [List.set_cons_zero, List.getElem_cons_zero, occupied_cons]; omega
    | succ i =>
      have := ih i (Nat.lt_of_succ_lt_succ hi)
      simp only [List.set_cons_succ, List.getElem_cons_succ, occupied_cons]
      omega

theorem occupied_eq_length {l : List String} : occupied l = l.length ↔ "" ∉ l := by
  rw [occupied, List.countP_eq_length]
  exact ⟨fun h hm => by simpa using h "" hm, fun h a ha => decide_eq_true fun e => h (e ▸ ha)⟩

theorem mem_empty_of_occupied_lt (l : List String) (h : occupied l < l.length) : "" ∈ l :=
  Decidable.byContradiction fun hn => by have := occupied_eq_length.2 hn; omega

theorem occupied_fill {l : List String} {n : Nat} (h : n = occupied l) (hm : "" ∈ l) {e : String}
    (he : e ≠ "") : n + 1 = occupied (l.set (l.idxOf "") e) := by
  have hi := List.idxOf_lt_length_iff.2 hm
  have := occupied_set l _ e hi
  rw [List.getElem_idxOf hi, if_neg (fun h => h rfl), if_pos he] at this
  rw [h]
  exact this.symm

theorem occupied_clear {l : List String} {n : Nat} (h : n = occupied l) {e : String} (hm : e ∈ l)
    (he : e ≠ "") : n - 1 = occupied (l.set (l.idxOf e) "") := by
  have hi := List.idxOf_lt_length_iff.2 hm
  have := occupied_set l _ "" hi
  rw [List.getElem_idxOf hi, if_pos he, if_neg (fun h => h rfl)] at this
  exact Nat.sub_eq_of_eq_add (h.trans this.symm)

theorem occupied_replace {l : List String} {n : Nat} (h : n = occupied l) (hfull : l.length ≤ n)
    (i : Nat) {e : String} (he : e ≠ "") : n = occupied (l.set i e) := by
  by_cases hi : i < l.length
  · have := occupied_set l i e hi
    have hne : l[i] ≠ "" := fun h' =>
      occupied_eq_length.1 (Nat.le_antisymm List.countP_le_length (h ▸ hfull)) (h' ▸ List.getElem_mem hi)
    rw [if_pos hne, if_pos he] at this
    exact h.trans (Nat.add_right_cancel this).symm
  · rw [List.set_eq_of_length_le (Nat.le_of_not_lt hi)]
    exact h

/-! ### the bucket counters: what `add` / `remove` / eviction `set` maintain -/

/-- what `CuckooMem.WF.bucket` asks of a bucket beside `size = bsize` -/
def BucketMemInv (b : BucketMem String) : Prop :=
  b.elements.length = b.size ∧ b.length = occupied b.elements

theorem BucketMemInv.add {b : BucketMem String} (h : BucketMemInv b) (e : String) :
    BucketMemInv (BucketMem.add "" b e) := by
  unfold BucketMem.add
  split
  · exact h
  · rename_i hc
    obtain ⟨he, hf⟩ := not_or.1 hc
    have hfree : b.length < b.size := of_decide_eq_true (Decidable.not_not.1 hf)
    have hm : "" ∈ b.elements := mem_empty_of_occupied_lt _ (by rw [← h.2, h.1]; exact hfree)
    exact ⟨List.length_set.trans h.1, occupied_fill h.2 hm he⟩

theorem BucketMemInv.remove {b : BucketMem String} (h : BucketMemInv b) (e : String) (he : e ≠ "") :
    BucketMemInv (BucketMem.remove "" b e) := by
  unfold BucketMem.remove
  split
  · rename_i hc
    exact ⟨List.length_set.trans h.1, occupied_clear h.2 (List.contains_iff_mem.1 hc) he⟩
  · exact h

/-- the eviction loop's `set` on a FULL bucket with a non-empty fingerprint -/
theorem BucketMemInv.set_full {b : BucketMem String} (h : BucketMemInv b) (hfull : b.isFree = false)
    (i : Nat) (e : String) (he : e ≠ "") : BucketMemInv (BucketMem.set b i e) :=
  ⟨List.length_set.trans h.1,
    occupied_replace h.2 (h.1 ▸ Nat.le_of_not_lt (of_decide_eq_false hfull)) i he⟩

/-- the same for a Redis bucket (list and `_len` counter); `CuckooRedis.WF.len` is its counter clause
    read in the store -/
def BucketRedisInv (b : BucketRedis String) : Prop :=
  b.list.length ≤ b.size ∧ b.len = occupied b.list

theorem BucketRedisInv.add {b : BucketRedis String} (h : BucketRedisInv b) (e : String) :
    BucketRedisInv (BucketRedis.add "" b e) := by
  unfold BucketRedis.add
  split
  · exact h
  · rename_i hc
    obtain ⟨he, hf⟩ := not_or.1 hc
    have hfree : b.len < b.size := of_decide_eq_true (Decidable.not_not.1 hf)
    split
    · rename_i hm
      exact ⟨Nat.le_trans (Nat.le_of_eq List.length_set) h.1, occupied_fill h.2 (List.contains_iff_mem.1 hm) he⟩
    · rename_i hm
      -- no empty slot: the list holds `len` entries, fewer than `size`, and grows by `e`
      have hall := occupied_eq_length.2 fun hmem => hm (List.contains_iff_mem.2 hmem)
      have hocc : occupied (e :: b.list) = occupied b.list + 1 :=
        List.countP_cons_of_pos (decide_eq_true he)
      exact ⟨by show b.list.length + 1 ≤ b.size; rw [← hall, ← h.2]; exact hfree,
        (congrArg (· + 1) h.2).trans hocc.symm⟩

theorem BucketRedisInv.remove {b : BucketRedis String} (h : BucketRedisInv b) (e : String) (he : e ≠ "") :
    BucketRedisInv (BucketRedis.remove "" b e) := by
  unfold BucketRedis.remove
  split
  · rename_i hc
    exact ⟨Nat.le_trans (Nat.le_of_eq List.length_set) h.1, occupied_clear h.2 (List.contains_iff_mem.1 hc) he⟩
  · exact h

theorem BucketRedisInv.set_full {b : BucketRedis String} (h : BucketRedisInv b) (hfull : b.isFree = false)
    (i : Nat) (e : String) (he : e ≠ "") : BucketRedisInv (BucketRedis.set b i e) :=
  ⟨Nat.le_trans (Nat.le_of_eq List.length_set) h.1,
    occupied_replace h.2 (Nat.le_trans h.1 (Nat.le_of_not_lt (of_decide_eq_false hfull))) i he⟩

/-! ### Cuckoo, in memory -/

namespace CuckooMem

theorem restoreAux_spec (bsize : Nat) : ∀ (es pre : List String) (c : Nat),
    pre.length + es.length = bsize →
    restoreAux bsize es pre.length (pre ++ List.replicate es.length "", c)
      = (pre ++ es, c + occupied es) := by
  intro es
  induction es with
  | nil => intro pre c _; simp [restoreAux, occupied]
  | cons e es ih =>
    intro pre c hlen
    rw [List.length_cons] at hlen
    have := ih (pre ++ [e]) (c + if e ≠ "" then 1 else 0)
      (by rw [List.length_append, List.length_singleton]; omega)
    rw [List.length_append, List.length_singleton, List.append_assoc, List.append_assoc,
      List.singleton_append, List.singleton_append] at this
    rw [restoreAux, List.length_cons, List.replicate_succ, occupied_cons, ← Nat.add_assoc, ← this]
    -- whether or not `e` is written, slot `pre.length` ends up holding `e`
    congr 1
    by_cases he : e = ""
    · subst he
      rw [if_neg (fun h => h.2 rfl), if_neg (fun h => h rfl)]
      rfl
    · rw [if_pos ⟨by omega, he⟩, if_pos he, List.set_append_right _ _ (Nat.le_refl _), Nat.sub_self,
        List.set_cons_zero]

theorem restoreBucket_spec (bsize : Nat) (d : BucketDoc) (h : d.e.length = bsize) :
    restoreBucket bsize d = ⟨bsize, d.e, occupied d.e⟩ := by
  have := restoreAux_spec bsize d.e [] 0 ((Nat.zero_add _).trans h)
  simp only [List.length_nil, List.nil_append, Nat.zero_add] at this
  subst h
  simp only [restoreBucket, this]

/-- every bucket has `bsize` slots and satisfies `BucketMemInv`, which `add`, `remove` and the eviction
    `set` maintain (`BucketMemInv.add`, `.remove`, `.set_full`) -/
structure WF (c : CuckooMem) : Prop where
  nb : c.buckets.length = c.n
  bucket : ∀ b ∈ c.buckets, b.size = c.bsize ∧ b.elements.length = b.size ∧
    b.length = occupied b.elements

theorem export_buckets (c : CuckooMem) (h : c.buckets.length = c.n) :
    (exportDoc c).b = c.buckets.map bucketDoc := range_map_getD _ _ _ _ h

end CuckooMem

/-! ### frames: which keys a piece of code may write -/

def Frame (P : Key → Prop) (st st' : Store) : Prop := ∀ k, ¬ P k → st' k = st k

namespace Frame
variable {P : Key → Prop}
theorem refl (st : Store) : Frame P st st := fun _ _ => rfl
theorem trans {a b c : Store} (h1 : Frame P a b) (h2 : Frame P b c) : Frame P a c :=
  fun k hk => (h2 k hk).trans (h1 k hk)
theorem set {st : Store} {k : Key} (v : Val) (hk : P k) : Frame P st (st.set k v) := by
  intro k' hk'
  exact Store.set_other st v (fun e => hk' (e ▸ hk))
theorem mono {Q : Key → Prop} {a b : Store} (h : Frame P a b) (hPQ : ∀ k, P k → Q k) : Frame Q a b :=
  fun k hk => h k (fun hp => hk (hPQ k hp))
theorem forN {f : Store → Nat → Store} (n : Nat) (h : ∀ st i, i < n → Frame P st (f st i))
    (st : Store) : Frame P st (forN n f st) :=
  forN_ind (fun _ t => Frame P st t) n st (refl st) fun i t hi ht => trans ht (h t i hi)
theorem foldl {α : Type} {f : Store → α → Store} (h : ∀ st a, Frame P st (f st a)) :
    ∀ (l : List α) (st : Store), Frame P st (l.foldl f st) := by
  intro l
  induction l with
  | nil => exact refl
  | cons a l ih => intro st; exact trans (h st a) (ih (f st a))
end Frame

def Fresh (st : Store) (id : Nat) : Prop := ∀ k : Key, k.id = id → st k = .absent

theorem Fresh.absent (id : Nat) : Fresh (fun _ => .absent) id := fun _ _ => rfl

theorem Fresh.set {st : Store} {id : Nat} {k₀ : Key} {v : Val} (f : Fresh st id) (h : id ≠ k₀.id) :
    Fresh (st.set k₀ v) id :=
  fun k hk => (Store.set_other st v fun e => h (hk.symm.trans (congrArg Key.id e))).trans (f k hk)

/-! ### Cuckoo, Redis -/

namespace CuckooRedis

theorem rpushFold_frame (k : Key) (es : List String) (st : Store) :
    Frame (· = k) st (es.foldl (fun st e => st.rpushStrs k [e]) st) :=
  Frame.foldl (P := (· = k)) (fun _ _ => Frame.set _ rfl) es st

theorem rpushFold_get (k : Key) : ∀ (es : List String) (st : Store),
    Store.getStrs (es.foldl (fun st e => st.rpushStrs k [e]) st) k = st.getStrs k ++ es := by
  intro es
  induction es with
  | nil => intro st; exact (List.append_nil _).symm
  | cons e es ih =>
    intro st
    rw [List.foldl_cons, ih, Store.rpushStrs, Store.getStrs, Store.set_same]
    exact List.append_assoc _ [e] es

theorem importBucket_other (id : Nat) (st : Store) (i : Nat) (d : BucketDoc) (k : Key)
    (h1 : k ≠ .cuckooBucket id i) (h2 : k ≠ .cuckooBucketLen id i) :
    importBucket id st i d k = st k :=
  (Store.set_other _ _ h2).trans ((rpushFold_frame _ _ _ k h1).trans (Store.set_other _ _ h2))

theorem getStrs_incrBy (st : Store) {k k' : Key} (n : Nat) (h : k' ≠ k) :
    (st.incrBy k n).getStrs k' = st.getStrs k' :=
  congrArg Val.toStrs (Store.set_other st _ h)

theorem importBucket_strs (id : Nat) (st : Store) (i : Nat) (d : BucketDoc) :
    Store.getStrs (importBucket id st i d) (.cuckooBucket id i)
      = st.getStrs (.cuckooBucket id i) ++ d.e :=
  (getStrs_incrBy _ _ Key.noConfusion).trans ((rpushFold_get _ _ _).trans
    (congrArg (· ++ d.e) (getStrs_incrBy _ _ Key.noConfusion)))

theorem importBucket_len (id : Nat) (st : Store) (i : Nat) (d : BucketDoc) :
    Store.getInt (importBucket id st i d) (.cuckooBucketLen id i)
      = st.getInt (.cuckooBucketLen id i) + occupied d.e := by
  unfold importBucket
  simp only [Store.incrBy, Store.getInt, Store.set_same]
  rw [rpushFold_frame _ _ _ _ Key.noConfusion]
  simp [Val.toInt]

theorem importBuckets_spec (nk : Nat) (doc : Nat → BucketDoc) (st : Store)
    (h0 : ∀ i, st.getStrs (.cuckooBucket nk i) = [] ∧ st.getInt (.cuckooBucketLen nk i) = 0) (n : Nat) :
    ∀ i, (forN n (fun st i => importBucket nk st i (doc i)) st).getStrs (.cuckooBucket nk i)
        = (if i < n then (doc i).e else []) ∧
      (forN n (fun st i => importBucket nk st i (doc i)) st).getInt (.cuckooBucketLen nk i)
        = if i < n then occupied (doc i).e else 0 := by
  induction n with
  | zero =>
    intro i
    rw [if_neg (Nat.not_lt_zero i), if_neg (Nat.not_lt_zero i)]
    exact h0 i
  | succ j ih =>
    intro i
    rw [forN_succ]
    by_cases h : i = j
    · subst h
      rw [importBucket_strs, importBucket_len, (ih i).1, (ih i).2, if_neg (Nat.lt_irrefl i),
        if_neg (Nat.lt_irrefl i), if_pos (Nat.lt_succ_self i), if_pos (Nat.lt_succ_self i)]
      exact ⟨rfl, Nat.zero_add _⟩
    · have hlt : i < j + 1 ↔ i < j := by omega
      rw [Store.getStrs, Store.getInt,
        importBucket_other _ _ _ _ _ (fun e => h (Key.cuckooBucket.inj e).2) Key.noConfusion,
        importBucket_other _ _ _ _ _ Key.noConfusion fun e => h (Key.cuckooBucketLen.inj e).2]
      simp only [hlt]
      exact ih i

structure WF (h : CuckooRedis) (st : Store) : Prop where
  nb : h.nb = h.n
  len : ∀ i, i < h.n →
    st.getInt (.cuckooBucketLen h.key i) = occupied (st.getStrs (.cuckooBucket h.key i))

/-- keys written by `Import` under the new names `nk`, `nmk` -/
def Written (nk nmk : Nat) (k : Key) : Prop := k.id = nk ∨ k.id = nmk

theorem setMetadata_frame {P : Key → Prop} (h : CuckooRedis) (l : Nat) (st : Store)
    (hP : P (.rand h.metadataKey)) : Frame P st (setMetadata st h l) := Frame.set _ hP

theorem initKeys_frame {P : Key → Prop} (h : CuckooRedis) (st : Store) (h1 : P (.rand h.key)) :
    Frame P st (forN h.n (fun (st : Store) i => st.lpushKeys (.rand h.key) [.cuckooBucket h.key i])
      (st.del (.rand h.key))) :=
  (Frame.set _ h1).trans (Frame.forN _ (fun _ _ _ => Frame.set _ h1) _)

theorem initBuckets_frame {P : Key → Prop} (h : CuckooRedis) (st : Store)
    (h1 : P (.rand h.key)) (h2 : ∀ j, P (.cuckooBucketLen h.key j)) :
    Frame P st (initBuckets st h) :=
  (initKeys_frame h st h1).trans (Frame.forN _ (fun _ i _ => Frame.set _ (h2 i)) _)

theorem importBuckets_frame {P : Key → Prop} (nk : Nat) (b : List BucketDoc) (st : Store)
    (h1 : ∀ j, P (.cuckooBucket nk j)) (h2 : ∀ j, P (.cuckooBucketLen nk j)) :
    Frame P st (forN b.length (fun st i => importBucket nk st i (b.getD i ⟨0, 0, [], none⟩)) st) :=
  Frame.forN _ (fun _ i _ _ hk =>
    importBucket_other _ _ _ _ _ (fun e => hk (e ▸ h1 i)) fun e => hk (e ▸ h2 i)) _

theorem import_frame (d : CuckooDoc) (nk nmk : Nat) (t : CuckooRedis) (st : Store) :
    Frame (Written nk nmk) st (importDoc d nk nmk t st).2 :=
  ((setMetadata_frame _ _ _ (Or.inr rfl)).trans
    (initBuckets_frame _ _ (Or.inl rfl) fun _ => Or.inl rfl)).trans
    (importBuckets_frame nk d.b _ (fun _ => Or.inl rfl) fun _ => Or.inl rfl)

theorem hget_setMetadata (st : Store) (h : CuckooRedis) (l : Nat) :
    (setMetadata st h l).hget (.rand h.metadataKey) "length" = l := by
  simp [setMetadata, Store.hset, Store.hget, Store.getHash, Val.toHash]

theorem getInt_incrBy_zero (st : Store) (k k' : Key) : (st.incrBy k 0).getInt k' = st.getInt k' := by
  unfold Store.incrBy Store.getInt Store.set
  split
  · rename_i e; rw [e]; rfl
  · rfl

/-- `initBuckets` rewrites the bucket-key list and touches every counter with `INCRBY 0`: no counter
    changes its value (a missing one reads 0 before and is 0 after) -/
theorem initBuckets_getInt (h : CuckooRedis) (st : Store) {k : Key} (hk : k ≠ .rand h.key) :
    (initBuckets st h).getInt k = st.getInt k := by
  have incr : ∀ s0 : Store, (forN h.n (fun st i => st.incrBy (.cuckooBucketLen h.key i) 0) s0).getInt k
      = s0.getInt k := fun s0 =>
    forN_ind (fun _ t => t.getInt k = s0.getInt k) h.n s0 rfl
      fun _ t _ ht => (getInt_incrBy_zero t _ k).trans ht
  exact (incr _).trans (congrArg Val.toInt (initKeys_frame (P := (· = .rand h.key)) h st rfl k hk))

theorem export_bucket (h : CuckooRedis) (st : Store) {i : Nat} (hi : i < h.n) :
    ((exportDoc h st).b.getD i ⟨0, 0, [], none⟩).e = st.getStrs (.cuckooBucket h.key i) := by
  unfold exportDoc
  simp only
  rw [getD_range_map _ _ hi]

theorem export_b_length (h : CuckooRedis) (st : Store) : (exportDoc h st).b.length = h.n := by
  simp [exportDoc]

theorem import_export_handle (h t : CuckooRedis) (st : Store) (nk nmk : Nat) (wf : h.nb = h.n) :
    (importDoc (exportDoc h st) nk nmk t st).1 = { h with key := nk, metadataKey := nmk } := by
  have := export_b_length h st
  cases h
  simp_all [importDoc, exportDoc]

end CuckooRedis

/-! ### Count-Min, Redis -/

theorem flatten_length_const (m : List (List Nat)) (c : Nat) (h : ∀ row ∈ m, row.length = c) :
    m.flatten.length = m.length * c := by
  have : m.map List.length = List.replicate m.length c :=
    List.eq_replicate_iff.2 ⟨List.length_map _, List.forall_mem_map.2 h⟩
  rw [List.length_flatten, this, List.sum_replicate_nat]

theorem flatten_drop_take (c : Nat) : ∀ (m : List (List Nat)) (i : Nat),
    (∀ row ∈ m, row.length = c) → i < m.length →
    (m.flatten.drop (i * c)).take c = m.getD i [] := by
  intro m
  induction m with
  | nil => intro i _ hi; simp at hi
  | cons row m ih =>
    intro i h hi
    have h1 : row.length = c := h row List.mem_cons_self
    cases i with
    | zero => simp [List.take_left' h1]
    | succ i =>
      have e : (i + 1) * c = row.length + i * c := by rw [h1, Nat.succ_mul, Nat.add_comm]
      rw [List.flatten_cons, e, List.drop_length_add_append, List.getD_cons_succ]
      exact ih i (fun r hr => h r (List.mem_cons_of_mem _ hr)) (Nat.lt_of_succ_lt_succ hi)

namespace CMSRedis

theorem setMatrix_loop (id cols : Nat) (flat : List Nat) (st : Store) (n : Nat)
    (hne : ∀ i, i < n → (flat.drop (i * cols)).take cols ≠ []) :
    (forN n (setMatrixStep id cols flat) (st, true)).2 = true ∧
    ∀ i, i < n → (forN n (setMatrixStep id cols flat) (st, true)).1 (.cmsRow id i)
      = .nums ((flat.drop (i * cols)).take cols) := by
  refine forN_ind (fun j t => t.2 = true ∧
    ∀ i, i < j → t.1 (.cmsRow id i) = .nums ((flat.drop (i * cols)).take cols)) n (st, true)
    ⟨rfl, fun i hi => absurd hi (Nat.not_lt_zero i)⟩ ?_
  intro j t hj ⟨ht, hrows⟩
  simp only [setMatrixStep, ht, if_true, hne j hj, if_false]
  refine ⟨trivial, fun i hi => ?_⟩
  by_cases hij : i = j
  · subst hij
    simp only [Store.rpushNums, Store.del, Store.getNums, Store.set_same, Val.toNums, List.nil_append]
  · have hk : Key.cmsRow id i ≠ Key.cmsRow id j := fun e => hij (Key.cmsRow.inj e).2
    exact (Store.set_other _ _ hk).trans ((Store.set_other _ _ hk).trans (hrows i (by omega)))

theorem setMatrixStep_frame (id cols : Nat) (flat : List Nat) (acc : Store × Bool) (i : Nat) :
    Frame (fun k => ∃ j, k = .cmsRow id j) acc.1 (setMatrixStep id cols flat acc i).1 := by
  unfold setMatrixStep
  split
  · simp only
    split
    · exact Frame.set _ ⟨i, rfl⟩
    · exact Frame.trans (Frame.set _ ⟨i, rfl⟩) (Frame.set _ ⟨i, rfl⟩)
  · exact Frame.refl _

theorem setMatrix_frame {st : Store} {id : Nat} {m : List (List Nat)} {r : Store × Bool}
    (h : setMatrix st id m = some r) : Frame (fun k => ∃ j, k = .cmsRow id j) st r.1 := by
  unfold setMatrix at h
  split at h
  · cases h
  · cases h
    exact forN_ind (fun _ t => Frame _ st t.1) _ (st, true) (Frame.refl st)
      fun i t _ ht => ht.trans (setMatrixStep_frame _ _ _ t i)

theorem initMatrix_frame (st : Store) (id rows cols : Nat) :
    Frame (fun k => ∃ j, k = .cmsRow id j) st (initMatrix st id rows cols) :=
  Frame.forN _ (fun _ i _ => Frame.trans (Frame.set _ ⟨i, rfl⟩) (Frame.set _ ⟨i, rfl⟩)) _

/-- `setMatrixIters` divides the `r * c` cells by `c`, which gives `r` for every `c ≥ 1`, `c = 1` being
    the edge (one cell per row). -/
theorem setMatrix_spec (st : Store) (id : Nat) (m : List (List Nat)) (c : Nat)
    (hm : m ≠ []) (hc : 0 < c) (hrow : ∀ row ∈ m, row.length = c) :
    ∃ S, setMatrix st id m = some (S, true) ∧
      ∀ i, i < m.length → S (.cmsRow id i) = .nums (m.getD i []) := by
  have hrows : ∀ i, i < m.length → (m.flatten.drop (i * c)).take c = m.getD i [] :=
    fun i hi => flatten_drop_take c m i hrow hi
  have hne : ∀ i, i < m.length → (m.flatten.drop (i * c)).take c ≠ [] := fun i hi e => by
    have := hrow _ (List.getElem_mem hi)
    rw [hrows i hi, List.getD_eq_getElem?_getD, List.getElem?_eq_getElem hi] at e
    rw [show m[i] = [] from e] at this
    exact Nat.ne_of_lt hc this
  obtain ⟨hok, hget⟩ := setMatrix_loop id c m.flatten st m.length hne
  have hit : setMatrixIters c m.flatten.length = m.length := by
    rw [setMatrixIters, if_neg (Nat.ne_of_gt hc), flatten_length_const m c hrow, Nat.mul_div_cancel _ hc]
  cases m with
  | nil => exact absurd rfl hm
  | cons row0 rest =>
    refine ⟨_, ?_, fun i hi => (hget i hi).trans (congrArg Val.nums (hrows i hi))⟩
    simp only [setMatrix, hrow row0 List.mem_cons_self]
    rw [hit]
    exact congrArg some (Prod.ext rfl hok)

structure WF (h : CMSRedis) (st : Store) : Prop where
  rows_pos : 0 < h.rows
  cols_pos : 0 < h.cols
  row : ∀ r, r < h.rows → (st.getNums (.cmsRow h.key r)).length = h.cols

theorem matrix_wf (h : CMSRedis) (st : Store) (wf : WF h st) :
    h.matrix st ≠ [] ∧ (h.matrix st).length = h.rows ∧ ∀ row ∈ h.matrix st, row.length = h.cols := by
  have hl : (h.matrix st).length = h.rows := by rw [matrix, List.length_map, List.length_range]
  refine ⟨fun e => ?_, hl, List.forall_mem_map.2 fun r hr => wf.row r (List.mem_range.1 hr)⟩
  rw [e] at hl
  exact Nat.ne_of_lt wf.rows_pos hl

theorem matrix_of_rows (S : Store) (id : Nat) (m : List (List Nat)) (n : Nat) (hn : m.length = n)
    (hS : ∀ i, i < m.length → S (.cmsRow id i) = .nums (m.getD i [])) :
    (List.range n).map (fun r => S.getNums (.cmsRow id r)) = m := by
  refine (List.map_congr_left fun r hr => ?_).trans (range_map_getD_id m [] n hn)
  rw [Store.getNums, hS r (hn ▸ List.mem_range.1 hr)]
  rfl

/-- the store `st0` is arbitrary because the Top-K import runs `setMatrix` after `newSketch` has written
    its keys -/
theorem setMatrix_view (h : CMSRedis) (st st0 : Store) (nk mk : Nat) (wf : WF h st) :
    ∃ S, setMatrix st0 nk (h.matrix st) = some (S, true) ∧
      view { h with key := nk, metadataKey := mk } S = h.view st ∧
      ∀ k : Key, k.id ≠ nk → S k = st0 k := by
  obtain ⟨hm, hlen, hrow⟩ := matrix_wf h st wf
  obtain ⟨S, hS, hget⟩ := setMatrix_spec st0 nk (h.matrix st) h.cols hm wf.cols_pos hrow
  exact ⟨S, hS, congrArg (fun m => (⟨⟨h.rows, h.cols, m⟩, h.allSum⟩ : CMSMem))
      (matrix_of_rows S nk (h.matrix st) h.rows hlen hget),
    fun k hk => setMatrix_frame hS k fun ⟨_, e⟩ => hk (e ▸ rfl)⟩

end CMSRedis

/-! ### sorted sets -/

/-- what is needed of the byte order on element names -/
structure StrictTotal {N : Type} (lt : N → N → Bool) : Prop where
  irrefl : ∀ a, lt a a = false
  trans : ∀ a b c, lt a b = true → lt b c = true → lt a c = true
  total : ∀ a b, lt a b = true ∨ a = b ∨ lt b a = true

section zset
set_option linter.unusedSectionVars false
variable {N : Type} [DecidableEq N] {ltN : N → N → Bool}

theorem zLt_trans (H : StrictTotal ltN) {a b c : N × Nat}
    (h1 : zLt ltN a b = true) (h2 : zLt ltN b c = true) : zLt ltN a c = true := by
  simp only [zLt, Bool.or_eq_true, Bool.and_eq_true, decide_eq_true_eq, beq_iff_eq] at *
  rcases h1 with h1 | ⟨h1, h1'⟩ <;> rcases h2 with h2 | ⟨h2, h2'⟩
  · exact Or.inl (Nat.lt_trans h1 h2)
  · exact Or.inl (h2 ▸ h1)
  · exact Or.inl (h1 ▸ h2)
  · exact Or.inr ⟨h1.trans h2, H.trans _ _ _ h1' h2'⟩

theorem zLt_asymm (H : StrictTotal ltN) {a b : N × Nat}
    (h1 : zLt ltN a b = true) (h2 : zLt ltN b a = true) : False := by
  have h := zLt_trans H h1 h2
  simp [zLt, H.irrefl] at h

theorem zLt_total (H : StrictTotal ltN) {a b : N × Nat} (hne : a.1 ≠ b.1) :
    zLt ltN a b = true ∨ zLt ltN b a = true := by
  simp only [zLt, Bool.or_eq_true, Bool.and_eq_true, decide_eq_true_eq, beq_iff_eq]
  rcases Nat.lt_trichotomy a.2 b.2 with h | h | h
  · exact Or.inl (Or.inl h)
  · rcases H.total a.1 b.1 with h' | h' | h'
    · exact Or.inl (Or.inr ⟨h, h'⟩)
    · exact absurd h' hne
    · exact Or.inr (Or.inr ⟨h.symm, h'⟩)
  · exact Or.inr (Or.inl h)

/-- `ZRANGE` order -/
def ZSorted (ltN : N → N → Bool) (z : List (N × Nat)) : Prop :=
  z.Pairwise (fun a b => zLt ltN a b = true)

theorem insertSorted_perm (lt : N × Nat → N × Nat → Bool) (x : N × Nat) :
    ∀ l : List (N × Nat), (insertSorted lt x l).Perm (x :: l) := by
  intro l
  induction l with
  | nil => exact List.Perm.refl _
  | cons y ys ih =>
    unfold insertSorted
    split
    · exact List.Perm.refl _
    · exact (List.Perm.cons y ih).trans (List.Perm.swap x y ys)

theorem insertSorted_sorted (H : StrictTotal ltN) (x : N × Nat) :
    ∀ l : List (N × Nat), ZSorted ltN l → (∀ y ∈ l, y.1 ≠ x.1) →
      ZSorted ltN (insertSorted (zLt ltN) x l) := by
  intro l
  induction l with
  | nil => intro _ _; exact List.pairwise_singleton _ _
  | cons y ys ih =>
    intro hs hne
    obtain ⟨hy, hys⟩ := List.pairwise_cons.1 hs
    unfold insertSorted
    split
    · rename_i hxy
      exact List.pairwise_cons.2
        ⟨List.forall_mem_cons.2 ⟨hxy, fun z hz => zLt_trans H hxy (hy z hz)⟩, hs⟩
    · rename_i hxy
      refine List.pairwise_cons.2 ⟨fun z hz => ?_, ih hys fun z hz => hne z (List.mem_cons_of_mem _ hz)⟩
      rcases List.mem_cons.1 ((insertSorted_perm _ x ys).mem_iff.1 hz) with rfl | hz
      · exact (zLt_total H (hne y List.mem_cons_self)).resolve_right hxy
      · exact hy z hz

theorem fresh_of_nodup {z rest : List (N × Nat)} {e : N × Nat}
    (hnd : ((z ++ e :: rest).map (·.1)).Nodup) : ∀ y ∈ z, y.1 ≠ e.1 := by
  intro y hy
  rw [List.map_append, List.map_cons] at hnd
  exact (List.nodup_append.1 hnd).2.2 y.1 (List.mem_map_of_mem hy) e.1 List.mem_cons_self

theorem zadd_new (z : List (N × Nat)) (x : N) (f : Nat) (h : ∀ y ∈ z, y.1 ≠ x) :
    zadd ltN z x f = insertSorted (zLt ltN) (x, f) z := by
  unfold zadd
  rw [List.filter_eq_self.2 (fun y hy => by simpa using h y hy)]

theorem importHeap_spec (H : StrictTotal ltN) : ∀ (args z : List (N × Nat)),
    ZSorted ltN z → ((z ++ args).map (·.1)).Nodup →
    ZSorted ltN (importHeap ltN z args) ∧ (importHeap ltN z args).Perm (z ++ args) := by
  intro args
  induction args with
  | nil => intro z hs _; simp [importHeap, hs]
  | cons e rest ih =>
    intro z hs hnd
    have hfresh := fresh_of_nodup hnd
    have hp : (insertSorted (zLt ltN) e z ++ rest).Perm (z ++ e :: rest) :=
      ((insertSorted_perm _ e z).append_right rest).trans List.perm_middle.symm
    have := ih _ (insertSorted_sorted H e z hs hfresh) (((hp.map (·.1)).nodup_iff).2 hnd)
    rw [importHeap, List.foldl_cons, zadd_new z e.1 e.2 hfresh]
    exact ⟨this.1, this.2.trans hp⟩

theorem importHeap_roundtrip (H : StrictTotal ltN) (z args : List (N × Nat))
    (hs : ZSorted ltN z) (hnd : (z.map (·.1)).Nodup) (hperm : args.Perm z) :
    importHeap ltN [] args = z := by
  have := importHeap_spec H args [] List.Pairwise.nil (((hperm.map (·.1)).nodup_iff).2 hnd)
  refine List.Perm.eq_of_pairwise (le := fun a b => zLt ltN a b = true) ?_ this.1 hs
    (this.2.trans hperm)
  intro a b _ _ h1 h2
  exact (zLt_asymm H h1 h2).elim

theorem freqMap_aux : ∀ (h acc : List (N × Nat)), ((acc ++ h).map (·.1)).Nodup →
    h.foldl (fun m e => m.filter (fun p => p.1 ≠ e.1) ++ [e]) acc = acc ++ h := by
  intro h
  induction h with
  | nil => intro acc _; exact (List.append_nil acc).symm
  | cons e rest ih =>
    intro acc hnd
    rw [List.foldl_cons, List.filter_eq_self.2 fun y hy => by simpa using fresh_of_nodup hnd y hy,
      List.append_cons acc e rest]
    exact ih _ (List.append_cons .. ▸ hnd)

theorem freqMap_nodup (h : List (N × Nat)) (hnd : (h.map (·.1)).Nodup) : freqMap h = h :=
  freqMap_aux h [] hnd

end zset

/-- bytewise order on Go strings modelled as Lean strings (as in Model/TopK.lean) -/
def strLt (a b : String) : Bool := decide (a < b)
def bytesLt (a b : Bytes) : Bool := decide (a < b)

theorem strLt_strictTotal : StrictTotal strLt where
  irrefl a := decide_eq_false (String.lt_irrefl a)
  trans _ _ _ h1 h2 := decide_eq_true (String.lt_trans (of_decide_eq_true h1) (of_decide_eq_true h2))
  total a b := by simpa only [strLt, decide_eq_true_eq] using Std.lt_trichotomy a b

theorem bytesLt_strictTotal : StrictTotal bytesLt where
  irrefl a := decide_eq_false (List.lt_irrefl a)
  trans _ _ _ h1 h2 := decide_eq_true (List.lt_trans (of_decide_eq_true h1) (of_decide_eq_true h2))
  total a b := by simpa only [bytesLt, decide_eq_true_eq] using Std.lt_trichotomy a b

theorem zLt_str (a b : String × Nat) : zLt strLt a b = TopK.zLt a b := rfl

end Gostatix.Json
