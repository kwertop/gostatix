/-
  Helper definitions and lemmas for Props/C03Machine.lean: the machine-integer Count-Min model
  `CMSM` (Model/CMSM.lean, `UInt64` cells, wrapping `+`) refines the `Nat` model `CMS`.
  `absM` is `toNat` on every cell, `modM` is `% 2^64` on every cell of a `Nat` sketch.  The step
  lemmas go through the shared recursions of Proofs/Rows.lean.  `runM_mod`
  (`absM (runM h) = modM h.state`) holds for EVERY history; the refinement below `total < 2^64`
  (`runM_refines`) is its corollary, the cells being bounded by the total.
-/
import Gostatix.Model.CMSM
import Gostatix.Proofs.C11Reach

namespace Gostatix.CMSM
open Gostatix.CMS (Res)
open Gostatix.Reach (CMSHist Bounded)
open Gostatix.Rows

def absMat (m : List (List UInt64)) : List (List Nat) := m.map (fun row => row.map UInt64.toNat)

/-- the abstraction function: the `Nat` sketch a machine sketch stands for (`allSum` is not part
    of the `Nat` model state and is dropped) -/
def absM (s : CMSM) : CMS := { rows := s.rows, cols := s.cols, m := absMat s.m }

def modMat (m : List (List Nat)) : List (List Nat) := m.map (fun row => row.map (· % 2 ^ 64))

def modM (s : CMS) : CMS := { s with m := modMat s.m }

def resAbs : Res CMSM → Res CMS
  | .ok s => .ok (absM s)
  | .err => .err

def resMod : Res CMS → Res CMS
  | .ok s => .ok (modM s)
  | .err => .err

/-- cf. `CMS.cell` -/
def cellM (m : List (List UInt64)) (r c : Nat) : UInt64 := (m.getD r []).getD c 0

/-- `Update(pos, c)` does not overflow: every cell it touches, plus the count, fits a `uint64`
    (a position outside its row touches nothing; `getD` gives 0 there, which is harmless). -/
def NoOvfUpdate (s : CMSM) (pos : List Nat) (c : UInt64) : Prop :=
  ∀ v ∈ cellsM s.m pos, v.toNat + c.toNat < 2 ^ 64

/-- cell-wise: every pair of cells that `Merge` adds fits a `uint64`. -/
def NoOvfRows : List (List UInt64) → List (List UInt64) → Prop
  | r1 :: m1, r2 :: m2 => (∀ p ∈ List.zip r1 r2, p.1.toNat + p.2.toNat < 2 ^ 64) ∧ NoOvfRows m1 m2
  | _, _ => True

def NoOvfMerge (a b : CMSM) : Prop := NoOvfRows a.m b.m

theorem noOvfRows_toNat_add : ∀ a b : List (List UInt64), NoOvfRows a b →
    ∀ rr ∈ List.zip a b, ∀ p ∈ List.zip rr.1 rr.2, (cellMerge p.1 p.2).toNat = p.1.toNat + p.2.toNat
  | _ :: a, _ :: b, h, rr, hrr, p, hp => by
    rcases List.mem_cons.1 hrr with rfl | hrr
    · exact (UInt64.toNat_add p.1 p.2).trans (Nat.mod_eq_of_lt (h.1 p hp))
    · exact noOvfRows_toNat_add a b h.2 rr hrr p hp


theorem map_eq_self {α} (f : α → α) (l : List α) (h : ∀ x ∈ l, f x = x) : l.map f = l :=
  (List.map_congr_left h).trans (List.map_id l)

theorem modMat_eq_self (m : List (List Nat)) (h : ∀ row ∈ m, ∀ v ∈ row, v < 2 ^ 64) :
    modMat m = m :=
  map_eq_self _ m fun row hrow => map_eq_self _ row fun v hv => Nat.mod_eq_of_lt (h row hrow v hv)

theorem modMat_absMat (m : List (List UInt64)) : modMat (absMat m) = absMat m :=
  modMat_eq_self _ (List.forall_mem_map.2 fun _ _ => List.forall_mem_map.2 fun u _ => u.toNat_lt)

theorem modMat_idem (m : List (List Nat)) : modMat (modMat m) = modMat m :=
  modMat_eq_self _ (List.forall_mem_map.2 fun _ _ =>
    List.forall_mem_map.2 fun u _ => Nat.mod_lt u (by decide))

theorem modMat_of_bounded (m : List (List Nat)) (T : Nat) (h : Bounded m T) (hT : T < 2 ^ 64) :
    modMat m = m :=
  modMat_eq_self m fun row hrow v hv => Nat.lt_of_le_of_lt (h row hrow v hv) hT

theorem absMat_inj (a b : List (List UInt64)) (h : absMat a = absMat b) : a = b :=
  (List.map_inj_right fun _ _ hr =>
    (List.map_inj_right fun _ _ => UInt64.toNat_inj.1).1 hr).1 h

theorem cell_absMat (m : List (List UInt64)) (r c : Nat) :
    CMS.cell (absMat m) r c = (cellM m r c).toNat :=
  getD_getD_map UInt64.toNat m r c 0

theorem cell_modMat (m : List (List Nat)) (r c : Nat) :
    CMS.cell (modMat m) r c = CMS.cell m r c % 2 ^ 64 :=
  getD_getD_map (· % 2 ^ 64) m r c 0

theorem updRowsM_abs (m : List (List UInt64)) (pos : List Nat) (c : UInt64)
    (h : ∀ v ∈ cellsM m pos, v.toNat + c.toNat < 2 ^ 64) :
    absMat (updRowsM m pos c) = CMS.updRows (absMat m) pos c.toNat := by
  rw [updRowsM_eq, CMS.updRows_eq]
  refine map_updWith UInt64.toNat _ _ 0 m pos fun x hx => ?_
  rw [cellsM_eq] at h
  exact (UInt64.toNat_add x c).trans (Nat.mod_eq_of_lt (h x hx))

theorem modMat_updRows_eq (m : List (List Nat)) (pos : List Nat) (c : Nat) :
    modMat (CMS.updRows m pos c) = updWith (fun n => (n + c) % 2 ^ 64) (modMat m) pos := by
  rw [CMS.updRows_eq]
  exact map_updWith (· % 2 ^ 64) _ _ 0 m pos fun x _ => (Nat.mod_add_mod x (2 ^ 64) c).symm

theorem updRowsM_mod (m : List (List UInt64)) (pos : List Nat) (c : UInt64) :
    absMat (updRowsM m pos c) = modMat (CMS.updRows (absMat m) pos c.toNat) := by
  rw [modMat_updRows_eq, modMat_absMat, updRowsM_eq]
  exact map_updWith UInt64.toNat _ _ 0 m pos fun x _ => UInt64.toNat_add x c

theorem modMat_updRows (m : List (List Nat)) (pos : List Nat) (c : Nat) :
    modMat (CMS.updRows (modMat m) pos (c % 2 ^ 64)) = modMat (CMS.updRows m pos c) := by
  rw [modMat_updRows_eq, modMat_updRows_eq, modMat_idem]
  exact congrArg (updWith · (modMat m) pos) (funext fun n => Nat.add_mod_mod n c (2 ^ 64))

theorem foldMinM_toNat (vs : List UInt64) (v : UInt64) :
    (vs.foldl (fun mn x => if x < mn then x else mn) v).toNat
      = (vs.map UInt64.toNat).foldl CMS.minStep v.toNat := by
  rw [List.foldl_map]
  refine (List.foldl_hom UInt64.toNat (H := fun mn x => ?_)).symm
  simp only [CMS.minStep]
  by_cases hlt : x < mn
  · rw [if_pos hlt, if_pos (UInt64.lt_iff_toNat_lt.1 hlt)]
  · rw [if_neg hlt, if_neg fun h => hlt (UInt64.lt_iff_toNat_lt.2 h)]

theorem minInitM_toNat (l : List UInt64) :
    (minInitM l).toNat = CMS.minInit (l.map UInt64.toNat) := by
  cases l with
  | nil => rfl
  | cons v vs => exact foldMinM_toNat vs v

theorem cellsM_abs (m : List (List UInt64)) (pos : List Nat) :
    (cellsM m pos).map UInt64.toNat = CMS.cells (absMat m) pos := by
  rw [cellsM_eq, CMS.cells_eq]
  exact map_probe UInt64.toNat 0 m pos

theorem countM_abs (s : CMSM) (pos : List Nat) : (s.countM pos).toNat = (absM s).count pos := by
  unfold countM CMS.count
  rw [minInitM_toNat, cellsM_abs]; rfl

theorem cells_modMat (m : List (List Nat)) (pos : List Nat) :
    CMS.cells (modMat m) pos = (CMS.cells m pos).map (· % 2 ^ 64) := by
  rw [CMS.cells_eq, CMS.cells_eq]
  exact (map_probe (· % 2 ^ 64) 0 m pos).symm

theorem addRowsM_abs (a b : List (List UInt64)) (h : NoOvfRows a b) :
    absMat (addRowsM a b) = CMS.addRows (absMat a) (absMat b) := by
  rw [addRowsM_eq, CMS.addRows_eq]
  exact map_zipRows UInt64.toNat _ _ a b (noOvfRows_toNat_add a b h)

theorem modMat_addRows_eq (a b : List (List Nat)) :
    modMat (CMS.addRows a b) = zipRows (fun x y => (x + y) % 2 ^ 64) (modMat a) (modMat b) := by
  rw [CMS.addRows_eq]
  exact map_zipRows (· % 2 ^ 64) _ _ a b fun _ _ p _ => Nat.add_mod p.1 p.2 (2 ^ 64)

theorem addRowsM_mod (a b : List (List UInt64)) :
    absMat (addRowsM a b) = modMat (CMS.addRows (absMat a) (absMat b)) := by
  rw [modMat_addRows_eq, modMat_absMat, modMat_absMat, addRowsM_eq]
  exact map_zipRows UInt64.toNat _ _ a b fun _ _ p _ => UInt64.toNat_add p.1 p.2

theorem modMat_addRows (a b : List (List Nat)) :
    modMat (CMS.addRows (modMat a) (modMat b)) = modMat (CMS.addRows a b) := by
  rw [modMat_addRows_eq, modMat_addRows_eq, modMat_idem, modMat_idem]

theorem mergeM_ok (a b : CMSM) (hr : a.rows = b.rows) (hc : a.cols = b.cols) :
    mergeM a b = .ok { a with m := addRowsM a.m b.m } := by
  simp [mergeM, hr, hc]

theorem mergeM_err (a b : CMSM) (h : a.rows ≠ b.rows ∨ a.cols ≠ b.cols) :
    mergeM a b = .err := by
  unfold mergeM
  rcases h with h | h
  · simp [h]
  · simp [h]

theorem noOvfRows_of_bounded (a b : List (List UInt64)) (T₁ T₂ : Nat)
    (h₁ : Bounded (absMat a) T₁) (h₂ : Bounded (absMat b) T₂) (hT : T₁ + T₂ < 2 ^ 64) :
    NoOvfRows a b := by
  induction a generalizing b with
  | nil => cases b <;> trivial
  | cons r1 a ih =>
    cases b with
    | nil => trivial
    | cons r2 b =>
      refine ⟨?_, ih b (fun r hr => h₁ r (List.mem_cons_of_mem _ hr))
        (fun r hr => h₂ r (List.mem_cons_of_mem _ hr))⟩
      intro p hp
      obtain ⟨p1, p2⟩ := p
      obtain ⟨m1, m2⟩ := List.of_mem_zip hp
      have b1 := h₁ (r1.map UInt64.toNat) List.mem_cons_self p1.toNat (List.mem_map_of_mem m1)
      have b2 := h₂ (r2.map UInt64.toNat) List.mem_cons_self p2.toNat (List.mem_map_of_mem m2)
      show p1.toNat + p2.toNat < 2 ^ 64
      omega

/-- the machine run of a history: `Update(pos, c)` receives the `uint64` `UInt64.ofNat c`
    (every `uint64` argument `u` is `UInt64.ofNat u.toNat`); a `Merge` that returns an error leaves
    the receiver alone. -/
def runM : CMSHist → CMSM
  | .new r c => CMSM.new r c
  | .update h pos c => (runM h).updateM pos (UInt64.ofNat c)
  | .merge h g => match mergeM (runM h) (runM g) with
    | .ok s => s
    | .err => runM h

/-- every step of the machine run that reaches the result satisfies the no-overflow condition of
    that step (a merged history `g` counts only when the merge succeeds). -/
def StepsOK : CMSHist → Prop
  | .new _ _ => True
  | .update h pos c => StepsOK h ∧ c < 2 ^ 64 ∧ NoOvfUpdate (runM h) pos (UInt64.ofNat c)
      ∧ (runM h).allSum.toNat + c < 2 ^ 64
  | .merge h g => StepsOK h
      ∧ (h.rows = g.rows ∧ h.cols = g.cols → StepsOK g ∧ NoOvfMerge (runM h) (runM g))

/-- `Merge` on the two models: the same verdict, and on success the matrix equation `hg` between
    `addRowsM` and `addRows` (exact with `R = id`, or up to `modMat` with `R = resMod`) decides
    the result -/
theorem resAbs_mergeM (a b : CMSM) (g : List (List Nat) → List (List Nat))
    (R : Res CMS → Res CMS) (hok : ∀ s : CMS, R (.ok s) = .ok { s with m := g s.m })
    (herr : R .err = .err)
    (hg : absMat (addRowsM a.m b.m) = g (CMS.addRows (absMat a.m) (absMat b.m))) :
    resAbs (mergeM a b) = R (CMS.merge (absM a) (absM b)) := by
  by_cases hd : a.rows = b.rows ∧ a.cols = b.cols
  · rw [mergeM_ok a b hd.1 hd.2, CMS.merge_ok (absM a) (absM b) hd.1 hd.2, hok]
    exact congrArg Res.ok (CMS.cms_ext _ _ rfl rfl hg)
  · have hd' := Decidable.not_and_iff_not_or_not.1 hd
    rw [mergeM_err a b hd', CMS.merge_err (absM a) (absM b) hd', herr]
    rfl

theorem mergeM_orElse (a b : CMSM) :
    (match mergeM a b with | .ok s => s | .err => a)
      = if a.rows = b.rows ∧ a.cols = b.cols then { a with m := addRowsM a.m b.m } else a := by
  by_cases hd : a.rows = b.rows ∧ a.cols = b.cols
  · rw [mergeM_ok a b hd.1 hd.2, if_pos hd]
  · rw [mergeM_err a b (Decidable.not_and_iff_not_or_not.1 hd), if_neg hd]

theorem _root_.Gostatix.CMS.merge_orElse (a b : CMS) :
    (match CMS.merge a b with | .ok s => s | .err => a)
      = if a.rows = b.rows ∧ a.cols = b.cols then { a with m := CMS.addRows a.m b.m } else a := by
  rw [CMS.merge_eq]
  by_cases hd : a.rows = b.rows ∧ a.cols = b.cols
  · rw [if_pos hd, if_pos hd]
  · rw [if_neg hd, if_neg hd]

theorem runM_dims : ∀ h : CMSHist, (runM h).rows = h.rows ∧ (runM h).cols = h.cols
  | .new _ _ => ⟨rfl, rfl⟩
  | .update h _ _ => runM_dims h
  | .merge h g => by
    rw [show runM (.merge h g) = _ from mergeM_orElse (runM h) (runM g)]
    split <;> exact runM_dims h

theorem _root_.Gostatix.Reach.CMSHist.bounded (h : CMSHist) : Bounded h.state.m h.total :=
  (CMSHist.inv h).2.2.2

theorem runM_merge (h g : CMSHist) :
    runM (.merge h g) = if h.rows = g.rows ∧ h.cols = g.cols
      then { runM h with m := addRowsM (runM h).m (runM g).m } else runM h := by
  rw [← (runM_dims h).1, ← (runM_dims h).2, ← (runM_dims g).1, ← (runM_dims g).2]
  exact mergeM_orElse (runM h) (runM g)

theorem state_merge (h g : CMSHist) :
    (CMSHist.merge h g).state = if h.rows = g.rows ∧ h.cols = g.cols
      then { h.state with m := CMS.addRows h.state.m g.state.m } else h.state := by
  obtain ⟨h1, h2, _, _⟩ := CMSHist.inv h
  obtain ⟨g1, g2, _, _⟩ := CMSHist.inv g
  rw [← h1, ← h2, ← g1, ← g2]
  exact CMS.merge_orElse h.state g.state

theorem absMat_new (rows cols : Nat) : absMat (CMSM.new rows cols).m = (CMS.new rows cols).m := by
  simp [absMat, CMSM.new, CMS.new, List.map_replicate]

theorem modMat_new (rows cols : Nat) : modMat (CMS.new rows cols).m = (CMS.new rows cols).m := by
  simp [modMat, CMS.new, List.map_replicate]

theorem absM_new (rows cols : Nat) : absM (CMSM.new rows cols) = CMS.new rows cols :=
  CMS.cms_ext _ _ rfl rfl (absMat_new rows cols)

/-- **modulo 2^64, always**: any counts, any totals. -/
theorem runM_mod : ∀ h : CMSHist,
    absM (runM h) = modM h.state ∧ (runM h).allSum.toNat = h.ownSum % 2 ^ 64
  | .new r c =>
    ⟨(absM_new r c).trans (CMS.cms_ext _ _ rfl rfl (modMat_new r c).symm), rfl⟩
  | .update h pos c => by
    obtain ⟨ih, ihs⟩ := runM_mod h
    have im : absMat (runM h).m = modMat h.state.m := congrArg CMS.m ih
    have ir : (runM h).rows = h.state.rows := congrArg CMS.rows ih
    have ic : (runM h).cols = h.state.cols := congrArg CMS.cols ih
    refine ⟨CMS.cms_ext _ _ ir ic ?_, ?_⟩
    · show absMat (updRowsM (runM h).m pos (UInt64.ofNat c)) = modMat (CMS.updRows h.state.m pos c)
      rw [updRowsM_mod, im, UInt64.toNat_ofNat', modMat_updRows]
    · show ((runM h).allSum + UInt64.ofNat c).toNat = (h.ownSum + c) % 2 ^ 64
      rw [UInt64.toNat_add, ihs, UInt64.toNat_ofNat', ← Nat.add_mod]
  | .merge h g => by
    obtain ⟨ih, ihs⟩ := runM_mod h
    obtain ⟨ig, _⟩ := runM_mod g
    rw [runM_merge h g, state_merge h g]
    by_cases hd : h.rows = g.rows ∧ h.cols = g.cols
    · have im : absMat (runM h).m = modMat h.state.m := congrArg CMS.m ih
      have gm : absMat (runM g).m = modMat g.state.m := congrArg CMS.m ig
      have ir : (runM h).rows = h.state.rows := congrArg CMS.rows ih
      have ic : (runM h).cols = h.state.cols := congrArg CMS.cols ih
      rw [if_pos hd, if_pos hd]
      refine ⟨CMS.cms_ext _ _ ir ic ?_, ihs⟩
      show absMat (addRowsM (runM h).m (runM g).m) = modMat (CMS.addRows h.state.m g.state.m)
      rw [addRowsM_mod, im, gm, modMat_addRows]
    · rw [if_neg hd, if_neg hd]
      exact ⟨ih, ihs⟩

theorem total_merge_ok {h g : CMSHist} (hd : h.rows = g.rows ∧ h.cols = g.cols) :
    (CMSHist.merge h g).total = h.total + g.total := by
  simp only [CMSHist.total, if_pos hd]

theorem total_merge_err {h g : CMSHist} (hd : ¬ (h.rows = g.rows ∧ h.cols = g.cols)) :
    (CMSHist.merge h g).total = h.total := by
  simp only [CMSHist.total, if_neg hd, Nat.add_zero]

/-- **refinement along a history**: below 2^64 in total the reduction modulo 2^64 of `runM_mod`
    does nothing (the cells are bounded by the total, `CMSHist.inv`). -/
theorem runM_abs (h : CMSHist) (hT : h.total < 2 ^ 64) :
    absM (runM h) = h.state ∧ (runM h).allSum.toNat = h.ownSum := by
  obtain ⟨hm, hs⟩ := runM_mod h
  refine ⟨hm.trans (CMS.cms_ext _ _ rfl rfl (modMat_of_bounded _ _ h.bounded hT)),
    hs.trans (Nat.mod_eq_of_lt (Nat.lt_of_le_of_lt (CMSHist.ownSum_le_total h) hT))⟩

/-- every step starts from a state that `runM_abs` describes, whose cells are bounded by the
    total so far. -/
theorem stepsOK_of_total : ∀ h : CMSHist, h.total < 2 ^ 64 → StepsOK h
  | .new _ _, _ => trivial
  | .update h pos c, hT => by
    have hT' : h.total + c < 2 ^ 64 := hT
    obtain ⟨ih, ihs⟩ := runM_abs h (by omega)
    have hc : (UInt64.ofNat c).toNat = c := UInt64.toNat_ofNat_of_lt' (by show c < 2 ^ 64; omega)
    have hown := CMSHist.ownSum_le_total h
    refine ⟨stepsOK_of_total h (by omega), by omega, fun v hv => ?_, by rw [ihs]; omega⟩
    have hv' : v.toNat ∈ CMS.cells h.state.m pos := by
      rw [← show absMat (runM h).m = h.state.m from congrArg CMS.m ih, ← cellsM_abs]
      exact List.mem_map_of_mem hv
    have := Reach.mem_cells_le h.state.m pos h.total h.bounded _ hv'
    rw [hc]; omega
  | .merge h g, hT => by
    by_cases hd : h.rows = g.rows ∧ h.cols = g.cols
    · rw [total_merge_ok hd] at hT
      have im : absMat (runM h).m = h.state.m := congrArg CMS.m (runM_abs h (by omega)).1
      have gm : absMat (runM g).m = g.state.m := congrArg CMS.m (runM_abs g (by omega)).1
      exact ⟨stepsOK_of_total h (by omega), fun _ => ⟨stepsOK_of_total g (by omega),
        noOvfRows_of_bounded _ _ h.total g.total (im ▸ h.bounded)
          (gm ▸ g.bounded) hT⟩⟩
    · rw [total_merge_err hd] at hT
      exact ⟨stepsOK_of_total h hT, fun hd' => absurd hd' hd⟩

theorem runM_refines (h : CMSHist) (hT : h.total < 2 ^ 64) :
    StepsOK h ∧ absM (runM h) = h.state ∧ (runM h).allSum.toNat = h.ownSum :=
  ⟨stepsOK_of_total h hT, runM_abs h hT⟩

section lists
variable {E : Type}

/-- the machine sketch after the updates of the list history `h`, starting from `s`
    (`CMS.run` of Props/C03.lean on the machine model). -/
def runLM (pos : E → List Nat) (s : CMSM) (h : List (E × Nat)) : CMSM :=
  h.foldl (fun s ec => s.updateM (pos ec.1) (UInt64.ofNat ec.2)) s

def histOf (pos : E → List Nat) (t : CMSHist) (h : List (E × Nat)) : CMSHist :=
  h.foldl (fun t ec => .update t (pos ec.1) ec.2) t

theorem histOf_facts (pos : E → List Nat) (t : CMSHist) (h : List (E × Nat)) :
    (histOf pos t h).state = CMS.run pos t.state h
    ∧ runM (histOf pos t h) = runLM pos (runM t) h
    ∧ (histOf pos t h).total = t.total + CMS.total h
    ∧ (histOf pos t h).ownSum = t.ownSum + CMS.total h
    ∧ (histOf pos t h).rows = t.rows ∧ (histOf pos t h).cols = t.cols := by
  induction h generalizing t with
  | nil => exact ⟨rfl, rfl, rfl, rfl, rfl, rfl⟩
  | cons ec h ih =>
    obtain ⟨a, b, c, d, e, f⟩ := ih (.update t (pos ec.1) ec.2)
    simp only [histOf, List.foldl_cons] at a b c d e f ⊢
    refine ⟨a, b, ?_, ?_, e, f⟩
    · rw [c]; simp only [CMSHist.total, CMS.total, List.map_cons, sumL_cons]; omega
    · rw [d]; simp only [CMSHist.ownSum, CMS.total, List.map_cons, sumL_cons]; omega

theorem histOf_state (pos : E → List Nat) (t : CMSHist) (h : List (E × Nat)) :
    (histOf pos t h).state = CMS.run pos t.state h := (histOf_facts pos t h).1

theorem runM_histOf (pos : E → List Nat) (t : CMSHist) (h : List (E × Nat)) :
    runM (histOf pos t h) = runLM pos (runM t) h := (histOf_facts pos t h).2.1

theorem histOf_total (pos : E → List Nat) (t : CMSHist) (h : List (E × Nat)) :
    (histOf pos t h).total = t.total + CMS.total h := (histOf_facts pos t h).2.2.1

theorem histOf_dims (pos : E → List Nat) (t : CMSHist) (h : List (E × Nat)) :
    (histOf pos t h).rows = t.rows ∧ (histOf pos t h).cols = t.cols :=
  (histOf_facts pos t h).2.2.2.2

end lists

end Gostatix.CMSM
