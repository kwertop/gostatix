/-
  Gostatix.Proofs.CuckooKick — the eviction loop `Cuckoo.kick`: the roll-back replay undoes it
  (`kick_rollback`) and what it does to the counts of a well-formed table (`KickSpec`).
-/
import Gostatix.Proofs.CuckooStep
import Gostatix.Proofs.CuckooOrbit
set_option linter.unusedSectionVars false
namespace Gostatix.Cuckoo

section
variable {B F : Type} [DecidableEq F] [Inhabited B] {o : BucketOps B F} {emp : F}

theorem kick_zero (alt : Nat → F → Nat) (bs : List B) (idx : Nat) (cur : F) (slots : List Nat)
    (log : List (F × Nat × Nat)) : kick o alt 0 bs idx cur slots log = (bs, log, false) := rfl

theorem kick_succ (alt : Nat → F → Nat) (r : Nat) (bs : List B) (idx : Nat) (cur : F) (slots : List Nat)
    (log : List (F × Nat × Nat)) :
    kick o alt (r+1) bs idx cur slots log =
      if o.isFree (bucketAt (modAt bs idx (fun b => o.set b (slots.headD 0) cur))
            (alt idx (o.get (bucketAt bs idx) (slots.headD 0)))) = true then
        (modAt (modAt bs idx (fun b => o.set b (slots.headD 0) cur))
            (alt idx (o.get (bucketAt bs idx) (slots.headD 0)))
            (fun b => o.add b (o.get (bucketAt bs idx) (slots.headD 0))),
          (o.get (bucketAt bs idx) (slots.headD 0), idx, slots.headD 0) :: log, true)
      else kick o alt r (modAt bs idx (fun b => o.set b (slots.headD 0) cur))
            (alt idx (o.get (bucketAt bs idx) (slots.headD 0)))
            (o.get (bucketAt bs idx) (slots.headD 0)) slots.tail
            ((o.get (bucketAt bs idx) (slots.headD 0), idx, slots.headD 0) :: log) := rfl

theorem rollback_cons (bs : List B) (e : F × Nat × Nat) (log : List (F × Nat × Nat)) :
    rollback o bs (e :: log) = rollback o (modAt bs e.2.1 (fun b => o.set b e.2.2 e.1)) log := rfl

section
variable (L : LawfulBucket o emp) (alt : Nat → F → Nat) (n s : Nat)
  (hAlt : ∀ j f, j < n → alt j f < n) (hs : 0 < s)
  (r : Nat) (bs : List B) (idx : Nat) (cur : F) (slots : List Nat) (log : List (F × Nat × Nat))

include L in
theorem kick_rollback
    (h : (kick o alt r bs idx cur slots log).2.2 = false) :
    rollback o (kick o alt r bs idx cur slots log).1 (kick o alt r bs idx cur slots log).2.1
      = rollback o bs log := by
  fun_induction kick o alt r bs idx cur slots log with
  | case1 => rfl
  | case2 => cases h
  | case3 r bs idx cur slots log slot prev log1 bs1 nidx _ ih =>
    -- the newest entry writes `prev` back over `cur`
    rw [ih h, rollback_cons, modAt_modAt_same]
    exact congrArg (rollback o · log) (modAt_eq_self _ _ _ default (L.set_set_get _ _ _))

/-- what the eviction loop started at bucket `idx` with `cur` in hand does to a well-formed
    table, for any `n` and any in-range `alt`; `ok_kc` needs `alt` to be an involution.
    In `full_tcnt`, `y` is the fingerprint left in hand when the loop gives up: `cur` itself or
    one that was stored, so the table's contents change by `+ cur − y`. -/
structure KickSpec (L : LawfulBucket o emp) (alt : Nat → F → Nat) (n s : Nat) (bs bs' : List B)
    (idx : Nat) (cur : F) (found : Bool) : Prop where
  wf : WFbs L n s bs'
  ok_bucket : found = true → ∃ j0, j0 < n ∧ o.isFree (bucketAt bs j0) = true ∧
      ∀ j, occB L bs' j = occB L bs j + ind (j = j0)
  ok_tocc : found = true → tocc L bs' = tocc L bs + 1
  ok_tcnt : found = true → ∀ g, g ≠ emp → tcnt L bs' g = tcnt L bs g + ind (cur = g)
  ok_kc : (∀ j f, j < n → alt j f < n ∧ alt (alt j f) f = j) → found = true → ∀ j g, j < n → g ≠ emp →
      kcOf alt (cntB L bs') j g = kcOf alt (cntB L bs) j g + ind (g = cur ∧ (j = idx ∨ j = alt idx cur))
  full_occB : found = false → ∀ j, occB L bs' j = occB L bs j
  full_tocc : found = false → tocc L bs' = tocc L bs
  full_tcnt : found = false → ∃ y, y ≠ emp ∧ (y = cur ∨ 0 < tcnt L bs y) ∧
      ∀ g, tcnt L bs' g + ind (y = g) = tcnt L bs g + ind (cur = g)

/-- adding `e` to a bucket with room is a successful loop of no round -/
theorem AddStep.kickSpec {L : LawfulBucket o emp} {alt : Nat → F → Nat} {n s : Nat} {bs bs' : List B}
    {j0 : Nat} {e : F} (ad : AddStep L n s bs bs' j0 e) (hj0 : j0 < n)
    (hf : o.isFree (bucketAt bs j0) = true) : KickSpec L alt n s bs bs' j0 e true :=
  ⟨ad.wf, fun _ => ⟨j0, hj0, hf, ad.occB⟩, fun _ => ad.tocc, fun _ => ad.tcnt,
    fun hInv _ j g hj hg => kcOf_add_key alt n hInv _ _ j0 e hj0 j g hj (ad.cnt · g hg),
    nofun, nofun, nofun⟩

/-- **a round, then the rest**: a round overwrites a copy of `prev` in bucket `idx` by `cur` and
    goes on with `prev` at its other candidate bucket `alt idx prev`.  In particular kicks stay
    inside orbits: if the rest puts one copy of `prev` into the pair of `alt idx prev`, the net
    effect on the orbit counts is one more copy of the key `(cur, idx)`. -/
theorem SetStep.kickSpec {L : LawfulBucket o emp} {alt : Nat → F → Nat} {n s : Nat}
    {bs bs1 bs' : List B} {idx : Nat} {cur prev : F} {found : Bool}
    (st : SetStep L n s bs bs1 idx cur prev) (hidx : idx < n)
    (sp : KickSpec L alt n s bs1 bs' (alt idx prev) prev found) :
    KickSpec L alt n s bs bs' idx cur found := by
  refine ⟨sp.wf, fun hf => ?_, fun hf => ?_,
    fun hf g hg => (sp.ok_tcnt hf g hg).trans (st.tcnt g), fun hInv hf j g hj hg => ?_,
    fun hf j => ?_, fun hf => ?_, fun hf => ?_⟩
  · obtain ⟨j0, h1, h2, h3⟩ := sp.ok_bucket hf
    exact ⟨j0, h1, by rw [← st.free]; exact h2, fun j => by rw [h3, st.occB]⟩
  · rw [sp.ok_tocc hf, st.tocc]
  · have h := sp.ok_kc hInv hf j g hj hg
    simp only [orbit_alt alt n hInv idx prev hidx j] at h
    exact h.trans (kcOf_replace_key alt n hInv _ _ idx cur prev hidx j g hj (st.cnt · g))
  · rw [sp.full_occB hf, st.occB]
  · rw [sp.full_tocc hf, st.tocc]
  · -- the fingerprint left in hand at the end was `cur` or was stored before this round
    obtain ⟨y, hy, hy2, hy3⟩ := sp.full_tcnt hf
    have hyc := st.tcnt y
    refine ⟨y, hy, ?_, fun g => (hy3 g).trans (st.tcnt g)⟩
    · by_cases e : y = cur
      · exact Or.inl e
      · have e' : ¬ cur = y := fun x => e x.symm
        rcases hy2 with rfl | hpos <;> simp only [ind, e', eq_self, ↓reduceIte] at hyc <;>
          right <;> omega

include hAlt hs in
theorem kick_spec
    (hwf : WFbs L n s bs) (hidx : idx < n) (hfull : o.isFree (bucketAt bs idx) = false)
    (hcur : cur ≠ emp) (hsl : ∀ x ∈ slots, x < s) :
    KickSpec L alt n s bs (kick o alt r bs idx cur slots log).1 idx cur
      (kick o alt r bs idx cur slots log).2.2 := by
  fun_induction kick o alt r bs idx cur slots log with
  | case1 bs idx cur slots log =>
    exact ⟨hwf, nofun, nofun, nofun, fun _ => nofun, fun _ _ => rfl, fun _ => rfl,
      fun _ => ⟨cur, hcur, Or.inl rfl, fun _ => rfl⟩⟩
  | case2 r bs idx cur slots log slot prev log1 bs1 nidx hfree =>
    have st : SetStep L n s bs bs1 idx cur prev :=
      set_step L n s bs idx slot cur hwf hidx hfull (headD_lt slots s hs hsl) hcur
    have hnidx : nidx < n := hAlt idx prev hidx
    exact st.kickSpec hidx
      ((add_step L n s bs1 nidx prev st.wf hnidx hfree st.prev_ne).kickSpec hnidx hfree)
  | case3 r bs idx cur slots log slot prev log1 bs1 nidx hfree ih =>
    have st : SetStep L n s bs bs1 idx cur prev :=
      set_step L n s bs idx slot cur hwf hidx hfull (headD_lt slots s hs hsl) hcur
    exact st.kickSpec hidx
      (ih st.wf (hAlt idx prev hidx) (by simpa using hfree) st.prev_ne (tail_lt slots s hsl))

end

end
end Gostatix.Cuckoo
