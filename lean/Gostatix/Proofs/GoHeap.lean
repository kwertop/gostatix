/-
  Gostatix.Proofs.GoHeap — the transcribed `container/heap` (`GoHeap.up/down/push/pop/remove`)
  keeps the heap order and acts on the multiset of entries as expected.

  The order arguments are done on "key functions" `Nat → Nat` (position ↦ frequency) so that
  they are pure arithmetic; the array plumbing is separate.  Both sifting loops carry one
  invariant, `HoleF key i n`: the heap order holds on every edge that does not touch `i`, and the
  children of `i` respect the parent of `i`.  `up` additionally knows that the children of `i`
  respect `i` (`ChildGe`); when it stops, `i` respects its parent too, and the two halves together
  are the heap order (`ordF_of_holeF`).  `down` starts from a bare hole (`down_spec`); after its
  first swap the entry respects its parent (`DownInvF`, the conclusion of `holeF_swap_down`), so
  if a later round stops, the children respect the entry and the order is restored
  (`ordF_of_downInvF`); if the FIRST round stops, only `ChildGe` is known and `heap.Remove` goes
  on with `up`.
-/
import Gostatix.Model.TopK
namespace Gostatix.GoHeap

section keys
variable {key key' : Nat → Nat} {i j m n n' b b' c q : Nat}

def swapF (key : Nat → Nat) (i j : Nat) : Nat → Nat :=
  fun m => if m = j then key i else if m = i then key j else key m

theorem swapF_right : swapF key i j j = key i := if_pos rfl

theorem swapF_left (h : i ≠ j) : swapF key i j i = key j := (if_neg h).trans (if_pos rfl)

theorem swapF_ne (hi : m ≠ i) (hj : m ≠ j) : swapF key i j m = key m :=
  (if_neg hj).trans (if_neg hi)

theorem parent_lt (h : 0 < m) : (m - 1) / 2 < m :=
  Nat.lt_of_le_of_lt (Nat.div_le_self _ _) (Nat.sub_one_lt (Nat.ne_of_gt h))

theorem parent_child (i : Nat) : (2 * i + 1 - 1) / 2 = i ∧ (2 * i + 2 - 1) / 2 = i :=
  ⟨by rw [Nat.add_sub_cancel, Nat.mul_div_cancel_left _ Nat.zero_lt_two],
   by rw [show 2 * i + 2 - 1 = 2 * i + 1 from rfl, Nat.mul_add_div Nat.zero_lt_two]; rfl⟩

theorem child_of_parent (h : 0 < m) (hp : (m - 1) / 2 = i) :
    m = 2 * i + 1 ∨ m = 2 * i + 2 := by
  obtain ⟨r, hr, hm⟩ : ∃ r, (r = 0 ∨ r = 1) ∧ m = 2 * i + r + 1 :=
    ⟨(m - 1) % 2, Nat.mod_two_eq_zero_or_one _,
      by rw [← hp, Nat.div_add_mod, Nat.sub_add_cancel h]⟩
  rcases hr with rfl | rfl
  · exact Or.inl hm
  · exact Or.inr hm

theorem ne_of_parent_eq (h : 0 < m) (hp : (m - 1) / 2 = i) : m ≠ i :=
  fun e => Nat.ne_of_lt (parent_lt h) (hp.trans e.symm)

def OrdF (key : Nat → Nat) (n : Nat) : Prop :=
  ∀ m, 0 < m → m < n → key ((m - 1) / 2) ≤ key m

/-- every child of `i` among the first `n` positions carries at least `b` -/
def ChildGe (key : Nat → Nat) (i n b : Nat) : Prop :=
  ∀ m, 0 < m → m < n → (m - 1) / 2 = i → b ≤ key m

/-- heap order except possibly between `i` and its children; they respect `i`'s parent -/
def DownInvF (key : Nat → Nat) (i n : Nat) : Prop :=
  (∀ m, 0 < m → m < n → (m - 1) / 2 ≠ i → key ((m - 1) / 2) ≤ key m) ∧
  (∀ m, 0 < m → m < n → (m - 1) / 2 = i → 0 < i → key ((i - 1) / 2) ≤ key m)

/-- heap order except possibly on the edges incident to `i`; `i`'s children respect its parent -/
def HoleF (key : Nat → Nat) (i n : Nat) : Prop :=
  (∀ m, 0 < m → m < n → m ≠ i → (m - 1) / 2 ≠ i → key ((m - 1) / 2) ≤ key m) ∧
  (∀ m, 0 < m → m < n → (m - 1) / 2 = i → 0 < i → key ((i - 1) / 2) ≤ key m)

theorem childGe_leaf (hl : n ≤ 2 * i + 1) : ChildGe key i n b :=
  fun _ hm hmn hp => absurd hmn <| Nat.not_lt.2 <| (child_of_parent hm hp).elim
    (fun e => e ▸ hl) (fun e => e ▸ Nat.le_succ_of_le hl)

theorem ChildGe.mono (h : ChildGe key i n b) (hb : b' ≤ b) : ChildGe key i n b' :=
  fun m hm hmn hp => Nat.le_trans hb (h m hm hmn hp)

theorem ordF_of_holeF (h : HoleF key i n) (hc : ChildGe key i n (key i))
    (hu : 0 < i → key ((i - 1) / 2) ≤ key i) : OrdF key n := by
  intro m hm hmn
  by_cases hp : (m - 1) / 2 = i
  · rw [hp]; exact hc m hm hmn hp
  · by_cases hmi : m = i
    · rw [hmi]; exact hu (hmi ▸ hm)
    · exact h.1 m hm hmn hmi hp

theorem downInvF_hole (h : DownInvF key i n) : HoleF key i n :=
  ⟨fun m hm hmn _ hp => h.1 m hm hmn hp, h.2⟩

theorem holeF_zero (key : Nat → Nat) (n : Nat) (h : HoleF key 0 n) : DownInvF key 0 n :=
  ⟨fun m hm hmn hp => h.1 m hm hmn (Nat.ne_of_gt hm) hp, h.2⟩

theorem ordF_of_downInvF (h : DownInvF key i n) (hc : ChildGe key i n (key i)) :
    OrdF key n := by
  intro m hm hmn
  by_cases hp : (m - 1) / 2 = i
  · rw [hp]; exact hc m hm hmn hp
  · exact h.1 m hm hmn hp

theorem holeF_swap_up (h : HoleF key j n) (hj : 0 < j)
    (hq : (j - 1) / 2 = q) (hjn : j < n) (hlt : key j < key q) :
    HoleF (swapF key q j) q n ∧ ChildGe (swapF key q j) q n (swapF key q j q) := by
  have hqj : q < j := hq ▸ parent_lt hj
  have hne : q ≠ j := Nat.ne_of_lt hqj
  rw [swapF_left hne]
  -- the old key of `q` bounds what its children carry now: `j` has it, the sibling had it above
  have hch : ChildGe (swapF key q j) q n (key q) := by
    intro m hm hmn hp
    by_cases hmj : m = j
    · rw [hmj, swapF_right]; exact Nat.le_refl _
    · rw [swapF_ne (ne_of_parent_eq hm hp) hmj]
      exact hp ▸ h.1 m hm hmn hmj (hp ▸ hne)
  refine ⟨⟨fun m hm hmn hmq hpq => ?_, fun m hm hmn hp hq0 => ?_⟩, hch.mono (Nat.le_of_lt hlt)⟩
  · have hmj : m ≠ j := fun e => hpq (e ▸ hq)
    rw [swapF_ne hmq hmj]
    by_cases hp : (m - 1) / 2 = j
    · rw [hp, swapF_right]; exact hq ▸ h.2 m hm hmn hp hj
    · rw [swapF_ne hpq hp]; exact h.1 m hm hmn hmj hp
  · have hpq := parent_lt hq0
    have hpj := Nat.ne_of_lt (Nat.lt_trans hpq hqj)
    rw [swapF_ne (Nat.ne_of_lt hpq) hpj]
    exact Nat.le_trans (h.1 q hq0 (Nat.lt_trans hqj hjn) hne hpj) (hch m hm hmn hp)

/-- `c` is a child of `i` among the first `n` positions, with the least key among them -/
def MinChild (key : Nat → Nat) (i n c : Nat) : Prop :=
  0 < c ∧ c < n ∧ (c - 1) / 2 = i ∧ ChildGe key i n (key c)

theorem holeF_swap_down (h : HoleF key i n)
    (hc : MinChild key i n c) (hlt : key c < key i) : DownInvF (swapF key i c) c n := by
  obtain ⟨hc0, hcn, hpc, hmin⟩ := hc
  have hic : i < c := hpc ▸ parent_lt hc0
  have hne : i ≠ c := Nat.ne_of_lt hic
  constructor
  · intro m hm hmn hp
    by_cases hmc : m = c
    · rw [hmc, hpc, swapF_left hne, swapF_right]; exact Nat.le_of_lt hlt
    · by_cases hpi : (m - 1) / 2 = i
      · rw [hpi, swapF_left hne, swapF_ne (ne_of_parent_eq hm hpi) hmc]
        exact hmin m hm hmn hpi
      · rw [swapF_ne hpi hp]
        by_cases hmi : m = i
        · rw [hmi, swapF_left hne]; exact h.2 c hc0 hcn hpc (hmi ▸ hm)
        · rw [swapF_ne hmi hmc]; exact h.1 m hm hmn hmi hpi
  · intro m hm hmn hp _
    have hmi : m ≠ i := Nat.ne_of_gt (Nat.lt_trans hic (hp ▸ parent_lt hm))
    rw [hpc, swapF_left hne, swapF_ne hmi (ne_of_parent_eq hm hp), ← hp]
    exact h.1 m hm hmn hmi (hp ▸ hne.symm)

theorem ordF_hole (i : Nat) (h : OrdF key (n + 1)) :
    HoleF (swapF key i n) i n := by
  have keep : ∀ m, m < n → m ≠ i → swapF key i n m = key m :=
    fun m hm hi => swapF_ne hi (Nat.ne_of_lt hm)
  constructor
  · intro m hm hmn hmi hp
    rw [keep m hmn hmi, keep _ (Nat.lt_trans (parent_lt hm) hmn) hp]
    exact h m hm (Nat.lt_succ_of_lt hmn)
  · intro m hm hmn hp hi
    have hin : i < n := hp ▸ Nat.lt_trans (parent_lt hm) hmn
    have hpi := parent_lt hi
    rw [keep m hmn (ne_of_parent_eq hm hp), keep _ (Nat.lt_trans hpi hin) (Nat.ne_of_lt hpi)]
    exact Nat.le_trans (h i hi (Nat.lt_succ_of_lt hin)) (hp ▸ h m hm (Nat.lt_succ_of_lt hmn))

theorem ordF_hole_last (h : OrdF key n) :
    HoleF key n (n + 1) ∧ ChildGe key n (n + 1) (key n) :=
  have leaf : ∀ m, 0 < m → m < n + 1 → (m - 1) / 2 ≠ n :=
    fun _ hm hmn hp => Nat.not_lt.2 (Nat.le_of_lt_succ hmn) (hp ▸ parent_lt hm)
  ⟨⟨fun m hm hmn hne _ => h m hm (Nat.lt_of_le_of_ne (Nat.le_of_lt_succ hmn) hne),
      fun m hm hmn hp _ => absurd hp (leaf m hm hmn)⟩,
    fun m hm hmn hp => absurd hp (leaf m hm hmn)⟩

theorem ordF_congr (hk : ∀ m, m < n → key' m = key m)
    (h : OrdF key n) : OrdF key' n := by
  intro m hm hmn
  rw [hk m hmn, hk _ (Nat.lt_trans (parent_lt hm) hmn)]
  exact h m hm hmn

theorem ordF_mono (h : OrdF key n) (hle : n' ≤ n) : OrdF key n' :=
  fun m hm hmn => h m hm (Nat.lt_of_lt_of_le hmn hle)

theorem ordF_root_min (h : OrdF key n) : ∀ m, m < n → key 0 ≤ key m := by
  intro m
  induction m using Nat.strongRecOn with
  | _ m ih =>
    intro hmn
    by_cases hm : m = 0
    · subst hm; exact Nat.le_refl _
    · have hp := parent_lt (Nat.pos_of_ne_zero hm)
      exact Nat.le_trans (ih _ hp (Nat.lt_trans hp hmn)) (h m (Nat.pos_of_ne_zero hm) hmn)

end keys

def key (h : Array HElem) (i : Nat) : Nat := (h.getD i ("", 0)).2

theorem less_eq (h : Array HElem) (i j : Nat) : less h i j = decide (key h i < key h j) := rfl

section arrays
variable {h h' h'' : Array HElem} {i j n : Nat}

theorem swap_size : (swap h i j).size = h.size := by simp [swap]

theorem swap_getD (m : Nat) (hi : i < h.size) (hj : j < h.size) :
    (swap h i j).getD m ("", 0) =
      if m = j then h.getD i ("", 0) else if m = i then h.getD j ("", 0) else h.getD m ("", 0) := by
  unfold swap
  simp only [Array.getD_eq_getD_getElem?, Array.getElem?_setIfInBounds, Array.size_setIfInBounds]
  by_cases h1 : m = j
  · subst h1; simp [hj]
  · by_cases h2 : m = i
    · subst h2; simp [hi, h1, Ne.symm h1]
    · simp [h1, h2, Ne.symm h1, Ne.symm h2]

theorem key_swap (hi : i < h.size) (hj : j < h.size) :
    key (swap h i j) = swapF (key h) i j := by
  funext m
  show ((swap h i j).getD m ("", 0)).2 = if m = j then key h i else if m = i then key h j else key h m
  rw [swap_getD m hi hj, apply_ite Prod.snd, apply_ite Prod.snd]
  rfl

theorem swap_perm (hi : i < h.size) (hj : j < h.size) : (swap h i j).toList.Perm h.toList := by
  have : swap h i j = h.swap i j hi hj := by
    simp [swap, Array.swap, Array.getD, hi, hj, Array.setIfInBounds]
  rw [this]
  exact (Array.swap_perm hi hj).toList

/-- `h'` is a rearrangement of `h` that leaves the positions `≥ n` alone -/
structure Rearr (h h' : Array HElem) (n : Nat) : Prop where
  perm : h'.toList.Perm h.toList
  rest : ∀ m, n ≤ m → h'.getD m ("", 0) = h.getD m ("", 0)

theorem Rearr.refl : Rearr h h n := ⟨List.Perm.refl _, fun _ _ => rfl⟩

theorem Rearr.size (r : Rearr h h' n) : h'.size = h.size := r.perm.length_eq

theorem Rearr.trans (a : Rearr h h' n) (b : Rearr h' h'' n) : Rearr h h'' n :=
  ⟨b.perm.trans a.perm, fun m hm => (b.rest m hm).trans (a.rest m hm)⟩

theorem rearr_swap (hi : i < n) (hj : j < n) (hn : n ≤ h.size) : Rearr h (swap h i j) n := by
  have hi' := Nat.lt_of_lt_of_le hi hn
  have hj' := Nat.lt_of_lt_of_le hj hn
  refine ⟨swap_perm hi' hj', fun m hm => ?_⟩
  rw [swap_getD m hi' hj', if_neg (Nat.ne_of_gt (Nat.lt_of_lt_of_le hj hm)),
    if_neg (Nat.ne_of_gt (Nat.lt_of_lt_of_le hi hm))]

theorem up_succ (f : Nat) :
    up (f + 1) h j =
      if (j - 1) / 2 = j ∨ key h ((j - 1) / 2) ≤ key h j then h
      else up f (swap h ((j - 1) / 2) j) ((j - 1) / 2) := by
  simp only [up, less_eq, Bool.or_eq_true, beq_iff_eq, Bool.not_eq_true', decide_eq_false_iff_not,
    Nat.not_lt]

/-- `up` from a hole whose children are in order.  `f` is fuel: each round moves to the parent, so
    `j < f` rounds suffice. -/
theorem up_spec {f : Nat} (hf : j < f) (hjn : j < n) (hn : n ≤ h.size) (hH : HoleF (key h) j n)
    (hC : ChildGe (key h) j n (key h j)) : Rearr h (up f h j) n ∧ OrdF (key (up f h j)) n := by
  induction f generalizing h j with
  | zero => exact absurd hf (Nat.not_lt_zero _)
  | succ f ih =>
    rw [up_succ]
    split
    · next hd =>
      exact ⟨Rearr.refl,
        ordF_of_holeF hH hC fun hj => hd.resolve_left (Nat.ne_of_lt (parent_lt hj))⟩
    · next hd =>
      have hj : 0 < j := Nat.pos_of_ne_zero fun e => hd (.inl (e ▸ rfl))
      have hp := parent_lt hj
      have hpn := Nat.lt_trans hp hjn
      obtain ⟨hH', hC'⟩ := holeF_swap_up hH hj rfl hjn (Nat.lt_of_not_le fun e => hd (.inr e))
      rw [← key_swap (Nat.lt_of_lt_of_le hpn hn) (Nat.lt_of_lt_of_le hjn hn)] at hH' hC'
      obtain ⟨r1, r2⟩ := ih (Nat.lt_of_lt_of_le hp (Nat.le_of_lt_succ hf)) hpn
        (swap_size.symm ▸ hn) hH' hC'
      exact ⟨(rearr_swap hpn hjn hn).trans r1, r2⟩

def minChild (h : Array HElem) (i n : Nat) : Nat :=
  if (2 * i + 2 < n && less h (2 * i + 2) (2 * i + 1)) = true then 2 * i + 2 else 2 * i + 1

theorem down_succ (f : Nat) :
    down (f + 1) h i n =
      if n ≤ 2 * i + 1 then (h, i)
      else if key h i ≤ key h (minChild h i n) then (h, i)
      else down f (swap h i (minChild h i n)) (minChild h i n) n := by
  rw [show down (f + 1) h i n =
      if n ≤ 2 * i + 1 then (h, i)
      else if (!less h (minChild h i n) i) = true then (h, i)
      else down f (swap h i (minChild h i n)) (minChild h i n) n from rfl]
  simp only [less_eq, Bool.not_eq_true', decide_eq_false_iff_not, Nat.not_lt]

theorem minChild_spec (hlt : 2 * i + 1 < n) :
    MinChild (key h) i n (minChild h i n) := by
  have parent := parent_child i
  unfold minChild
  split
  · next hc =>
    simp only [less_eq, Bool.and_eq_true, decide_eq_true_eq] at hc
    refine ⟨Nat.succ_pos _, hc.1, parent.2, fun m hm _ hp => ?_⟩
    rcases child_of_parent hm hp with rfl | rfl
    · exact Nat.le_of_lt hc.2
    · exact Nat.le_refl _
  · next hc =>
    simp only [less_eq, Bool.and_eq_true, decide_eq_true_eq, not_and, Nat.not_lt] at hc
    refine ⟨Nat.succ_pos _, hlt, parent.1, fun m hm hmn hp => ?_⟩
    rcases child_of_parent hm hp with rfl | rfl
    · exact Nat.le_refl _
    · exact hc hmn

/-- `down` from a hole (as in `heap.Remove`): either nothing moved and the children of `i` respect
    `i`, so that `up` may start at `i`; or the entry moved down and the heap order is restored.
    `f` is fuel: each round moves to a child, so the position grows and `n - i < f` rounds suffice. -/
theorem down_spec {f : Nat} (hf : n < f + i) (hn : n ≤ h.size) (hH : HoleF (key h) i n) :
    Rearr h (down f h i n).1 n ∧
      (down f h i n = (h, i) ∧ ChildGe (key h) i n (key h i) ∨
        i < (down f h i n).2 ∧ OrdF (key (down f h i n).1) n) := by
  induction f generalizing h i with
  | zero => exact ⟨Rearr.refl, Or.inl ⟨rfl, childGe_leaf (by omega)⟩⟩
  | succ f ih =>
    rw [down_succ]
    by_cases hl : n ≤ 2 * i + 1
    · rw [if_pos hl]
      exact ⟨Rearr.refl, Or.inl ⟨rfl, childGe_leaf hl⟩⟩
    · rw [if_neg hl]
      have hmc := minChild_spec (h := h) (Nat.lt_of_not_le hl)
      generalize minChild h i n = c at hmc ⊢
      by_cases hle : key h i ≤ key h c
      · rw [if_pos hle]
        exact ⟨Rearr.refl, Or.inl ⟨rfl, hmc.2.2.2.mono hle⟩⟩
      · rw [if_neg hle]
        have hcn : c < n := hmc.2.1
        have hic : i < c := Nat.lt_of_le_of_lt (Nat.le_of_eq hmc.2.2.1.symm) (parent_lt hmc.1)
        have hin := Nat.lt_trans hic hcn
        have hD := holeF_swap_down hH hmc (Nat.lt_of_not_le hle)
        rw [← key_swap (Nat.lt_of_lt_of_le hin hn) (Nat.lt_of_lt_of_le hcn hn)] at hD
        obtain ⟨r, hr⟩ := ih (by omega) (swap_size.symm ▸ hn) (downInvF_hole hD)
        refine ⟨(rearr_swap hin hcn hn).trans r, Or.inr ?_⟩
        rcases hr with ⟨heq, hC⟩ | ⟨hlt', hO⟩
        · rw [heq]; dsimp only; exact ⟨hic, ordF_of_downInvF hD hC⟩
        · exact ⟨Nat.lt_trans hic hlt', hO⟩

theorem toList_pop_concat (hs : 0 < h.size) :
    h.pop.toList ++ [h.getD (h.size - 1) ("", 0)] = h.toList := by
  have hne : h.toList ≠ [] := List.ne_nil_of_length_pos hs
  have hlast : h.toList.getLast hne = h.getD (h.size - 1) ("", 0) := by
    rw [List.getLast_eq_getElem, Array.getElem_toList]
    exact Array.getElem_eq_getD _
  rw [Array.toList_pop, ← hlast, List.dropLast_concat_getLast]

def Ord (h : Array HElem) : Prop := OrdF (key h) h.size

theorem ord_pop (ho : OrdF (key h) (h.size - 1)) : Ord h.pop := by
  unfold Ord
  rw [Array.size_pop]
  refine ordF_congr (fun m hm => ?_) ho
  simp only [key, Array.getD_eq_getD_getElem?, Array.getElem?_pop, if_pos hm]

end arrays

theorem push_spec (h : Array HElem) (x : HElem) (ho : Ord h) :
    (push h x).toList.Perm (h.toList ++ [x]) ∧ Ord (push h x) := by
  unfold push
  simp only [Array.size_push, Nat.add_sub_cancel]
  have hkey : ∀ m, m < h.size → key (h.push x) m = key h m := by
    intro m hm
    simp [key, Array.getD_eq_getD_getElem?, Array.getElem?_push, hm, Nat.ne_of_lt hm]
  obtain ⟨hH, hC⟩ := ordF_hole_last (ordF_congr hkey ho)
  obtain ⟨r1, r2⟩ := up_spec (Nat.lt_succ_self _) (Nat.lt_succ_self _) (by simp) hH hC
  refine ⟨by simpa using r1.perm, ?_⟩
  unfold Ord
  rw [r1.size, Array.size_push]
  exact r2

section last
variable {h h' : Array HElem} {i n : Nat}

/-- `heap.Pop` and `heap.Remove` first bring entry `i` to the end: a hole is left at `i` -/
theorem swap_last (hn : h.size = n + 1) (hi : i ≤ n) (ho : Ord h) :
    n ≤ (swap h i n).size ∧ HoleF (key (swap h i n)) i n := by
  rw [swap_size, key_swap (hn ▸ Nat.lt_succ_of_le hi) (hn ▸ Nat.lt_succ_self n)]
  exact ⟨hn ▸ Nat.le_succ n, ordF_hole i (hn ▸ ho)⟩

theorem drop_last (hn : h.size = n + 1) (hi : i ≤ n) (r : Rearr (swap h i n) h' n)
    (ho : OrdF (key h') n) :
    (h'.pop.toList ++ [h.getD i ("", 0)]).Perm h.toList ∧ Ord h'.pop := by
  have hi' : i < h.size := hn ▸ Nat.lt_succ_of_le hi
  have hn' : n < h.size := hn ▸ Nat.lt_succ_self n
  have hsize : h'.size = n + 1 := (r.size.trans swap_size).trans hn
  have hlast : h'.getD (h'.size - 1) ("", 0) = h.getD i ("", 0) := by
    rw [hsize, Nat.add_sub_cancel, r.rest n (Nat.le_refl n), swap_getD n hi' hn', if_pos rfl]
  refine ⟨?_, ord_pop (by rw [hsize, Nat.add_sub_cancel]; exact ho)⟩
  rw [← hlast, toList_pop_concat (hsize ▸ Nat.succ_pos n)]
  exact r.perm.trans (swap_perm hi' hn')

end last

theorem pop_spec (h : Array HElem) (hs : 0 < h.size) (ho : Ord h) :
    ((pop h).toList ++ [h.getD 0 ("", 0)]).Perm h.toList ∧ Ord (pop h) := by
  obtain ⟨n, hn⟩ : ∃ n, h.size = n + 1 := ⟨h.size - 1, (Nat.sub_add_cancel hs).symm⟩
  obtain ⟨hsn, hH⟩ := swap_last hn (Nat.zero_le n) ho
  unfold pop
  simp only [hn, Nat.add_sub_cancel]
  -- position 0 has no parent: if `down` moves nothing, its children respect it and all is in order
  obtain ⟨r, ⟨heq, hC⟩ | ⟨_, hO⟩⟩ := down_spec (f := n + 1) (Nat.lt_succ_self n) hsn hH
  · rw [heq]
    dsimp only
    exact drop_last hn (Nat.zero_le n) Rearr.refl (ordF_of_downInvF (holeF_zero _ _ hH) hC)
  · exact drop_last hn (Nat.zero_le n) r hO

theorem remove_spec (h : Array HElem) (i : Nat) (hi : i < h.size) (ho : Ord h) :
    ((remove h i).toList ++ [h.getD i ("", 0)]).Perm h.toList ∧ Ord (remove h i) := by
  have hs := Nat.zero_lt_of_lt hi
  obtain ⟨n, hn⟩ : ∃ n, h.size = n + 1 := ⟨h.size - 1, (Nat.sub_add_cancel hs).symm⟩
  have hin : i ≤ n := Nat.le_of_lt_succ (Nat.lt_of_lt_of_eq hi hn)
  unfold remove
  simp only [hn, Nat.add_sub_cancel]
  by_cases hni : (n != i) = true
  · rw [if_pos hni]
    obtain ⟨hsn, hH⟩ := swap_last hn hin ho
    obtain ⟨r, ⟨heq, hC⟩ | ⟨hgt, hO⟩⟩ := down_spec (f := n + 1)
      (Nat.lt_add_right i (Nat.lt_succ_self n)) hsn hH
    · rw [heq, if_neg (Nat.lt_irrefl i)]
      dsimp only
      obtain ⟨r1, r2⟩ := up_spec (Nat.lt_succ_of_le hin)
        (Nat.lt_of_le_of_ne hin (Ne.symm (bne_iff_ne.1 hni))) hsn hH hC
      exact drop_last hn hin r1 r2
    · rw [if_pos hgt]
      exact drop_last hn hin r hO
  · rw [if_neg hni]
    obtain rfl : n = i := by simpa using hni
    have hcut := toList_pop_concat hs
    rw [hn, Nat.add_sub_cancel] at hcut
    exact ⟨by rw [hcut],
      ord_pop (by rw [hn, Nat.add_sub_cancel]; exact ordF_mono ho (hn ▸ Nat.le_succ n))⟩

end Gostatix.GoHeap
