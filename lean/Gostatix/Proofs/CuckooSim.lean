/-
  Gostatix.Proofs.CuckooSim — the simulation relation between the in-memory cuckoo filter
  (`BucketMem.ops emp`) and the Redis-backed one (`BucketRedis.ops emp`): same parameters, same
  `length`, both well-formed, and bucket by bucket the same multiset of non-empty fingerprints.
  The slot ORDER inside a bucket is not related (bucket_mem.go fills the first empty slot,
  bucket_redis.go `LPUSH`es at the head), which is why an eviction — it picks a slot INDEX — is
  not covered.
  Before the relation: adding to / removing from one bucket of a well-formed filter over any
  lawful bucket (`insert_direct`, `remove_direct`: the new filter is well-formed and the counts of
  THAT bucket change, which `InsertOk` / `RemoveOk` do not say by index), and the vocabulary of
  Props/C08Cuckoo.lean: `ValidPos`, `NoKickOp`, `NoKick`, `trace`.
-/
import Gostatix.Proofs.CuckooMem
import Gostatix.Proofs.CuckooRedis
set_option linter.unusedSectionVars false
namespace Gostatix.Cuckoo

section generic
variable {B F : Type} [DecidableEq F] [Inhabited B] {o : BucketOps B F} {emp : F}

theorem insert_direct (L : LawfulBucket o emp) (c : Cuckoo B) (fp : F) (j0 : Nat) (hwf : WF L c)
    (hj0 : j0 < c.n) (hfree : o.isFree (bucketAt c.buckets j0) = true) (hfp : fp ≠ emp) :
    WF L { c with buckets := modAt c.buckets j0 (fun b => o.add b fp), length := c.length + 1 } ∧
    ∀ j g, g ≠ emp → cntB L (modAt c.buckets j0 (fun b => o.add b fp)) j g
      = cntB L c.buckets j g + ind (j = j0 ∧ fp = g) := by
  have ad := add_step L c.n c.bsize c.buckets j0 fp hwf.bs hj0 hfree hfp
  exact ⟨⟨ad.wf, by simp only; rw [ad.tocc, hwf.len]⟩, ad.cnt⟩

theorem remove_direct (L : LawfulBucket o emp) (c : Cuckoo B) (fp : F) (j0 : Nat) (hwf : WF L c)
    (hj0 : j0 < c.n) (hl : o.lookup (bucketAt c.buckets j0) fp = true) (hfp : fp ≠ emp) :
    WF L { c with buckets := modAt c.buckets j0 (fun b => o.remove b fp), length := c.length - 1 } ∧
    ∀ j g, g ≠ emp → cntB L (modAt c.buckets j0 (fun b => o.remove b fp)) j g
      + ind (j = j0 ∧ fp = g) = cntB L c.buckets j g := by
  rw [L.lookup_eq, List.contains_iff_mem] at hl
  have rm := remove_step L c.n c.bsize c.buckets j0 fp hwf.bs hj0 hfp hl
  have h1 := rm.tocc
  have h2 := hwf.len
  exact ⟨⟨rm.wf, by simp only; omega⟩, rm.cnt⟩

/-- the operation's element has a non-empty fingerprint and a valid first bucket (the second is
    `alt i1 fp`); nothing is asked of `side` / `slots` -/
def ValidPos (emp : F) (n : Nat) : COp F → Prop
  | .insert fp i1 _ _ _ => fp ≠ emp ∧ i1 < n
  | .remove fp i1 => fp ≠ emp ∧ i1 < n
  | .lookup fp i1 => fp ≠ emp ∧ i1 < n

/-- the operation does not take the eviction path: an insert finds room in one of its two
    candidate buckets -/
def NoKickOp (o : BucketOps B F) (alt : Nat → F → Nat) (c : Cuckoo B) : COp F → Prop
  | .insert fp i1 _ _ _ =>
    o.isFree (bucketAt c.buckets i1) = true ∨ o.isFree (bucketAt c.buckets (alt i1 fp)) = true
  | _ => True

def NoKick (o : BucketOps B F) (alt : Nat → F → Nat) : Cuckoo B → List (COp F) → Prop
  | _, [] => True
  | c, op :: h => NoKickOp o alt c op ∧ NoKick o alt (step o alt c op).1 h

/-- what a client observes: the Boolean returned by every operation and `length` after it -/
def trace (o : BucketOps B F) (alt : Nat → F → Nat) : Cuckoo B → List (COp F) → List (Bool × Nat)
  | _, [] => []
  | c, op :: h =>
    ((step o alt c op).2, (step o alt c op).1.length) :: trace o alt (step o alt c op).1 h

instance (emp : F) (n : Nat) (op : COp F) : Decidable (ValidPos emp n op) := by
  cases op <;> unfold ValidPos <;> infer_instance

instance (o : BucketOps B F) (alt : Nat → F → Nat) (c : Cuckoo B) (op : COp F) :
    Decidable (NoKickOp o alt c op) := by
  cases op <;> unfold NoKickOp <;> infer_instance

def NoKick.dec (o : BucketOps B F) (alt : Nat → F → Nat) :
    (c : Cuckoo B) → (h : List (COp F)) → Decidable (NoKick o alt c h)
  | _, [] => isTrue trivial
  | c, op :: h =>
    match (inferInstance : Decidable (NoKickOp o alt c op)),
        NoKick.dec o alt (step o alt c op).1 h with
    | isTrue h1, isTrue h2 => isTrue ⟨h1, h2⟩
    | isFalse h1, _ => isFalse (fun h => h1 h.1)
    | _, isFalse h2 => isFalse (fun h => h2 h.2)

instance (o : BucketOps B F) (alt : Nat → F → Nat) (c : Cuckoo B) (h : List (COp F)) :
    Decidable (NoKick o alt c h) := NoKick.dec o alt c h

end generic

section sim
variable {F : Type} [DecidableEq F] [Inhabited (BucketMem F)] [Inhabited (BucketRedis F)]

/-- the in-memory filter `m` and the Redis-backed filter `r` hold the same data -/
structure Sim (emp : F) (m : Cuckoo (BucketMem F)) (r : Cuckoo (BucketRedis F)) : Prop where
  n : m.n = r.n
  bsize : m.bsize = r.bsize
  fpl : m.fpl = r.fpl
  retries : m.retries = r.retries
  length : m.length = r.length
  wfm : Mem.WF emp m
  wfr : Redis.WF emp r
  /-- every bucket holds the same multiset of non-empty fingerprints -/
  cnt : ∀ j, j < m.n → ∀ f, f ≠ emp → Mem.cnt m j f = Redis.cnt r j f

variable {emp : F} {m : Cuckoo (BucketMem F)} {r : Cuckoo (BucketRedis F)}

theorem Sim.wfm' (h : Sim emp m r) : WF (BucketMem.lawful emp) m := (Mem.wf_iff emp m).1 h.wfm
theorem Sim.wfr' (h : Sim emp m r) : WF (BucketRedis.lawful emp) r := (Redis.wf_iff emp r).1 h.wfr

theorem Sim.occ_eq (h : Sim emp m r) (j : Nat) (hj : j < m.n) :
    occ emp (bucketAt m.buckets j).elements = occ emp (bucketAt r.buckets j).list :=
  occ_eq_of_count_eq emp _ _ (fun g hg => h.cnt j hj g hg)

theorem Sim.bucketLen (h : Sim emp m r) (j : Nat) (hj : j < m.n) :
    (bucketAt m.buckets j).length = (bucketAt r.buckets j).len := by
  have h1 := (h.wfm.bucket _ (bucketAt_mem m.buckets j (by rw [h.wfm.nbuckets]; exact hj))).2.2
  have h2 := (h.wfr.bucket _ (bucketAt_mem r.buckets j
    (by rw [h.wfr.nbuckets, ← h.n]; exact hj))).2.2
  rw [h1, h2]; exact h.occ_eq j hj

theorem Sim.isFree (h : Sim emp m r) (j : Nat) (hj : j < m.n) :
    (BucketMem.ops emp).isFree (bucketAt m.buckets j)
      = (BucketRedis.ops emp).isFree (bucketAt r.buckets j) := by
  have w1 := h.wfm'.bs.at j hj
  have w2 := h.wfr'.bs.at j (by rw [← h.n]; exact hj)
  rw [Bool.eq_iff_iff, (BucketMem.lawful emp).isFree_iff _ _ w1,
    (BucketRedis.lawful emp).isFree_iff _ _ w2, ← h.bsize]
  have := h.occ_eq j hj
  show occ emp (bucketAt m.buckets j).elements < _ ↔ occ emp (bucketAt r.buckets j).list < _
  rw [this]

theorem Sim.lookupB (h : Sim emp m r) (j : Nat) (hj : j < m.n) (fp : F) (hfp : fp ≠ emp) :
    (BucketMem.ops emp).lookup (bucketAt m.buckets j) fp
      = (BucketRedis.ops emp).lookup (bucketAt r.buckets j) fp := by
  rw [Bool.eq_iff_iff, lookupB_iff (BucketMem.lawful emp), lookupB_iff (BucketRedis.lawful emp)]
  have := h.cnt j hj fp hfp
  show 0 < Mem.cnt m j fp ↔ 0 < Redis.cnt r j fp
  rw [this]

theorem sim_mod (h : Sim emp m r) (bm : List (BucketMem F)) (br : List (BucketRedis F)) (len : Nat)
    (wm : WF (BucketMem.lawful emp) { m with buckets := bm, length := len })
    (wr : WF (BucketRedis.lawful emp) { r with buckets := br, length := len })
    (hc : ∀ j, j < m.n → ∀ g, g ≠ emp →
      cntB (BucketMem.lawful emp) bm j g = cntB (BucketRedis.lawful emp) br j g) :
    Sim emp { m with buckets := bm, length := len } { r with buckets := br, length := len } where
  n := h.n
  bsize := h.bsize
  fpl := h.fpl
  retries := h.retries
  length := rfl
  wfm := (Mem.wf_iff emp _).2 wm
  wfr := (Redis.wf_iff emp _).2 wr
  cnt := hc

theorem sim_add (h : Sim emp m r) (fp : F) (j0 : Nat) (hfp : fp ≠ emp) (hj0 : j0 < m.n)
    (hf : (BucketMem.ops emp).isFree (bucketAt m.buckets j0) = true) :
    Sim emp { m with buckets := modAt m.buckets j0 (fun b => (BucketMem.ops emp).add b fp),
                     length := m.length + 1 }
      { r with buckets := modAt r.buckets j0 (fun b => (BucketRedis.ops emp).add b fp),
               length := r.length + 1 } := by
  obtain ⟨wm, cm⟩ := insert_direct (BucketMem.lawful emp) m fp j0 h.wfm' hj0 hf hfp
  obtain ⟨wr, cr⟩ := insert_direct (BucketRedis.lawful emp) r fp j0 h.wfr' (h.n ▸ hj0)
    (h.isFree j0 hj0 ▸ hf) hfp
  rw [← h.length] at wr ⊢
  refine sim_mod h _ _ _ wm wr fun j hj g hg => ?_
  rw [cm j g hg, cr j g hg]
  exact congrArg (· + _) (h.cnt j hj g hg)

theorem sim_rem (h : Sim emp m r) (fp : F) (j0 : Nat) (hfp : fp ≠ emp) (hj0 : j0 < m.n)
    (hl : (BucketMem.ops emp).lookup (bucketAt m.buckets j0) fp = true) :
    Sim emp { m with buckets := modAt m.buckets j0 (fun b => (BucketMem.ops emp).remove b fp),
                     length := m.length - 1 }
      { r with buckets := modAt r.buckets j0 (fun b => (BucketRedis.ops emp).remove b fp),
               length := r.length - 1 } := by
  obtain ⟨wm, cm⟩ := remove_direct (BucketMem.lawful emp) m fp j0 h.wfm' hj0 hl hfp
  obtain ⟨wr, cr⟩ := remove_direct (BucketRedis.lawful emp) r fp j0 h.wfr' (h.n ▸ hj0)
    (h.lookupB j0 hj0 fp hfp ▸ hl) hfp
  rw [← h.length] at wr ⊢
  refine sim_mod h _ _ _ wm wr fun j hj g hg => ?_
  have a := cm j g hg
  have b := cr j g hg
  have c : cntB (BucketMem.lawful emp) m.buckets j g
      = cntB (BucketRedis.lawful emp) r.buckets j g := h.cnt j hj g hg
  omega

end sim
end Gostatix.Cuckoo
