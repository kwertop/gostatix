/-
  Gostatix.Proofs.CuckooRedis — the Redis-backed cuckoo filter (`BucketRedis.ops emp`): concrete
  well-formedness predicate and counting functions used to state the property theorems, and
  their identification with the generic (`LawfulBucket`) notions.
-/
import Gostatix.Proofs.CuckooHistory
set_option linter.unusedSectionVars false
namespace Gostatix

/-- default bucket for concrete examples over `Nat` fingerprints (never read on valid positions) -/
instance instInhabitedBucketRedisNat : Inhabited (BucketRedis Nat) := ⟨⟨0, [], 0⟩⟩

namespace Cuckoo.Redis

section
variable {F : Type} [DecidableEq F] [Inhabited (BucketRedis F)]

def cnt (c : Cuckoo (BucketRedis F)) (j : Nat) (f : F) : Nat := (bucketAt c.buckets j).list.count f

def kc (alt : Nat → F → Nat) (c : Cuckoo (BucketRedis F)) (j : Nat) (f : F) : Nat :=
  if alt j f = j then cnt c j f else cnt c j f + cnt c (alt j f) f

def allSlots (c : Cuckoo (BucketRedis F)) : List F := (c.buckets.map (·.list)).flatten

def stored (emp : F) (c : Cuckoo (BucketRedis F)) : Nat := occ emp (allSlots c)

structure WF (emp : F) (c : Cuckoo (BucketRedis F)) : Prop where
  nbuckets : c.buckets.length = c.n
  bucket : ∀ b ∈ c.buckets, b.size = c.bsize ∧ b.list.length ≤ c.bsize ∧ b.len = occ emp b.list
  length : c.length = stored emp c

instance (emp : F) (c : Cuckoo (BucketRedis F)) : Decidable (WF emp c) :=
  decidable_of_iff (c.buckets.length = c.n ∧ (∀ b ∈ c.buckets, b.size = c.bsize ∧
      b.list.length ≤ c.bsize ∧ b.len = occ emp b.list) ∧ c.length = stored emp c)
    ⟨fun ⟨h1, h2, h3⟩ => ⟨h1, h2, h3⟩, fun h => ⟨h.nbuckets, h.bucket, h.length⟩⟩

/-- the filter `NewCuckooFilterRedis` builds: `n` empty lists -/
def empty (n bsize fpl retries : Nat) : Cuckoo (BucketRedis F) :=
  ⟨n, bsize, fpl, retries, List.replicate n (BucketRedis.new bsize), 0⟩

/-! ### bridge to the generic development

`cnt`, `kc`, `allSlots` and `stored` unfold to `cntB`, `Cuckoo.kc`, `Cuckoo.allSlots` and the
`occ` of the latter at `BucketRedis.lawful emp`: they are equal by `rfl`, so a theorem over a lawful
bucket is used for this kind by `exact` (the property files do just that); to `rw` with one, first
`show` the goal in the generic notions.  Only `WF` needs a lemma, `wf_iff`. -/

theorem wf_iff (emp : F) (c : Cuckoo (BucketRedis F)) :
    WF emp c ↔ Cuckoo.WF (BucketRedis.lawful emp) c :=
  ⟨fun h => ⟨⟨h.nbuckets, h.bucket⟩, h.length.trans (tocc_eq_occ (BucketRedis.lawful emp) c.buckets).symm⟩,
    fun h => ⟨h.bs.len, h.bs.wfb, h.len.trans (tocc_eq_occ (BucketRedis.lawful emp) c.buckets)⟩⟩

theorem empty_wf (emp : F) (n bsize fpl retries : Nat) :
    WF emp (empty n bsize fpl retries : Cuckoo (BucketRedis F)) :=
  (wf_iff emp _).mpr (wf_replicate (BucketRedis.lawful emp) n bsize fpl retries _
    ⟨rfl, Nat.zero_le _, rfl⟩ rfl)

theorem empty_inv (emp : F) (n bsize fpl retries : Nat) :
    Inv (BucketRedis.lawful emp) n bsize (empty n bsize fpl retries) :=
  ⟨(wf_iff emp _).mp (empty_wf emp n bsize fpl retries), rfl, rfl⟩

theorem empty_cnt (n bsize fpl retries : Nat) (j : Nat) (g : F) (hj : j < n) :
    cnt (empty n bsize fpl retries : Cuckoo (BucketRedis F)) j g = 0 := by
  unfold cnt empty
  rw [bucketAt_replicate n _ j hj]
  rfl

end
end Cuckoo.Redis
end Gostatix
