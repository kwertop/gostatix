/-
  Gostatix.Proofs.C19Import — the Go-level imports and constructors of the Redis-backed structures
  as operations on the store (`Op.andThen`: the next command sees the reply of the previous one;
  `luaOp`: an extracted script with its KEYS/ARGV), and their frames: an extracted script is
  `SupportedOn` every key set that contains the keys it is handed, because its Lua tie theorem
  (Props/LuaCMS.lean, LuaHLL.lean, LuaBucket.lean) holds for EVERY store.
-/
import Gostatix.Props.C19
import Gostatix.Proofs.RedisZSet
import Gostatix.Props.LuaCMS
import Gostatix.Props.LuaHLL
import Gostatix.Props.LuaBucket
namespace Gostatix.Redis
open Gostatix.Generated.LuaScripts

/-- `m`, then `f r` where `r` is what `m` returned (Go: the next command is chosen after looking at
    the previous reply). -/
def Op.andThen {α β : Type} (m : Op α) (f : α → Op β) : Op β := fun s => f (m s).2 (m s).1

/-- an operation that does nothing and returns `a` (an early `return`). -/
def Op.ret {α : Type} (a : α) : Op α := fun s => (s, a)

theorem supported_ret {α : Type} (K : List String) (a : α) : SupportedOn K (Op.ret a) :=
  ⟨fun _ _ _ => rfl, fun _ _ h => ⟨rfl, h⟩⟩

theorem supported_opIte {ρ : Type} {K : List String} (c : Prop) [Decidable c] {m m' : Op ρ}
    (hm : SupportedOn K m) (hm' : SupportedOn K m') : SupportedOn K (if c then m else m') := by
  split <;> assumption

theorem supported_andThen {α β : Type} {K : List String} {m : Op α} {f : α → Op β}
    (hm : SupportedOn K m) (hf : ∀ a, SupportedOn K (f a)) : SupportedOn K (Op.andThen m f) := by
  constructor
  · intro s k hk
    show (f (m s).2 (m s).1).1 k = s k
    rw [(hf _).1 _ k hk]
    exact hm.1 s k hk
  · intro s s' hag
    obtain ⟨hr, hs⟩ := hm.2 s s' hag
    show (f (m s).2 (m s).1).2 = (f (m s').2 (m s').1).2 ∧
      ∀ k ∈ K, (f (m s).2 (m s).1).1 k = (f (m s').2 (m s').1).1 k
    rw [hr]
    exact (hf _).2 _ _ hs

/-- `EVAL script numkeys KEYS… ARGV…` as an operation on the database (interpreter of
    Model/Lua.lean on the extracted script). -/
def luaOp (fuel : Nat) (script : Lua.Block) (keys args : List String) : Op Lua.Outcome :=
  fun st => Lua.run fuel script keys args st

theorem supported_of_model {α ρ : Type} {K : List String} {op : Op ρ} {m : Op α} (g : α → ρ)
    (h : ∀ s, op s = ((m s).1, g (m s).2)) (hm : SupportedOn K m) : SupportedOn K op := by
  have e : op = fun s => ((m s).1, g (m s).2) := funext h
  rw [e]
  exact supported_mapResult g hm

/-- the Go side of `script.Run(…).Bool()` / `.Result()` for a script ending in `return true`:
    no error exactly for an integer reply. -/
def replyOk : Lua.Outcome → Bool
  | .reply (.int _) => true
  | _ => false

theorem setRowsLoop_frame (key : String) (cols : Nat) (args : List String) :
    ∀ (n r : Nat) (st : Store) (k : String), (∀ j, r ≤ j → j < r + n → k ≠ cmsRowKey key j) →
      LuaCMS.setRowsLoop key cols args r n st k = st k := by
  intro n
  induction n with
  | zero => intro r st k _; rfl
  | succ n ih =>
    intro r st k hk
    have hr : k ≠ cmsRowKey key r := hk r (Nat.le_refl _) (by omega)
    rw [LuaCMS.setRowsLoop, ih (r + 1) _ k (fun j h1 h2 => hk j (by omega) (by omega)),
      Store.set_ne _ _ hr, Store.del_ne _ hr]

theorem setRowsLoop_congr (key : String) (cols : Nat) (args : List String) :
    ∀ (n r : Nat) (s s' : Store) (k : String), s k = s' k →
      LuaCMS.setRowsLoop key cols args r n s k = LuaCMS.setRowsLoop key cols args r n s' k := by
  intro n
  induction n with
  | zero => intro r s s' k h; exact h
  | succ n ih =>
    intro r s s' k h
    rw [LuaCMS.setRowsLoop, LuaCMS.setRowsLoop]
    apply ih
    simp only [Store.set_apply, Store.del_apply, h]

theorem supported_setRows {ρ : Type} (K : List String) (key : String) (cols : Nat) (args : List String)
    (r n : Nat) (c : ρ) (hK : ∀ j, r ≤ j → j < r + n → cmsRowKey key j ∈ K) :
    SupportedOn K (fun st => (LuaCMS.setRowsLoop key cols args r n st, c) : Op ρ) := by
  refine ⟨fun s k hk => ?_, fun s s' hag => ⟨rfl, fun k hk => ?_⟩⟩
  · exact setRowsLoop_frame key cols args n r s k (fun j h1 h2 e => hk (e ▸ hK j h1 h2))
  · exact setRowsLoop_congr key cols args n r s s' k (hag k hk)

theorem supported_luaSetMatrix (K : List String) (key : String) (cols iters : Nat) (cells : List String)
    (fuel : Nat) (hfuel : iters + cols + 60 ≤ fuel) (hcols : 1 ≤ cols) (hcols' : cols ≤ Lua.unpackSafe)
    (hcells : cells.length = iters * cols) (hn : 2 + cells.length < Lua.maxArrayIndex)
    (hK : ∀ r, r < iters → cmsRowKey key r ∈ K) :
    SupportedOn K (luaOp fuel count_min_sketch_redis_setMatrixScript [key] (decimal cols :: cells)) := by
  have e : luaOp fuel count_min_sketch_redis_setMatrixScript [key] (decimal cols :: cells) =
      fun st => (LuaCMS.setRowsLoop key cols (decimal cols :: cells) 0 iters st, Lua.Outcome.reply (.int 1)) :=
    funext fun st => LuaCMS.lua_setMatrixScript_store st key cols iters cells fuel hfuel hcols hcols' hcells hn
  rw [e]
  exact supported_setRows K key cols _ 0 iters _ (fun j _ hj => hK j (by omega))

/-- the extracted `initMatrixRedis` (constructor) for `columns ≥ 1`: it is `cmsInit`, which cannot
    fail then, so the reply is `1` on every store. -/
theorem lua_initMatrix_run (st : Store) (h : CMSHandle) (fuel : Nat) (hfuel : h.rows + h.cols + 45 ≤ fuel)
    (hpos : 0 < h.cols) (hcols : h.cols ≤ Lua.unpackSafe) (hrows : h.rows ≤ Lua.numLimit) :
    Lua.run fuel count_min_sketch_redis_initMatrixRedis [h.key] [decimal h.rows, decimal h.cols] st =
      ((cmsInit h st).1, .reply (.int 1)) := by
  obtain ⟨msg, hrun⟩ := LuaCMS.lua_count_min_sketch_redis_initMatrixRedis_eq st h fuel hfuel hcols hrows
  obtain ⟨st', hm, _⟩ := C08_cms_init h st hpos
  rw [hrun, hm]

theorem supported_luaInitMatrix (K : List String) (h : CMSHandle) (fuel : Nat)
    (hfuel : h.rows + h.cols + 45 ≤ fuel) (hpos : 0 < h.cols) (hcols : h.cols ≤ Lua.unpackSafe)
    (hrows : h.rows ≤ Lua.numLimit) (hK : ∀ r, r < h.rows → cmsRowKey h.key r ∈ K) :
    SupportedOn K (luaOp fuel count_min_sketch_redis_initMatrixRedis [h.key]
      [decimal h.rows, decimal h.cols]) := by
  refine supported_of_model (m := cmsInit h) (fun _ => Lua.Outcome.reply (.int 1))
    (fun s => lua_initMatrix_run s h fuel hfuel hpos hcols hrows) ?_
  exact supported_cmsInitLoop _ _ _ _ _ (fun j _ hj => hK j (by omega))

theorem supported_luaImportRegisters (K : List String) (key : String) (hk : key ∈ K) (regs : List Nat)
    (fuel : Nat) (hfuel : regs.length + 18 ≤ fuel) (hn : regs.length ≤ 4800)
    (hr : ∀ r ∈ regs, r ≤ 2 ^ 53) :
    SupportedOn K (luaOp fuel hyperloglog_redis_importRegistersScript [key] (regs.map decimal)) :=
  supported_of_model (m := cmdRPUSH key (regs.map decimal))
    (fun r => LuaHLL.unitOutcome r (LuaHLL.importError regs))
    (fun s => LuaHLL.lua_importRegisters_eq s key regs fuel hfuel hn hr) (supported_RPUSH hk _)

theorem supported_zaddAll (K : List String) (key : String) (hk : key ∈ K) (ps : List (String × Nat)) :
    SupportedOn K (LuaHLL.zaddAll key ps) := by
  induction ps with
  | nil => exact supported_pure K ()
  | cons p ps ih =>
    obtain ⟨x, f⟩ := p
    exact supported_bind (supported_ZADD hk x f) fun _ => ih

theorem supported_luaImportHeap (K : List String) (key : String) (hk : key ∈ K) (ps : List (String × Nat))
    (fuel : Nat) (hfuel : ps.length + 15 ≤ fuel) (hlen : 2 * ps.length < 67108864)
    (hsc : ∀ p ∈ ps, p.2 ≤ 2 ^ 53) :
    SupportedOn K (luaOp fuel top_k_redis_importHeapScript [key] (LuaHLL.heapArgs ps)) :=
  supported_of_model (m := LuaHLL.zaddAll key ps) (fun r => LuaHLL.unitOutcome r Lua.msgWrongType)
    (fun s => LuaHLL.lua_importHeap_eq s key ps fuel hfuel hlen hsc) (supported_zaddAll K key hk ps)

/-- `TopKRedis.Import(data, withNewKey = true)` after the JSON decoding, for the NEW handle `t`
    (`k`, `errorRate`, `accuracy`, the sketch's `rows`/`columns` from the document; `heapKey`,
    `sketch.key`, `sketch.metadataKey` freshly generated; `metadataKey` kept): `ps` are the
    (element, frequency) pairs in the order the Go map iteration produced, `cols = len(matrix[0])`
    and `cells` the flattened matrix of the document's sketch.

        importHeap(heapKey, …)                      script; error → return err
        NewCountMinSketchRedis(rows, columns)       rows/columns = 0 → return err
            HSET sketch.metadataKey …               error → return err
            initMatrix()                            script, result dropped
        sketch.setMatrix(matrix)                    script, result dropped
        return nil

    The result is `true` for `return nil`. -/
def topkImportOp (fuel : Nat) (t : TopKHandle) (ps : List (String × Nat)) (cols : Nat)
    (cells : List String) : Op Bool :=
  Op.andThen (luaOp fuel top_k_redis_importHeapScript [t.heapKey] (LuaHLL.heapArgs ps)) fun o =>
  if replyOk o = false then Op.ret false else
  if t.sketch.rows = 0 ∨ t.sketch.cols = 0 then Op.ret false else
  Op.andThen (cmsCreate t.sketch) fun r =>
  if r = none then Op.ret false else
  Op.andThen (luaOp fuel count_min_sketch_redis_initMatrixRedis [t.sketch.key]
    [decimal t.sketch.rows, decimal t.sketch.cols]) fun _ =>
  Op.andThen (luaOp fuel count_min_sketch_redis_setMatrixScript [t.sketch.key] (decimal cols :: cells)) fun _ =>
  Op.ret true

theorem supported_topkImportOp (K : List String) (fuel : Nat) (t : TopKHandle) (ps : List (String × Nat))
    (cols iters : Nat) (cells : List String)
    (hheap : t.heapKey ∈ K) (hmeta : t.sketch.metadataKey ∈ K)
    (hrowsK : ∀ r, r < t.sketch.rows → cmsRowKey t.sketch.key r ∈ K)
    (hf₁ : ps.length + 15 ≤ fuel) (hlen : 2 * ps.length < 67108864) (hsc : ∀ p ∈ ps, p.2 ≤ 2 ^ 53)
    (hf₂ : t.sketch.rows + t.sketch.cols + 45 ≤ fuel) (hc₂ : t.sketch.cols ≤ Lua.unpackSafe)
    (hr₂ : t.sketch.rows ≤ Lua.numLimit)
    (hf₃ : iters + cols + 60 ≤ fuel) (hcols : 1 ≤ cols) (hcols' : cols ≤ Lua.unpackSafe)
    (hcells : cells.length = iters * cols) (hn : 2 + cells.length < Lua.maxArrayIndex)
    (hiters : iters ≤ t.sketch.rows) :
    SupportedOn K (topkImportOp fuel t ps cols cells) := by
  unfold topkImportOp
  refine supported_andThen (supported_luaImportHeap K _ hheap ps fuel hf₁ hlen hsc) fun o => ?_
  refine supported_opIte _ (supported_ret K _) ?_
  by_cases hz : t.sketch.rows = 0 ∨ t.sketch.cols = 0
  · rw [if_pos hz]; exact supported_ret K _
  · rw [if_neg hz]
    refine supported_andThen (supported_HSET hmeta _) fun r => ?_
    refine supported_opIte _ (supported_ret K _) ?_
    refine supported_andThen
      (supported_luaInitMatrix K t.sketch fuel hf₂ (by omega) hc₂ hr₂ hrowsK) fun _ => ?_
    refine supported_andThen
      (supported_luaSetMatrix K _ cols iters cells fuel hf₃ hcols hcols' hcells hn
        (fun r hr => hrowsK r (by omega))) fun _ => ?_
    exact supported_ret K _

theorem supported_cuckooInitLoop (K : List String) (key : String) (hk : key ∈ K) (bks : List String) :
    SupportedOn K (LuaBucket.cuckooInitLoop key bks) := by
  induction bks with
  | nil => exact supported_pure K ()
  | cons bk bks ih =>
    unfold LuaBucket.cuckooInitLoop
    exact supported_bind (supported_LPUSH hk _) fun _ => ih

theorem supported_cuckooInitScript (K : List String) (key : String) (hk : key ∈ K) (bks : List String) :
    SupportedOn K (LuaBucket.cuckooInitScript key bks) :=
  supported_bind (supported_DEL hk) fun _ =>
    supported_bind (supported_cuckooInitLoop K key hk bks) fun _ => supported_pure K true

/-- the extracted `initCuckooFilterRedis` on KEYS = `key :: bucketKeys`: it reads and writes
    `key` only (the bucket keys are VALUES pushed onto the list at `key`). -/
theorem supported_luaInitCuckoo (K : List String) (key : String) (hk : key ∈ K) (bks : List String)
    (bsize fuel : Nat) (hfuel : bks.length + 15 ≤ fuel) (hlen : bks.length + 1 < 67108864) :
    SupportedOn K (luaOp fuel cuckoo_filter_redis_initCuckooFilterRedis (key :: bks)
      [decimal bks.length, decimal bsize]) :=
  supported_of_model (m := LuaBucket.cuckooInitScript key bks) (fun r => LuaBucket.boolOutcome "" r)
    (fun s => LuaBucket.lua_initCuckooFilterRedis_eq s key bks bsize fuel hfuel hlen)
    (supported_cuckooInitScript K key hk bks)

/-- `for i := range bucketKeys { filter.buckets[bucketKey] = newBucketRedis(bucketKey, …) }`:
    `INCRBY bucketKey_len 0` per bucket, errors dropped. -/
def bucketNewAll : List String → Script Unit
  | [] => Script.pure ()
  | bk :: bks => bucketNew bk >>=ₛ fun _ => bucketNewAll bks

theorem supported_bucketNew' (K : List String) (bk : String) (hk : bucketLenKey bk ∈ K) :
    SupportedOn K (bucketNew bk) :=
  supported_bind (supported_try (supported_INCRBY hk 0)) fun _ => supported_pure _ _

theorem supported_bucketNewAll (K : List String) (bks : List String)
    (hK : ∀ bk ∈ bks, bucketLenKey bk ∈ K) : SupportedOn K (bucketNewAll bks) := by
  induction bks with
  | nil => exact supported_pure K ()
  | cons bk bks ih =>
    unfold bucketNewAll
    exact supported_bind (supported_bucketNew' K bk (hK bk List.mem_cons_self)) fun _ =>
      ih (fun b hb => hK b (List.mem_cons_of_mem _ hb))

def cuckooBucketKeys (h : CuckooHandle) : List String := (List.range h.n).map (cuckooBucketKey h.key)

/-- `CuckooFilterRedis.initBuckets()`: the script (extracted), and — unless it failed — one
    `newBucketRedis` per bucket key.  `true` = `return nil`. -/
def cuckooInitBucketsOp (fuel : Nat) (h : CuckooHandle) : Op Bool :=
  Op.andThen (luaOp fuel cuckoo_filter_redis_initCuckooFilterRedis (h.key :: cuckooBucketKeys h)
    [decimal h.n, decimal h.bsize]) fun o =>
  if replyOk o = false then Op.ret false else
  Op.andThen (bucketNewAll (cuckooBucketKeys h)) fun _ => Op.ret true

def cuckooInitBuckets (h : CuckooHandle) : Script Unit :=
  LuaBucket.cuckooInitScript h.key (cuckooBucketKeys h) >>=ₛ fun _ => bucketNewAll (cuckooBucketKeys h)

/-- `RPUSH bucketKey element` for every element of the document's bucket, errors dropped. -/
def rpushEach (bk : String) : List String → Script Unit
  | [] => Script.pure ()
  | e :: es => Script.try_ (cmdRPUSH bk [e]) >>=ₛ fun _ => rpushEach bk es

/-- the body of `Import`'s loop for one bucket of the document:
    `newBucketRedis(bucketKey, …)`; `RPUSH` per element; `INCRBY bucketKey_len length` where
    `length` counts the non-empty elements. -/
def cuckooImportBucket (bk : String) (elems : List String) : Script Unit :=
  bucketNew bk >>=ₛ fun _ =>
  rpushEach bk elems >>=ₛ fun _ =>
  Script.try_ (cmdINCRBY (bucketLenKey bk) ((elems.filter (· ≠ "")).length : Int)) >>=ₛ fun _ =>
  Script.pure ()

/-- `for i := range f.Buckets`, bucket `i` under `getIndexKey(i)`. -/
def cuckooImportBuckets (key : String) : Nat → List (List String) → Script Unit
  | _, [] => Script.pure ()
  | i, b :: bs =>
    cuckooImportBucket (cuckooBucketKey key i) b >>=ₛ fun _ => cuckooImportBuckets key (i + 1) bs

theorem supported_rpushEach (K : List String) (bk : String) (hk : bk ∈ K) (es : List String) :
    SupportedOn K (rpushEach bk es) := by
  induction es with
  | nil => exact supported_pure K ()
  | cons e es ih =>
    unfold rpushEach
    exact supported_bind (supported_try (supported_RPUSH hk _)) fun _ => ih

theorem supported_cuckooImportBucket (K : List String) (bk : String) (hk : bk ∈ K)
    (hl : bucketLenKey bk ∈ K) (es : List String) : SupportedOn K (cuckooImportBucket bk es) :=
  supported_bind (supported_bucketNew' K bk hl) fun _ =>
    supported_bind (supported_rpushEach K bk hk es) fun _ =>
      supported_bind (supported_try (supported_INCRBY hl _)) fun _ => supported_pure _ _

theorem supported_cuckooImportBuckets (K : List String) (key : String) (i : Nat) (bs : List (List String))
    (hK : ∀ j, i ≤ j → j < i + bs.length → cuckooBucketKey key j ∈ K ∧ cuckooLenKey key j ∈ K) :
    SupportedOn K (cuckooImportBuckets key i bs) := by
  induction bs generalizing i with
  | nil => exact supported_pure K ()
  | cons b bs ih =>
    unfold cuckooImportBuckets
    have := hK i (Nat.le_refl _) (by simp)
    refine supported_bind (supported_cuckooImportBucket K _ this.1 this.2 b) fun _ => ?_
    exact ih (i + 1) (fun j h1 h2 => hK j (by omega) (by simp at h2 ⊢; omega))

/-- `CuckooFilterRedis.Import(data, withNewRedisKey = true)` after the JSON decoding, for the NEW
    handle `h` (parameters from the document, `key` and `metadataKey` freshly generated):

        setMetadata(f.Length)      HSET metadataKey …, result dropped
        initBuckets()              script + newBucketRedis per bucket key, result dropped
        for i := range f.Buckets   newBucketRedis; RPUSH per element; INCRBY _len

    `buckets` are the element lists of the document's buckets, in order. -/
def cuckooImportOp (fuel : Nat) (h : CuckooHandle) (length : Nat) (buckets : List (List String)) : Op Unit :=
  Op.andThen (cuckooSetMetadata h length) fun _ =>
  Op.andThen (cuckooInitBucketsOp fuel h) fun _ =>
  Op.andThen (cuckooImportBuckets h.key 0 buckets) fun _ => Op.ret ()

theorem cuckooBucketKeys_length (h : CuckooHandle) : (cuckooBucketKeys h).length = h.n := by
  simp [cuckooBucketKeys]

theorem supported_cuckooInitBucketsOp (K : List String) (fuel : Nat) (h : CuckooHandle)
    (hkey : h.key ∈ K) (hlenK : ∀ i, i < h.n → cuckooLenKey h.key i ∈ K)
    (hfuel : h.n + 15 ≤ fuel) (hn : h.n + 1 < 67108864) :
    SupportedOn K (cuckooInitBucketsOp fuel h) := by
  unfold cuckooInitBucketsOp
  have hl := cuckooBucketKeys_length h
  have hs := supported_luaInitCuckoo K h.key hkey (cuckooBucketKeys h) h.bsize fuel
    (by rw [hl]; exact hfuel) (by rw [hl]; exact hn)
  rw [hl] at hs
  refine supported_andThen hs fun o => ?_
  refine supported_opIte _ (supported_ret K _) ?_
  refine supported_andThen (supported_bucketNewAll K _ ?_) fun _ => supported_ret K _
  intro bk hbk
  obtain ⟨i, hi, rfl⟩ := List.mem_map.mp hbk
  exact hlenK i (List.mem_range.mp hi)

theorem supported_cuckooInitBuckets (K : List String) (h : CuckooHandle)
    (hkey : h.key ∈ K) (hlenK : ∀ i, i < h.n → cuckooLenKey h.key i ∈ K) :
    SupportedOn K (cuckooInitBuckets h) := by
  refine supported_bind (supported_cuckooInitScript K h.key hkey _) fun _ => ?_
  refine supported_bucketNewAll K _ ?_
  intro bk hbk
  obtain ⟨i, hi, rfl⟩ := List.mem_map.mp hbk
  exact hlenK i (List.mem_range.mp hi)

theorem supported_cuckooImportOp (K : List String) (fuel : Nat) (h : CuckooHandle) (length : Nat)
    (buckets : List (List String))
    (hkey : h.key ∈ K) (hmeta : h.metadataKey ∈ K)
    (hbK : ∀ i, i < h.n → cuckooBucketKey h.key i ∈ K ∧ cuckooLenKey h.key i ∈ K)
    (hfuel : h.n + 15 ≤ fuel) (hn : h.n + 1 < 67108864) (hb : buckets.length ≤ h.n) :
    SupportedOn K (cuckooImportOp fuel h length buckets) := by
  unfold cuckooImportOp
  refine supported_andThen (supported_HSET hmeta _) fun _ => ?_
  refine supported_andThen
    (supported_cuckooInitBucketsOp K fuel h hkey (fun i hi => (hbK i hi).2) hfuel hn) fun _ => ?_
  refine supported_andThen (supported_cuckooImportBuckets K h.key 0 buckets ?_) fun _ => supported_ret K _
  intro j _ hj
  exact hbK j (by omega)

theorem CuckooHandle.key_mem (h : CuckooHandle) : h.key ∈ h.keysOf := by
  unfold CuckooHandle.keysOf CuckooHandle.descr
  exact List.mem_map.mpr ⟨KeyD.base h.key, by simp, rfl⟩

theorem TopKHandle.heapKey_mem (t : TopKHandle) : t.heapKey ∈ t.keysOf := by
  unfold TopKHandle.keysOf TopKHandle.descr
  exact List.mem_map.mpr ⟨KeyD.base t.heapKey, by simp, rfl⟩

theorem TopKHandle.metadataKey_mem (t : TopKHandle) : t.metadataKey ∈ t.keysOf := by
  unfold TopKHandle.keysOf TopKHandle.descr
  exact List.mem_map.mpr ⟨KeyD.base t.metadataKey, by simp, rfl⟩

theorem TopKHandle.sketch_mem (t : TopKHandle) {k : String} (hk : k ∈ t.sketch.keysOf) : k ∈ t.keysOf := by
  unfold TopKHandle.keysOf TopKHandle.descr
  obtain ⟨d, hd, rfl⟩ := List.mem_map.mp hk
  exact List.mem_map.mpr ⟨d, List.mem_append_right _ hd, rfl⟩

theorem fresh_disjoint (D : List KeyD) (g : Handle) (hg : ∀ b ∈ g.bases, IsBase b)
    (hD : ∀ d ∈ D, IsBase d.baseOf ∧ d.baseOf ∉ g.bases) :
    ∀ k ∈ g.keysOf, k ∉ D.map KeyD.render := by
  intro k hk hk'
  obtain ⟨d₂, hd₂, rfl⟩ := List.mem_map.mp hk
  obtain ⟨d₁, hd₁, e⟩ := List.mem_map.mp hk'
  have := KeyD.render_inj (hD d₁ hd₁).1 (hg _ (g.descr_base d₂ hd₂)) e
  subst this
  exact (hD d₁ hd₁).2 (g.descr_base d₁ hd₂)

/-- store-level hand model of `compareMatrixScript` (count_min_sketch_redis.go), rows
    `r … r + n - 1`: both rows are fetched with `redis.pcall('LRANGE', …)` (an error table has no
    entries, as in `hllEquals`), then `vals1[j] ~= vals2[j]` for `j = 1 … columns` compares the
    entries AS STRINGS, a missing entry being `nil` (`Equals.luaIdxEq`). -/
def cmsCompareLoop (key1 key2 : String) (cols : Nat) : Nat → Nat → Script Bool
  | _, 0 => Script.pure true
  | r, n + 1 =>
    Script.try_ (cmdLRANGE (cmsRowKey key1 r)) >>=ₛ fun v1 =>
    Script.try_ (cmdLRANGE (cmsRowKey key2 r)) >>=ₛ fun v2 =>
    match Equals.forN cols (Equals.luaIdxEq (v1.getD []) (v2.getD [])) with
    | some true => cmsCompareLoop key1 key2 cols (r + 1) n
    | _ => Script.pure false

/-- `CountMinSketchRedis.Equals`: `(false, nil)` for different dimensions, else the script. -/
def cmsEquals (h g : CMSHandle) : Script Bool :=
  if h.rows ≠ g.rows ∨ h.cols ≠ g.cols then Script.pure false
  else cmsCompareLoop h.key g.key h.cols 0 h.rows

theorem supported_cmsCompareLoop (K : List String) (key1 key2 : String) (cols r n : Nat)
    (hK1 : ∀ j, r ≤ j → j < r + n → cmsRowKey key1 j ∈ K)
    (hK2 : ∀ j, r ≤ j → j < r + n → cmsRowKey key2 j ∈ K) :
    SupportedOn K (cmsCompareLoop key1 key2 cols r n) := by
  induction n generalizing r with
  | zero => exact supported_pure K true
  | succ n ih =>
    have hk1 : cmsRowKey key1 r ∈ K := hK1 r (Nat.le_refl _) (by omega)
    have hk2 : cmsRowKey key2 r ∈ K := hK2 r (Nat.le_refl _) (by omega)
    unfold cmsCompareLoop
    refine supported_bind (supported_try (supported_LRANGE hk1)) fun v1 => ?_
    refine supported_bind (supported_try (supported_LRANGE hk2)) fun v2 => ?_
    split
    · exact ih (r + 1) (fun j h1 h2 => hK1 j (by omega) (by omega))
        (fun j h1 h2 => hK2 j (by omega) (by omega))
    · exact supported_pure K false

theorem supported_cmsEquals (h g : CMSHandle) : SupportedOn (h.keysOf ++ g.keysOf) (cmsEquals h g) := by
  unfold cmsEquals
  by_cases hd : h.rows ≠ g.rows ∨ h.cols ≠ g.cols
  · rw [if_pos hd]; exact supported_pure _ _
  · rw [if_neg hd]
    have hr : h.rows = g.rows := Decidable.not_not.mp (fun e => hd (Or.inl e))
    apply supported_cmsCompareLoop
    · intro j _ hj; exact List.mem_append_left _ (h.rowKey_mem (by omega))
    · intro j _ hj; exact List.mem_append_right _ (g.rowKey_mem (by omega))

theorem luaIdxEq_map_decimal (l1 l2 : List Nat) :
    Equals.luaIdxEq (l1.map decimal) (l2.map decimal) = Equals.luaIdxEq l1 l2 := by
  funext i
  unfold Equals.luaIdxEq
  simp only [List.getElem?_map]
  congr 1
  cases h1 : l1[i]? <;> cases h2 : l2[i]? <;> simp
  exact ⟨fun e => decimal_inj e, fun e => by rw [e]⟩

theorem cmsCompareLoop_canon (st : Store) (key1 key2 : String) (cols : Nat) (m1 m2 : List (List Nat)) :
    ∀ (n r : Nat),
      (∀ i, r ≤ i → i < r + n → LuaCMS.lrangeO st (cmsRowKey key1 i) = some ((m1[i]?.getD []).map decimal)) →
      (∀ i, r ≤ i → i < r + n → LuaCMS.lrangeO st (cmsRowKey key2 i) = some ((m2[i]?.getD []).map decimal)) →
      cmsCompareLoop key1 key2 cols r n st =
        (st, Equals.forFrom (fun i => Equals.forN cols
          (Equals.luaIdxEq ((m1[i]?).getD []) ((m2[i]?).getD []))) r n) := by
  intro n
  induction n with
  | zero => intro r _ _; rfl
  | succ n ih =>
    intro r h1 h2
    have e1 := h1 r (Nat.le_refl _) (by omega)
    have e2 := h2 r (Nat.le_refl _) (by omega)
    unfold cmsCompareLoop
    simp only [Script.bind, Script.try_, LuaCMS.cmdLRANGE_eq, e1, e2, Option.getD_some,
      luaIdxEq_map_decimal]
    rw [Equals.forFrom]
    cases hb : Equals.forN cols (Equals.luaIdxEq (m1[r]?.getD []) (m2[r]?.getD [])) with
    | none => exact absurd hb (LuaBucket.forFrom_luaIdxEq_ne_none _ _ 0 _)
    | some b =>
      cases b with
      | false => rfl
      | true =>
        exact ih (r + 1) (fun i a b => h1 i (by omega) (by omega)) (fun i a b => h2 i (by omega) (by omega))

theorem supported_bloomInit (h : BloomHandle) : SupportedOn h.keysOf (bloomInit h) :=
  supported_SET h.bitsetKey_mem _

theorem supported_cuckooSetMetadata (h : CuckooHandle) (length : Nat) :
    SupportedOn h.keysOf (cuckooSetMetadata h length) := supported_HSET h.metadataKey_mem _

theorem supported_topkCreate (t : TopKHandle) : SupportedOn t.keysOf (topkCreate t) :=
  supported_bind (supported_HSET (t.sketch_mem t.sketch.metadataKey_mem) _) fun _ =>
    supported_HSET t.metadataKey_mem _

theorem absCMS_of_agree (g : CMSHandle) (s s' : Store) (h : ∀ k ∈ g.keysOf, s' k = s k) :
    absCMS s' g = absCMS s g := by
  unfold absCMS
  congr 2
  apply List.map_congr_left
  intro r hr
  unfold cmsReadRow
  rw [h _ (g.rowKey_mem (List.mem_range.mp hr))]

theorem absHLL_of_agree (g : HLLHandle) (s s' : Store) (h : ∀ k ∈ g.keysOf, s' k = s k) :
    absHLL s' g = absHLL s g := by
  unfold absHLL
  rw [h _ g.key_mem]

end Gostatix.Redis
