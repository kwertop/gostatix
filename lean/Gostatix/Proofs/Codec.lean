/-
  Gostatix.Proofs.Codec — helper lemmas for the binary-format properties C11 (round trip,
  exact byte counts) and C18 (truncated images are rejected).

  Everything here is stated with unpacked hypotheses (no `WF` predicates); the predicates and
  the property theorems live in Props/C11.lean and Props/C18.lean.
-/
import Gostatix.Model.Codec
namespace Gostatix

namespace Dec
variable {α β : Type}

theorem run_bind (d : Dec α) (f : α → Dec β) : ∀ bs : Bytes,
    run (bind d f) bs = match run d bs with
      | none => none
      | some (a, r) => run (f a) r := by
  induction d with
  | ret a => intro bs; simp [bind, run]
  | err => intro bs; simp [bind, run]
  | read n k ih =>
    intro bs
    simp only [bind, run]
    split
    · rfl
    · exact ih _ _

theorem run_bind_of_eq {d : Dec α} {f : α → Dec β} {bs r : Bytes} {a : α}
    (h : run d bs = some (a, r)) : run (bind d f) bs = run (f a) r := by
  rw [run_bind, h]

theorem run_bind_of_none {d : Dec α} {f : α → Dec β} {bs : Bytes}
    (h : run d bs = none) : run (bind d f) bs = none := by
  rw [run_bind, h]

@[simp] theorem run_ret (a : α) (bs : Bytes) : run (ret a) bs = some (a, bs) := rfl

/-- a decoder that succeeds on `full` consuming `full.length - rest.length` bytes rejects every
    prefix of `full` shorter than what it consumed -/
theorem prefix_rejected (d : Dec α) : ∀ (full : Bytes) (a : α) (rest : Bytes),
    run d full = some (a, rest) →
    ∀ p : Bytes, p.length < full.length - rest.length → p <+: full → run d p = none := by
  induction d with
  | ret a =>
    intro full a' rest h p hp _
    obtain ⟨_, rfl⟩ := Prod.mk.inj (Option.some.inj h)
    omega
  | err => intro full a rest h; exact nomatch h
  | read n k ih =>
    intro full a rest h p hp ⟨t, ht⟩
    subst ht
    rw [run] at h ⊢
    by_cases hpn : p.length < n
    · rw [if_pos hpn]
    · have hpn' : n ≤ p.length := Nat.le_of_not_lt hpn
      rw [if_neg (by rw [List.length_append]; omega), List.take_append_of_le_length hpn',
        List.drop_append_of_le_length hpn'] at h
      rw [if_neg hpn]
      refine ih _ _ a rest h _ ?_ ⟨t, rfl⟩
      simp only [List.length_append, List.length_drop] at hp ⊢
      omega

theorem truncated_rejected {d : Dec α} {full : Bytes} {a : α}
    (h : ∀ rest, run d (full ++ rest) = some (a, rest)) :
    ∀ p, p <+: full → p ≠ full → run d p = none := by
  intro p hpre hne
  have h0 := h []
  rw [List.append_nil] at h0
  exact prefix_rejected d full a [] h0 p
    (Nat.lt_of_le_of_ne hpre.length_le fun hl => hne (hpre.eq_of_length hl)) hpre

theorem take_rejected {d : Dec α} {full : Bytes} {a : α}
    (h : ∀ rest, run d (full ++ rest) = some (a, rest)) {k : Nat} (hk : k < full.length) :
    run d (full.take k) = none :=
  truncated_rejected h _ (List.take_prefix k full) fun e => by
    have := congrArg List.length e
    rw [List.length_take] at this
    omega

theorem run_read {n : Nat} {k : Bytes → Dec α} {a : Bytes} (h : a.length = n) (rest : Bytes) :
    run (read n k) (a ++ rest) = run (k a) rest := by
  rw [run, if_neg (by rw [List.length_append]; omega), List.take_left' h, List.drop_left' h]

end Dec

namespace Codec
open Dec

@[simp] theorem encList_nil {α} (f : α → Bytes) : encList f [] = [] := rfl
@[simp] theorem encList_cons {α} (f : α → Bytes) (a : α) (l : List α) :
    encList f (a :: l) = f a ++ encList f l := rfl

theorem length_encList {α} (f : α → Bytes) (l : List α) :
    (encList f l).length = sumL (l.map fun a => (f a).length) := by
  induction l with
  | nil => rfl
  | cons a l ih => simp [ih]

theorem length_encList_const {α} (f : α → Bytes) (c : Nat) (l : List α)
    (h : ∀ a ∈ l, (f a).length = c) : (encList f l).length = l.length * c := by
  induction l with
  | nil => simp
  | cons a l ih =>
    have h1 := h a (by simp)
    have h2 := ih (fun b hb => h b (by simp [hb]))
    simp [h1, h2, Nat.add_mul]
    omega

/-- `replicateM` inverts `encList` when the element decoder is correct on every element of the list;
    the count is given separately, as the formats carry it in a header field -/
theorem run_replicateM {α} (d : Dec α) (enc : α → Bytes) (l : List α) (n : Nat) (hn : l.length = n)
    (h : ∀ a ∈ l, ∀ rest, run d (enc a ++ rest) = some (a, rest)) (rest : Bytes) :
    run (replicateM n d) (encList enc l ++ rest) = some (l, rest) := by
  subst hn
  induction l generalizing rest with
  | nil => rfl
  | cons a l ih =>
    rw [List.length_cons, replicateM, encList_cons, List.append_assoc,
      run_bind_of_eq (h a List.mem_cons_self _),
      run_bind_of_eq (ih (fun b hb => h b (List.mem_cons_of_mem a hb)) _)]
    rfl

@[simp] theorem length_beBytes (k n : Nat) : (beBytes k n).length = k := by
  induction k with
  | zero => rfl
  | succ k ih => simp [beBytes, ih]

@[simp] theorem length_encU64 (n : Nat) : (encU64 n).length = 8 := length_beBytes 8 n

/-- Horner evaluation of the `k` low base-256 digits of `n`, continuing from `a` -/
theorem foldl_beBytes (k n a : Nat) :
    (beBytes k n).foldl (fun acc b => acc * 256 + b.toNat) a = a * 256 ^ k + n % 256 ^ k := by
  induction k generalizing a with
  | zero => simp [beBytes, Nat.mod_one]
  | succ k ih =>
    rw [beBytes, List.foldl_cons, ih, UInt8.toNat_ofNat', Nat.mod_mod, Nat.mod_pow_succ, Nat.add_mul,
      Nat.pow_succ, Nat.mul_assoc, Nat.mul_comm 256, Nat.mul_comm (256 ^ k) (_ % 256)]
    omega

theorem beVal_beBytes (k n : Nat) : beVal (beBytes k n) = n % 256 ^ k := by
  rw [beVal, foldl_beBytes, Nat.zero_mul, Nat.zero_add]

theorem beVal_encU64 {n : Nat} (h : n < 2 ^ 64) : beVal (encU64 n) = n := by
  rw [encU64, beVal_beBytes, Nat.mod_eq_of_lt h]

theorem run_decU64 {n : Nat} (h : n < 2 ^ 64) (rest : Bytes) :
    run decU64 (encU64 n ++ rest) = some (n, rest) := by
  rw [decU64, run_read (length_encU64 n), run, beVal_encU64 h]

@[simp] theorem length_encStr (s : Bytes) : (encStr s).length = 8 + s.length := by
  simp [encStr]

theorem run_decStr {s : Bytes} (h : s.length < 2 ^ 64) (rest : Bytes) :
    run decStr (encStr s ++ rest) = some (s, rest) := by
  rw [decStr, encStr, List.append_assoc, run_bind_of_eq (run_decU64 h _), run_read rfl, run]

/-! ### the components the five formats are built from -/

theorem run_decWords (l : List Nat) (n : Nat) (hn : l.length = n) (h : ∀ w ∈ l, w < 2 ^ 64)
    (rest : Bytes) :
    run (replicateM n decU64) (encList encU64 l ++ rest) = some (l, rest) :=
  run_replicateM decU64 encU64 l n hn (fun w hw => run_decU64 (h w hw)) rest

theorem run_decStrs (l : List Bytes) (n : Nat) (hn : l.length = n)
    (h : ∀ e ∈ l, e.length < 2 ^ 64) (rest : Bytes) :
    run (replicateM n decStr) (encList encStr l ++ rest) = some (l, rest) :=
  run_replicateM decStr encStr l n hn (fun e he => run_decStr (h e he)) rest

theorem run_decMatrix (m : List (List Nat)) (rows cols : Nat) (hr : m.length = rows)
    (hc : ∀ r ∈ m, r.length = cols) (hv : ∀ r ∈ m, ∀ c ∈ r, c < 2 ^ 64) (rest : Bytes) :
    run (replicateM rows (replicateM cols decU64)) (encList (encList encU64) m ++ rest)
      = some (m, rest) :=
  run_replicateM _ _ m rows hr
    (fun r hrm rest' => run_decWords r cols (hc r hrm) (hv r hrm) rest') rest

theorem run_decCMS (s : CMSImg) (h1 : s.rows < 2 ^ 64) (h2 : s.cols < 2 ^ 64)
    (h3 : s.allSum < 2 ^ 64) (hr : s.matrix.length = s.rows)
    (hc : ∀ r ∈ s.matrix, r.length = s.cols) (hv : ∀ r ∈ s.matrix, ∀ c ∈ r, c < 2 ^ 64)
    (rest : Bytes) : run decCMS (encCMS s ++ rest) = some (s, rest) := by
  simp only [decCMS, encCMS, List.append_assoc]
  rw [run_bind_of_eq (run_decU64 h1 _), run_bind_of_eq (run_decU64 h2 _),
    run_bind_of_eq (run_decU64 h3 _),
    run_bind_of_eq (run_decMatrix s.matrix s.rows s.cols hr hc hv _)]
  rfl

theorem run_decBucket (b : BucketImg) (h1 : b.size < 2 ^ 64) (h2 : b.length < 2 ^ 64)
    (hl : b.elements.length = b.size) (he : ∀ e ∈ b.elements, e.length < 2 ^ 64)
    (rest : Bytes) : run decBucket (encBucket b ++ rest) = some (b, rest) := by
  simp only [decBucket, encBucket, List.append_assoc]
  rw [run_bind_of_eq (run_decU64 h1 _), run_bind_of_eq (run_decU64 h2 _),
    run_bind_of_eq (run_decStrs b.elements b.size hl he _)]
  rfl

theorem run_decHeapElem (e : Bytes × Nat) (h1 : e.1.length < 2 ^ 64) (h2 : e.2 < 2 ^ 64)
    (rest : Bytes) : run decHeapElem (encHeapElem e ++ rest) = some (e, rest) := by
  simp only [decHeapElem, encHeapElem, List.append_assoc]
  rw [run_bind_of_eq (run_decStr h1 _), run_bind_of_eq (run_decU64 h2 _)]
  rfl

theorem run_decBuckets (l : List BucketImg) (n : Nat) (hn : l.length = n)
    (h : ∀ b ∈ l, b.size < 2 ^ 64 ∧ b.length < 2 ^ 64 ∧ b.elements.length = b.size ∧
      ∀ e ∈ b.elements, e.length < 2 ^ 64) (rest : Bytes) :
    run (replicateM n decBucket) (encList encBucket l ++ rest) = some (l, rest) :=
  run_replicateM decBucket encBucket l n hn
    (fun b hb => run_decBucket b (h b hb).1 (h b hb).2.1 (h b hb).2.2.1 (h b hb).2.2.2) rest

theorem run_decHeap (l : List (Bytes × Nat)) (n : Nat) (hn : l.length = n)
    (h : ∀ e ∈ l, e.1.length < 2 ^ 64 ∧ e.2 < 2 ^ 64) (rest : Bytes) :
    run (replicateM n decHeapElem) (encList encHeapElem l ++ rest) = some (l, rest) :=
  run_replicateM decHeapElem encHeapElem l n hn
    (fun e he => run_decHeapElem e (h e he).1 (h e he).2) rest

/-! ### encoded lengths of the components -/

theorem length_encWords (l : List Nat) : (encList encU64 l).length = l.length * 8 :=
  length_encList_const encU64 8 l (fun _ _ => length_encU64 _)

theorem length_encMatrix (m : List (List Nat)) (cols : Nat) (hc : ∀ r ∈ m, r.length = cols) :
    (encList (encList encU64) m).length = m.length * (8 * cols) :=
  length_encList_const _ _ m (fun r hr => by rw [length_encWords, hc r hr, Nat.mul_comm])

theorem length_encCMS (s : CMSImg) (hr : s.matrix.length = s.rows)
    (hc : ∀ r ∈ s.matrix, r.length = s.cols) : (encCMS s).length = countCMS s := by
  simp only [encCMS, countCMS, List.length_append, length_encU64,
    length_encMatrix s.matrix s.cols hc, hr]

theorem length_encBucket (b : BucketImg) : (encBucket b).length = countBucket b := by
  simp only [encBucket, countBucket, List.length_append, length_encU64, length_encList,
    length_encStr]

theorem length_encBuckets (l : List BucketImg) :
    (encList encBucket l).length = sumL (l.map countBucket) := by
  rw [length_encList]; simp only [length_encBucket]

theorem length_encHeapElem (e : Bytes × Nat) : (encHeapElem e).length = e.1.length + 16 := by
  simp only [encHeapElem, List.length_append, length_encStr, length_encU64]; omega

theorem length_encHeap (l : List (Bytes × Nat)) :
    (encList encHeapElem l).length = sumL (l.map fun e => e.1.length + 16) := by
  rw [length_encList]; simp only [length_encHeapElem]

end Codec
end Gostatix
