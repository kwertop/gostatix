/-
  Gostatix.Proofs.RedisCMS — rows of a count-min sketch in the store (`RowIs`, `RowsAre`, what
  `absCMS` means), the step shared by the loops over rows (`RowsAre.cons_frame`), and the
  `Update` and `Count` loops of count_min_sketch_redis.go against `CMS.updRows` / `CMS.cells`
  (init and merge: RedisCMSMerge; the simulation theorems: Props/C08.lean).
-/
import Gostatix.Proofs.RedisKeys
import Gostatix.Proofs.RedisFrame
namespace Gostatix.Redis

theorem optAll_eq_some_iff {α} (l : List (Option α)) (m : List α) :
    optAll l = some m ↔ l = m.map some := by
  induction l generalizing m with
  | nil => cases m <;> simp [optAll]
  | cons a l ih =>
    cases a with
    | none => cases m <;> simp [optAll]
    | some a =>
      cases m with
      | nil => simp [optAll]
      | cons b m =>
        simp only [optAll, Option.map_eq_some_iff, List.map_cons, List.cons.injEq, Option.some.injEq]
        constructor
        · rintro ⟨x, hx, rfl, rfl⟩; exact ⟨rfl, (ih _).mp hx⟩
        · rintro ⟨rfl, hl⟩; exact ⟨m, (ih _).mpr hl, rfl, rfl⟩

def RowIs (s : Store) (k : String) (cols : Nat) (row : List Nat) : Prop :=
  ∃ l, s k = some (.list l) ∧ l.length = cols ∧ l.map parseDecimal = row.map some

theorem RowIs.length {s k cols row} (h : RowIs s k cols row) : row.length = cols := by
  obtain ⟨l, _, hl, hm⟩ := h
  have := congrArg List.length hm
  simp only [List.length_map] at this
  omega

theorem RowIs.congr {s s' : Store} {k cols row} (h : RowIs s k cols row) (e : s' k = s k) :
    RowIs s' k cols row := by
  obtain ⟨l, h1, h2, h3⟩ := h
  exact ⟨l, by rw [e, h1], h2, h3⟩

theorem cmsReadRow_eq_some_iff (s : Store) (key : String) (cols r : Nat) (row : List Nat) :
    cmsReadRow s key cols r = some row ↔ RowIs s (cmsRowKey key r) cols row := by
  unfold cmsReadRow RowIs
  constructor
  · intro h
    split at h
    · rename_i l hl
      split at h
      · rename_i hlen
        exact ⟨l, hl, hlen, (optAll_eq_some_iff _ _).mp h⟩
      · cases h
    · cases h
  · rintro ⟨l, hl, hlen, hm⟩
    rw [hl]; simp only [hlen, if_true]
    exact (optAll_eq_some_iff _ _).mpr hm

theorem map_decimal_parse (row : List Nat) :
    (row.map decimal).map parseDecimal = row.map some := by
  induction row with
  | nil => rfl
  | cons a row ih => simp only [List.map_cons, parseDecimal_decimal, ih]

theorem cmsRowKey_inj {key : String} {a b : Nat} (h : cmsRowKey key a = cmsRowKey key b) : a = b := by
  unfold cmsRowKey at h
  have := congrArg String.toList h
  simp only [String.toList_append] at this
  exact decimal_inj (String.toList_inj.mp (List.append_cancel_left this))

def RowsAre (s : Store) (key : String) (cols : Nat) : Nat → List (List Nat) → Prop
  | _, [] => True
  | r, row :: m => RowIs s (cmsRowKey key r) cols row ∧ RowsAre s key cols (r + 1) m

/-- rows `r, …, r + m.length - 1` are all that is read (`RowsAre.congr`: the same without the
    upper bound). -/
theorem RowsAre.congr' {s s' : Store} {key : String} {cols : Nat} {r : Nat} {m : List (List Nat)}
    (h : RowsAre s key cols r m)
    (e : ∀ j, r ≤ j → j < r + m.length → s' (cmsRowKey key j) = s (cmsRowKey key j)) :
    RowsAre s' key cols r m := by
  induction m generalizing r with
  | nil => trivial
  | cons row m ih =>
    refine ⟨h.1.congr (e r (Nat.le_refl _) (by simp)), ih h.2 (fun j hj hj' => e j (by omega) ?_)⟩
    simp only [List.length_cons]; omega

theorem RowsAre.congr {s s' : Store} {key : String} {cols : Nat} {r : Nat} {m : List (List Nat)}
    (h : RowsAre s key cols r m) (e : ∀ j, r ≤ j → s' (cmsRowKey key j) = s (cmsRowKey key j)) :
    RowsAre s' key cols r m := h.congr' fun j hj _ => e j hj

/-- the step shared by the loops over rows `r, …, r + n`: row `r` was rewritten, giving `s₁`, and
    the rest of the loop ran from `s₁` to `s'` touching rows `r + 1, …, r + n` only. -/
theorem RowsAre.cons_frame {s s₁ s' : Store} {key : String} {cols r n : Nat} {row : List Nat}
    {m : List (List Nat)} (h₁ : RowIs s₁ (cmsRowKey key r) cols row)
    (hs₁ : ∀ k, k ≠ cmsRowKey key r → s₁ k = s k) (hrows : RowsAre s' key cols (r + 1) m)
    (hframe : ∀ k, (∀ j, r + 1 ≤ j → j < r + 1 + n → k ≠ cmsRowKey key j) → s' k = s₁ k) :
    RowsAre s' key cols r (row :: m) ∧
      ∀ k, (∀ j, r ≤ j → j < r + (n + 1) → k ≠ cmsRowKey key j) → s' k = s k := by
  refine ⟨⟨h₁.congr (hframe _ fun j hj _ e => ?_), hrows⟩, fun k hk => ?_⟩
  · have := cmsRowKey_inj e; omega
  · rw [hframe k fun j hj hj' => hk j (by omega) (by omega)]
    exact hs₁ k (hk r (Nat.le_refl _) (by omega))

theorem optAll_range'_iff (s : Store) (key : String) (cols : Nat) (r n : Nat) (m : List (List Nat)) :
    optAll ((List.range' r n).map (cmsReadRow s key cols)) = some m ↔
      m.length = n ∧ RowsAre s key cols r m := by
  induction n generalizing r m with
  | zero =>
    cases m with
    | nil => simp [optAll, RowsAre]
    | cons a m => simp [optAll]
  | succ n ih =>
    rw [List.range'_succ, List.map_cons, optAll_eq_some_iff]
    cases m with
    | nil => simp
    | cons row m =>
      simp only [List.map_cons, List.cons.injEq, List.length_cons, RowsAre]
      rw [cmsReadRow_eq_some_iff, ← optAll_eq_some_iff, ih]
      constructor
      · rintro ⟨h1, h2, h3⟩; exact ⟨by omega, h1, h3⟩
      · rintro ⟨h1, h2, h3⟩; exact ⟨h2, by omega, h3⟩

theorem absCMS_eq_some_iff (s : Store) (h : CMSHandle) (c : CMS) :
    absCMS s h = some c ↔
      c.rows = h.rows ∧ c.cols = h.cols ∧ c.m.length = h.rows ∧ RowsAre s h.key h.cols 0 c.m := by
  unfold absCMS
  rw [List.range_eq_range', Option.map_eq_some_iff]
  constructor
  · rintro ⟨m, hm, rfl⟩
    obtain ⟨h1, h2⟩ := (optAll_range'_iff _ _ _ _ _ _).mp hm
    exact ⟨rfl, rfl, h1, h2⟩
  · rintro ⟨h1, h2, h3, h4⟩
    refine ⟨c.m, (optAll_range'_iff _ _ _ _ _ _).mpr ⟨h3, h4⟩, ?_⟩
    cases c; simp only at h1 h2; subst h1; subst h2; rfl

theorem getElem_parse {l : List String} {row : List Nat} (hm : l.map parseDecimal = row.map some)
    {c : Nat} (hc : c < l.length) : parseDecimal l[c] = some (row.getD c 0) := by
  have h1 : (l.map parseDecimal)[c]? = (row.map some)[c]? := by rw [hm]
  rw [List.getElem?_map, List.getElem?_map, List.getElem?_eq_getElem hc] at h1
  rw [List.getD_eq_getElem?_getD]
  cases hr : row[c]? with
  | none => rw [hr] at h1; cases h1
  | some x => rw [hr] at h1; exact Option.some.inj h1

theorem set_map_parse {l : List String} {row : List Nat} (hm : l.map parseDecimal = row.map some)
    (c : Nat) (f : Nat → Nat) {v : String} (hv : parseDecimal v = some (f (row.getD c 0)))
    (hc : c < l.length) :
    (l.set c v).map parseDecimal = (modAt row c f).map some := by
  induction l generalizing row c with
  | nil => simp at hc
  | cons a l ih =>
    cases row with
    | nil => simp at hm
    | cons x row =>
      simp only [List.map_cons, List.cons.injEq] at hm
      cases c with
      | zero => simpa [modAt, hm.2] using hv
      | succ c =>
        have := ih hm.2 c (by simpa using hv) (by simpa using hc)
        simpa [modAt, hm.1] using this

/-- induction over two lists of strings of the same length, each reading as a list of numbers:
    the shape of the element-wise loops of the merge and compare scripts. -/
theorem reads_induction₂ {P : Nat → List String → List String → List Nat → List Nat → Prop}
    (nil : P 0 [] [] [] [])
    (cons : ∀ {n a b l1 l2 x y r1 r2}, parseDecimal a = some x → parseDecimal b = some y →
      P n l1 l2 r1 r2 → P (n + 1) (a :: l1) (b :: l2) (x :: r1) (y :: r2)) :
    ∀ (n : Nat) (l1 l2 : List String) (r1 r2 : List Nat), l1.length = n → l2.length = n →
      l1.map parseDecimal = r1.map some → l2.map parseDecimal = r2.map some → P n l1 l2 r1 r2 := by
  intro n
  induction n with
  | zero =>
    intro l1 l2 r1 r2 h1 h2 m1 m2
    rw [List.length_eq_zero_iff.mp h1] at m1 ⊢
    rw [List.length_eq_zero_iff.mp h2] at m2 ⊢
    rw [List.map_eq_nil_iff.mp m1.symm, List.map_eq_nil_iff.mp m2.symm]
    exact nil
  | succ n ih =>
    intro l1 l2 r1 r2 h1 h2 m1 m2
    match l1, l2, r1, r2, h1, h2, m1, m2 with
    | a :: l1, b :: l2, x :: r1, y :: r2, h1, h2, m1, m2 =>
      simp only [List.map_cons, List.cons.injEq] at m1 m2
      exact cons m1.1 m2.1 (ih l1 l2 r1 r2 (Nat.succ.inj h1) (Nat.succ.inj h2) m1.2 m2.2)

/-- `LINDEX k c` followed by `tonumber`, on a list that reads as `row`: the continuation gets the
    entry and its value. -/
theorem lindex_number {s : Store} {k : String} {l : List String} {row : List Nat}
    (hl : s k = some (.list l)) (hm : l.map parseDecimal = row.map some) {c : Nat}
    (hc : c < l.length) {β} (f : Option String → Nat → Script β) :
    (cmdLINDEX k c >>=ₛ fun v => luaNumber v >>=ₛ f v) s = f (some l[c]) (row.getD c 0) s := by
  rw [Script.bind_ok (cmdLINDEX_list hl c), List.getElem?_eq_getElem hc,
    Script.bind_ok (luaNumber_some (getElem_parse hm hc) s)]

theorem cmsUpdateLoop_spec (key : String) (cols count : Nat) :
    ∀ (cs : List Nat) (r : Nat) (s : Store) (m : List (List Nat)),
      cs.length ≤ m.length → RowsAre s key cols r m → (∀ c ∈ cs, c < cols) →
      ∃ s', cmsUpdateLoop key count r cs s = (s', some ()) ∧
        RowsAre s' key cols r (CMS.updRows m cs count) ∧
        (∀ k, (∀ j, r ≤ j → j < r + cs.length → k ≠ cmsRowKey key j) → s' k = s k) := by
  intro cs
  induction cs with
  | nil =>
    intro r s m _ hm _
    refine ⟨s, rfl, ?_, fun _ _ => rfl⟩
    cases m <;> exact hm
  | cons c cs ih =>
    intro r s m hlen hm hc
    cases m with
    | nil => simp at hlen
    | cons row m =>
      obtain ⟨⟨l, hl, hll, hlm⟩, hrest⟩ := hm
      have hcl : c < l.length := by rw [hll]; exact hc c List.mem_cons_self
      have hs₁ := fun k (hk : k ≠ cmsRowKey key r) =>
        Store.set_ne s (.list (l.set c (decimal (row.getD c 0 + count)))) hk
      obtain ⟨s', hrun, hrows, hframe⟩ := ih (r + 1) _ m (by simpa using hlen)
        (hrest.congr fun j hj => hs₁ _ fun e => by have := cmsRowKey_inj e; omega)
        (fun c' hc' => hc c' (List.mem_cons_of_mem _ hc'))
      -- the turn for row `r` runs, then the rest of the loop; row `r` now reads as the updated row
      refine ⟨s', ?_, RowsAre.cons_frame ?_ hs₁ hrows hframe⟩
      · unfold cmsUpdateLoop
        rw [lindex_number hl hlm hcl, Script.bind_ok (Script.try_ok (cmdLSET_list hl hcl _))]
        exact hrun
      · exact ⟨_, Store.set_self _ _ _, by simpa using hll,
          set_map_parse hlm c (· + count) (parseDecimal_decimal _) hcl⟩

/-- one turn of the `Count` loop on a row that reads as `row`.  The script's test
    `count < min or tonumber(KEYS[i]) == 0` makes row 0 initialise the minimum (`r = 0` below,
    `CMS.minInit` in the model); that is why `cmsCountLoop_spec` is for rows `r > 0` and
    `cmsCount_spec` does the first turn by hand. -/
theorem cmsCountLoop_cons (key : String) {cols : Nat} {s : Store} {r c : Nat} {row : List Nat}
    (h : RowIs s (cmsRowKey key r) cols row) (hc : c < cols) (cs : List Nat) (mn : Nat) :
    cmsCountLoop key r (c :: cs) mn s =
      cmsCountLoop key (r + 1) cs (if row.getD c 0 < mn ∨ r = 0 then row.getD c 0 else mn) s := by
  obtain ⟨l, hl, hll, hlm⟩ := h
  rw [cmsCountLoop]
  exact lindex_number hl hlm (hll ▸ hc) _

theorem cmsCountLoop_spec (key : String) (cols : Nat) :
    ∀ (cs : List Nat) (r : Nat) (s : Store) (m : List (List Nat)) (mn : Nat),
      0 < r → cs.length ≤ m.length → RowsAre s key cols r m → (∀ c ∈ cs, c < cols) →
      cmsCountLoop key r cs mn s =
        (s, some ((CMS.cells m cs).foldl (fun mn x => if x < mn then x else mn) mn)) := by
  intro cs
  induction cs with
  | nil => intro r s m mn _ _ _ _; cases m <;> rfl
  | cons c cs ih =>
    intro r s m mn hr hlen hm hc
    cases m with
    | nil => simp at hlen
    | cons row m =>
      rw [cmsCountLoop_cons key hm.1 (hc c List.mem_cons_self),
        ih (r + 1) s m _ (by omega) (by simpa using hlen) hm.2
          (fun c' hc' => hc c' (List.mem_cons_of_mem _ hc'))]
      have : r ≠ 0 := by omega
      simp only [CMS.cells, List.foldl_cons, this, or_false]

theorem cmsCount_spec (key : String) (cols : Nat) (pos : List Nat) (s : Store) (m : List (List Nat))
    (hlen : pos.length ≤ m.length) (hm : RowsAre s key cols 0 m) (hc : ∀ c ∈ pos, c < cols) :
    cmsCountLoop key 0 pos 0 s = (s, some (CMS.minInit (CMS.cells m pos))) := by
  cases pos with
  | nil => cases m <;> rfl
  | cons c cs =>
    cases m with
    | nil => simp at hlen
    | cons row m =>
      rw [cmsCountLoop_cons key hm.1 (hc c List.mem_cons_self),
        cmsCountLoop_spec key cols cs 1 s m _ (by omega) (by simpa using hlen) hm.2
          (fun c' hc' => hc c' (List.mem_cons_of_mem _ hc'))]
      simp only [CMS.cells, CMS.minInit, or_true, if_true]

end Gostatix.Redis
