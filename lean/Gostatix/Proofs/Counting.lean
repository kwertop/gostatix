/-
  Gostatix.Proofs.Counting — counting over the finite family of ALL functions `E → F`, the
  "ideal hash family" of `Props/C15Bloom.lean` and `Props/C15Prob.lean`.  No measure theory:
  "probability" is a fraction of the family, and "independence" is double counting.
-/
import Mathlib.Data.Fintype.BigOperators
import Mathlib.Data.Fintype.Pi
import Mathlib.Algebra.Order.BigOperators.Group.Finset
namespace Gostatix.Counting
open Finset

section
variable {E F : Type} [Fintype E] [DecidableEq E] [Fintype F] [DecidableEq F]

/-- "independence" by double counting: if `T g` does not depend on the value of `g` at `y`, the
    probability of `g y ∈ T g` is the mean of `#(T g) / #F`.
    Both sides count pairs; `(g, c) ↦ (g[y := c], g y)` is a bijection between them. -/
theorem card_mem_mul_card (y : E) (T : (E → F) → Finset F)
    (hT : ∀ g v, T (Function.update g y v) = T g) :
    (univ.filter (fun g : E → F => g y ∈ T g)).card * Fintype.card F
      = ∑ g : E → F, (T g).card := by
  rw [← Finset.card_univ (α := F), ← Finset.card_product, ← Finset.card_sigma]
  refine Finset.card_nbij' (fun p => ⟨Function.update p.1 y p.2, p.1 y⟩)
    (fun s => (Function.update s.1 y s.2, s.1 y)) ?_ ?_ ?_ ?_
  · rintro ⟨g, c⟩ hp
    exact mem_sigma.2 ⟨mem_univ _, (hT g c).symm ▸ (mem_filter.1 (mem_product.1 hp).1).2⟩
  · rintro ⟨g, v⟩ hs
    refine mem_product.2 ⟨mem_filter.2 ⟨mem_univ _, ?_⟩, mem_univ _⟩
    show Function.update g y v y ∈ T (Function.update g y v)
    rw [Function.update_self, hT]
    exact (mem_sigma.1 hs).2
  · rintro ⟨g, c⟩ _
    simp only [Function.update_idem, Function.update_eq_self, Function.update_self]
  · rintro ⟨g, v⟩ _
    simp only [Function.update_idem, Function.update_eq_self, Function.update_self]

theorem card_agree_mul (x y : E) (hxy : y ≠ x) :
    (univ.filter (fun f : E → F => f y = f x)).card * Fintype.card F = Fintype.card (E → F) := by
  have h := card_mem_mul_card y (fun f : E → F => {f x})
    (fun f v => by rw [Function.update_of_ne hxy.symm])
  simp only [mem_singleton, card_singleton] at h
  rw [h, ← card_eq_sum_ones, card_univ]

end

theorem sum_card_fiberwise {G β : Type} [Fintype G] [Fintype β] [DecidableEq β] (B : G → β)
    (f : β → ℕ) :
    ∑ g : G, f (B g) = ∑ b : β, (univ.filter (fun g : G => B g = b)).card * f b := by
  rw [← Finset.sum_fiberwise' (univ : Finset G) B f]
  exact Finset.sum_congr rfl fun b _ => sum_const_nat fun _ _ => rfl

/-- independent rows = product set. -/
theorem card_le_pow_of_forall {α : Type} [DecidableEq α] (d : ℕ) (B : Finset α)
    (S : Finset (Fin d → α)) (hS : ∀ g ∈ S, ∀ r, g r ∈ B) : S.card ≤ B.card ^ d :=
  (Finset.card_le_card fun g hg => Fintype.mem_piFinset.mpr (hS g hg)).trans_eq
    (Fintype.card_piFinset_const B d)

end Gostatix.Counting
