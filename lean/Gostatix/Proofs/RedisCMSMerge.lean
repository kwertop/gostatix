/-
  Gostatix.Proofs.RedisCMSMerge — the row loops of `initMatrix` and `mergeMatrix` of
  count_min_sketch_redis.go against `CMS.new` / `CMS.addRows`.
-/
import Gostatix.Proofs.RedisCMS
namespace Gostatix.Redis

theorem cmsInitLoop_spec (key : String) (cols : Nat) (hcols : 0 < cols) :
    ∀ (n r : Nat) (s : Store),
      ∃ s', cmsInitLoop key cols r n s = (s', some ()) ∧
        RowsAre s' key cols r (List.replicate n (List.replicate cols 0)) ∧
        (∀ k, (∀ j, r ≤ j → j < r + n → k ≠ cmsRowKey key j) → s' k = s k) := by
  intro n
  induction n with
  | zero => intro r s; exact ⟨s, rfl, trivial, fun _ _ => rfl⟩
  | succ n ih =>
    intro r s
    have hne : List.replicate cols (decimal 0) ≠ [] :=
      fun e => Nat.ne_of_gt hcols (by simpa using congrArg List.length e)
    obtain ⟨s', hrun, hrows, hframe⟩ :=
      ih (r + 1) (s.set (cmsRowKey key r) (.list (List.replicate cols (decimal 0)).reverse))
    -- the turn for row `r` runs, then the rest of the loop; row `r` now reads as zeros
    refine ⟨s', ?_, RowsAre.cons_frame ?_ (fun k hk => Store.set_ne s _ hk) hrows hframe⟩
    · unfold cmsInitLoop
      rw [Script.bind_ok (rfl : cmdDEL (cmsRowKey key r) s = (s.del _, some ())),
        Script.bind_ok (cmdLPUSH_none (Store.del_self _ _) hne), Store.del_set]
      exact hrun
    · exact ⟨_, Store.set_self _ _ _, by simp, by simp [List.map_replicate, parseDecimal_decimal]⟩

theorem cmsAddVals_spec (n : Nat) (l1 l2 : List String) (row1 row2 : List Nat) (s : Store)
    (h1 : l1.length = n) (h2 : l2.length = n)
    (m1 : l1.map parseDecimal = row1.map some) (m2 : l2.map parseDecimal = row2.map some) :
    cmsAddVals n l1 l2 s = (s, some ((List.zipWith (· + ·) row1 row2).map decimal)) := by
  refine reads_induction₂ (P := fun n l1 l2 row1 row2 =>
    cmsAddVals n l1 l2 s = (s, some ((List.zipWith (· + ·) row1 row2).map decimal)))
    rfl ?_ n l1 l2 row1 row2 h1 h2 m1 m2
  intro n a b l1 l2 x y row1 row2 ha hb ih
  unfold cmsAddVals
  rw [List.head?_cons, List.head?_cons, List.tail_cons, List.tail_cons,
    Script.bind_ok (luaNumber_some ha s), Script.bind_ok (luaNumber_some hb s), Script.bind_ok ih]
  rfl

theorem cmsMergeLoop_spec (key1 key2 : String) (cols : Nat) (hcols : 0 < cols) (R : Nat)
    (hd : ∀ i j, i < R → j < R → cmsRowKey key1 i ≠ cmsRowKey key2 j) :
    ∀ (n r : Nat) (s : Store) (m1 m2 : List (List Nat)),
      r + n ≤ R → m1.length = n → m2.length = n →
      RowsAre s key1 cols r m1 → RowsAre s key2 cols r m2 →
      ∃ s', cmsMergeLoop key1 key2 cols r n s = (s', some ()) ∧
        RowsAre s' key1 cols r (CMS.addRows m1 m2) ∧
        (∀ k, (∀ j, r ≤ j → j < r + n → k ≠ cmsRowKey key1 j) → s' k = s k) := by
  intro n
  induction n with
  | zero =>
    intro r s m1 m2 _ h1 h2 _ _
    cases m1 with
    | cons a l => simp at h1
    | nil => exact ⟨s, rfl, trivial, fun _ _ => rfl⟩
  | succ n ih =>
    intro r s m1 m2 hR h1 h2 hm1 hm2
    cases m1 with
    | nil => simp at h1
    | cons row1 m1 =>
      cases m2 with
      | nil => simp at h2
      | cons row2 m2 =>
        simp only [List.length_cons, Nat.add_right_cancel_iff] at h1 h2
        obtain ⟨⟨l1, hl1, hll1, hlm1⟩, hrest1⟩ := hm1
        obtain ⟨⟨l2, hl2, hll2, hlm2⟩, hrest2⟩ := hm2
        have hv3len : ((List.zipWith (· + ·) row1 row2).map decimal).length = cols := by
          rw [List.length_map, List.length_zipWith, RowIs.length ⟨l1, hl1, hll1, hlm1⟩,
            RowIs.length ⟨l2, hl2, hll2, hlm2⟩, Nat.min_self]
        have hv3 : (List.zipWith (· + ·) row1 row2).map decimal ≠ [] :=
          fun e => Nat.ne_of_gt hcols (by rw [← hv3len, e]; rfl)
        have hs₁ := fun k (hk : k ≠ cmsRowKey key1 r) =>
          Store.set_ne s (.list ((List.zipWith (· + ·) row1 row2).map decimal)) hk
        obtain ⟨s', hrun, hrows, hframe⟩ := ih (r + 1) _ m1 m2 (by omega) h1 h2
          (hrest1.congr fun j hj => hs₁ _ fun e => by have := cmsRowKey_inj e; omega)
          (hrest2.congr' fun j hj hj' => hs₁ _ fun e => hd r j (by omega) (by omega) e.symm)
        -- the turn for row `r` runs, then the rest of the loop; row `r` now reads as the sums
        refine ⟨s', ?_, RowsAre.cons_frame ?_ hs₁ hrows hframe⟩
        · unfold cmsMergeLoop
          rw [Script.bind_ok (cmdLRANGE_list hl1), Script.bind_ok (cmdLRANGE_list hl2),
            Script.bind_ok (cmsAddVals_spec cols l1 l2 row1 row2 s hll1 hll2 hlm1 hlm2),
            Script.bind_ok (rfl : cmdDEL (cmsRowKey key1 r) s = (s.del _, some ())),
            Script.bind_ok (cmdRPUSH_none (Store.del_self _ _) hv3), Store.del_set]
          exact hrun
        · exact ⟨_, Store.set_self _ _ _, hv3len, map_decimal_parse _⟩

/-- distinct 16-letter keys give the row-key disjointness that `C08_cms_merge` asks for. -/
theorem cmsRowKey_ne_of_base {k1 k2 : String} (hb1 : IsBase k1) (hb2 : IsBase k2) (hne : k1 ≠ k2)
    (i j : Nat) : cmsRowKey k1 i ≠ cmsRowKey k2 j := by
  intro e
  have := KeyD.render_inj (d₁ := .row k1 i) (d₂ := .row k2 j) hb1 hb2 e
  cases this
  exact hne rfl

end Gostatix.Redis
