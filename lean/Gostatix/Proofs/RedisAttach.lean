/-
  Gostatix.Proofs.RedisAttach — the metadata hash: what `HGETALL` reads right after the
  constructor's `HSET`, field by field, and that every `New…FromKey` looks at the metadata key
  only (Top-K: at its own and at the one its `sketchKey` field names).
-/
import Gostatix.Proofs.RedisKeys
import Gostatix.Proofs.RedisFrame
namespace Gostatix.Redis

/-- the hash before an `HSET`: empty for an absent key. -/
def priorHash (s : Store) (k : String) : List (String × String) :=
  match s k with
  | some (.hash h) => h
  | _ => []

/-- the key is absent or holds a hash (so `HSET`/`HGETALL` do not fail with WRONGTYPE). -/
def HashOrAbsent (s : Store) (k : String) : Prop := s k = none ∨ ∃ h, s k = some (.hash h)

theorem cmdHSET_ok {s : Store} {k : String} (hs : HashOrAbsent s k) (fvs : List (String × String)) :
    cmdHSET k fvs s = (s.set k (.hash (hashSetAll (priorHash s k) fvs)), some ()) := by
  unfold cmdHSET priorHash
  rcases hs with h | ⟨h0, h⟩ <;> rw [h]

theorem cmdHGETALL_hash {s : Store} {k : String} {h : List (String × String)}
    (hs : s k = some (.hash h)) : cmdHGETALL k s = (s, some h) := by
  unfold cmdHGETALL; rw [hs]

theorem cmdHGETALL_congr {s s' : Store} {k : String} (e : s k = s' k) :
    (cmdHGETALL k s).2 = (cmdHGETALL k s').2 := by
  unfold cmdHGETALL; rw [e]; split <;> rfl

theorem hgetall_hset {s : Store} {k : String} (hs : HashOrAbsent s k) (fvs : List (String × String)) :
    (cmdHGETALL k (cmdHSET k fvs s).1).2 = some (hashSetAll (priorHash s k) fvs) := by
  rw [cmdHSET_ok hs, cmdHGETALL_hash (Store.set_self _ _ _)]

theorem hashSetAll_cons (h : List (String × String)) (f v : String) (fvs : List (String × String)) :
    hashSetAll h ((f, v) :: fvs) = hashSetAll (hashSet h f v) fvs := rfl

theorem hashSetAll_nil (h : List (String × String)) : hashSetAll h [] = h := rfl

theorem field_hashSet (h : List (String × String)) (f v f' : String) :
    field (hashSet h f v) f' = if f' = f then v else field h f' := by
  unfold field; rw [hashGet_hashSet]; split <;> rfl

/-- `NewRedisBloomFilterWithParameters` is the metadata `HSET` of the clamped handle, which it
    returns. -/
theorem bloomCreateRaw_eq (size numHashes : Nat) (bk mk : String) (s : Store)
    (hs : HashOrAbsent s mk) :
    bloomCreateRaw size numHashes bk mk s =
      ((bloomCreate ⟨max size 1, max numHashes 1, bk, mk⟩ s).1,
        some ⟨max size 1, max numHashes 1, bk, mk⟩) := by
  unfold bloomCreateRaw bloomCreate
  rw [Script.bind_apply, cmdHSET_ok hs]
  rfl

theorem bloomAttach_congr {s s' : Store} {k : String} (e : s k = s' k) :
    bloomAttach s k = bloomAttach s' k := by
  unfold bloomAttach; rw [cmdHGETALL_congr e]

theorem cuckooAttach_congr {s s' : Store} {k : String} (e : s k = s' k) :
    cuckooAttach s k = cuckooAttach s' k := by
  unfold cuckooAttach; rw [cmdHGETALL_congr e]

theorem cmsAttach_congr {s s' : Store} {k : String} (e : s k = s' k) :
    cmsAttach s k = cmsAttach s' k := by
  unfold cmsAttach; rw [cmdHGETALL_congr e]

theorem hllAttach_congr {s s' : Store} {k : String} (e : s k = s' k) :
    hllAttach s k = hllAttach s' k := by
  unfold hllAttach; rw [cmdHGETALL_congr e]

theorem topkAttach_congr {s s' : Store} {k : String} (e : s k = s' k)
    (e' : ∀ vals, (cmdHGETALL k s).2 = some vals →
      s (field vals "sketchKey") = s' (field vals "sketchKey")) :
    topkAttach s k = topkAttach s' k := by
  unfold topkAttach
  rw [← cmdHGETALL_congr e]
  cases hv : (cmdHGETALL k s).2 with
  | none => rfl
  | some vals => simp only; rw [cmsAttach_congr (e' vals hv)]

end Gostatix.Redis
