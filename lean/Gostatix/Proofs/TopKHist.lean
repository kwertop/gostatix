/-
  Gostatix.Proofs.TopKHist — lemmas about histories: `trueTotal`, `total`, `distinct`,
  the last estimate of an element, and the snoc forms of `EstOK` / `Exact`.
-/
import Gostatix.Model.TopKSpec
namespace Gostatix.TopK

variable {E : Type} [DecidableEq E]

theorem snocInd {α : Type} {P : List α → Prop} (nil : P [])
    (snoc : ∀ l a, P l → P (l ++ [a])) : ∀ l, P l := by
  intro l
  rw [← List.reverse_reverse l]
  induction l.reverse with
  | nil => exact nil
  | cons a t ih => rw [List.reverse_cons]; exact snoc _ _ ih

variable (evs : List (Event E)) (e : Event E) (y : E)

theorem trueTotal_append (a b : List (Event E)) (y : E) :
    trueTotal (a ++ b) y = trueTotal a y + trueTotal b y := by
  simp [trueTotal, List.filter_append, List.map_append, List.sum_append]

omit [DecidableEq E] in
theorem total_append (a b : List (Event E)) : total (a ++ b) = total a + total b := by
  simp [total, List.map_append, List.sum_append]

@[simp] theorem trueTotal_nil (y : E) : trueTotal ([] : List (Event E)) y = 0 := rfl
omit [DecidableEq E] in
@[simp] theorem total_nil : total ([] : List (Event E)) = 0 := rfl

theorem trueTotal_single :
    trueTotal [e] y = if e.x = y then e.c else 0 := by
  by_cases h : e.x = y <;> simp [trueTotal, h]

omit [DecidableEq E] in
theorem total_single : total [e] = e.c := by simp [total]

theorem trueTotal_snoc_self (evs : List (Event E)) (e : Event E) :
    trueTotal (evs ++ [e]) e.x = trueTotal evs e.x + e.c := by
  rw [trueTotal_append, trueTotal_single]; simp

theorem trueTotal_snoc_ne (h : e.x ≠ y) :
    trueTotal (evs ++ [e]) y = trueTotal evs y := by
  rw [trueTotal_append, trueTotal_single]; simp [h]

theorem trueTotal_le_total : trueTotal evs y ≤ total evs := by
  induction evs using snocInd with
  | nil => exact Nat.le_refl 0
  | snoc evs e ih =>
    rw [trueTotal_append, total_append, trueTotal_single, total_single]
    refine Nat.add_le_add ih ?_
    split
    · exact Nat.le_refl _
    · exact Nat.zero_le _

theorem trueTotal_le_snoc (evs : List (Event E)) (e : Event E) (y : E) :
    trueTotal evs y ≤ trueTotal (evs ++ [e]) y := by
  rw [trueTotal_append]; exact Nat.le_add_right _ _

omit [DecidableEq E] in
theorem total_le_snoc : total evs ≤ total (evs ++ [e]) := by
  rw [total_append]; exact Nat.le_add_right _ _

theorem mem_distinct (l : List E) (y : E) : y ∈ distinct l ↔ y ∈ l := by
  induction l with
  | nil => simp [distinct]
  | cons a l ih =>
    simp only [distinct]
    split
    · rename_i h
      rw [ih, List.mem_cons]
      constructor
      · exact Or.inr
      · rintro (rfl | h') <;> assumption
    · simp [ih]

theorem distinct_nodup (l : List E) : (distinct l).Nodup := by
  induction l with
  | nil => simp [distinct]
  | cons a l ih =>
    simp only [distinct]
    split
    · exact ih
    · rename_i h
      rw [List.nodup_cons]
      exact ⟨fun h' => h ((mem_distinct l a).1 h'), ih⟩

/-- the estimate carried by the last event of `y` in the history -/
def lastEst (evs : List (Event E)) (y : E) : Option Nat :=
  evs.foldl (fun acc e => if e.x = y then some e.f else acc) none

@[simp] theorem lastEst_nil (y : E) : lastEst ([] : List (Event E)) y = none := rfl

theorem lastEst_snoc :
    lastEst (evs ++ [e]) y = if e.x = y then some e.f else lastEst evs y := by
  simp [lastEst, List.foldl_append]

theorem lastEst_snoc_self :
    lastEst (evs ++ [e]) e.x = some e.f := by simp [lastEst_snoc]

theorem lastEst_snoc_ne (h : e.x ≠ y) :
    lastEst (evs ++ [e]) y = lastEst evs y := by simp [lastEst_snoc, h]

theorem lastEst_mem (g : Nat) :
    lastEst evs y = some g → ∃ e ∈ evs, e.x = y ∧ e.f = g := by
  induction evs using snocInd with
  | nil => simp
  | snoc evs e ih =>
    rw [lastEst_snoc]
    split
    · rename_i h
      intro hg
      exact ⟨e, by simp, h, by simpa using hg⟩
    · intro hg
      obtain ⟨e', he', h1, h2⟩ := ih hg
      exact ⟨e', by simp [he'], h1, h2⟩

theorem lastEst_of_mem (he : e ∈ evs) :
    ∃ g, lastEst evs e.x = some g := by
  induction evs using snocInd with
  | nil => cases he
  | snoc evs e' ih =>
    rw [lastEst_snoc]
    split
    · exact ⟨_, rfl⟩
    · rename_i h
      rcases List.mem_append.1 he with h' | h'
      · exact ih h'
      · simp at h'; subst h'; exact absurd rfl h

theorem forall_prefix_snoc {α : Type} (Q : List α → α → Prop) (l : List α) (a : α) :
    (∀ i (h : i < (l ++ [a]).length), Q ((l ++ [a]).take (i + 1)) (l ++ [a])[i]) ↔
      (∀ i (h : i < l.length), Q (l.take (i + 1)) l[i]) ∧ Q (l ++ [a]) a := by
  have hlast : l.length < (l ++ [a]).length := by simp
  have htake : (l ++ [a]).take (l.length + 1) = l ++ [a] := List.take_of_length_le (by simp)
  constructor
  · intro h
    refine ⟨fun i hi => ?_, ?_⟩
    · have := h i (Nat.lt_trans hi hlast)
      rwa [List.getElem_append_left hi, List.take_append_of_le_length hi] at this
    · have := h l.length hlast
      rwa [List.getElem_concat_length rfl, htake] at this
  · rintro ⟨h, ha⟩ i hi
    by_cases hlt : i < l.length
    · rw [List.getElem_append_left hlt, List.take_append_of_le_length hlt]
      exact h i hlt
    · have : i = l.length := by simp at hi; omega
      subst this
      rw [List.getElem_concat_length rfl, htake]
      exact ha

theorem forall_earlier_snoc {α : Type} (R : α → α → Prop) (l : List α) (a : α) :
    (∀ j (hj : j < (l ++ [a]).length) i (hi : i < j),
        R ((l ++ [a])[i]'(Nat.lt_trans hi hj)) (l ++ [a])[j]) ↔
      (∀ j (hj : j < l.length) i (hi : i < j), R (l[i]'(Nat.lt_trans hi hj)) l[j]) ∧
        ∀ b ∈ l, R b a := by
  have key : ∀ l : List α,
      (∀ j (hj : j < l.length) i (hi : i < j), R (l[i]'(Nat.lt_trans hi hj)) l[j]) ↔
        l.Pairwise R := fun l => by
    rw [List.pairwise_iff_getElem]
    exact ⟨fun h i j _ hj hij => h j hj i hij, fun h j hj i hi => h i j _ hj hi⟩
  rw [key, key, List.pairwise_append]
  simp

theorem estOK_snoc :
    EstOK (evs ++ [e]) ↔
      EstOK evs ∧ trueTotal (evs ++ [e]) e.x ≤ e.f ∧ e.f ≤ total (evs ++ [e]) ∧
      ∀ e' ∈ evs, e'.x = e.x → e'.f ≤ e.f := by
  unfold EstOK
  rw [forall_prefix_snoc (fun p e => trueTotal p e.x ≤ e.f ∧ e.f ≤ total p) evs e,
    forall_earlier_snoc (fun a b => a.x = b.x → a.f ≤ b.f) evs e]
  exact ⟨fun ⟨⟨a, b⟩, c, d⟩ => ⟨⟨a, c⟩, b.1, b.2, d⟩,
    fun ⟨⟨a, c⟩, b1, b2, d⟩ => ⟨⟨a, b1, b2⟩, c, d⟩⟩

theorem exact_snoc :
    Exact (evs ++ [e]) ↔ Exact evs ∧ e.f = trueTotal (evs ++ [e]) e.x :=
  forall_prefix_snoc (fun p e => e.f = trueTotal p e.x) evs e

/-- the last estimate of an element satisfies the Count-Min bounds w.r.t. the WHOLE history
    (later events of other elements do not change its true total and only raise the total). -/
theorem lastEst_bounds (evs : List (Event E)) (h : EstOK evs) (y : E) (g : Nat)
    (hg : lastEst evs y = some g) : trueTotal evs y ≤ g ∧ g ≤ total evs := by
  induction evs using snocInd with
  | nil => simp at hg
  | snoc evs e ih =>
    obtain ⟨h0, h1, h2, _⟩ := (estOK_snoc evs e).1 h
    rw [lastEst_snoc] at hg
    split at hg
    · rename_i hx
      subst hx
      have : e.f = g := by simpa using hg
      subst this
      exact ⟨h1, h2⟩
    · rename_i hx
      have := ih h0 hg
      rw [trueTotal_snoc_ne evs e y hx]
      exact ⟨this.1, Nat.le_trans this.2 (total_le_snoc evs e)⟩

theorem lastEst_exact (evs : List (Event E)) (h : Exact evs) (y : E) (g : Nat)
    (hg : lastEst evs y = some g) : g = trueTotal evs y := by
  induction evs using snocInd with
  | nil => simp at hg
  | snoc evs e ih =>
    obtain ⟨h0, h1⟩ := (exact_snoc evs e).1 h
    rw [lastEst_snoc] at hg
    split at hg
    · rename_i hx
      subst hx
      have : e.f = g := by simpa using hg
      rw [← this, h1]
    · rename_i hx
      rw [trueTotal_snoc_ne evs e y hx]
      exact ih h0 hg

theorem exact_estOK (h : Exact evs) : EstOK evs := by
  induction evs using snocInd with
  | nil => exact ⟨fun i hi => by simp at hi, fun j hj => by simp at hj⟩
  | snoc evs e ih =>
    obtain ⟨h0, h1⟩ := (exact_snoc evs e).1 h
    refine (estOK_snoc evs e).2 ⟨ih h0, Nat.le_of_eq h1.symm, ?_, ?_⟩
    · rw [h1]; exact trueTotal_le_total _ _
    · intro e' he' hx
      obtain ⟨i, hi, rfl⟩ := List.getElem_of_mem he'
      rw [h0 i hi, h1, hx]
      have hsplit : evs ++ [e] = evs.take (i + 1) ++ (evs.drop (i + 1) ++ [e]) := by
        rw [← List.append_assoc, List.take_append_drop]
      rw [hsplit, trueTotal_append]
      exact Nat.le_add_right _ _

end Gostatix.TopK
