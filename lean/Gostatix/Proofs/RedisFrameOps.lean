/-
  Gostatix.Proofs.RedisFrameOps — the scripts of the Redis-backed structures are supported on
  every key set that contains the keys they name (`supported_…_on`); the keys of the handle are
  such a set.  Of the metadata `HSET`s only the HyperLogLog and Bloom ones are framed here; the
  others are one-line instances of `supported_HSET` in Props/C19.lean and Props/C09Stable.lean.
-/
import Gostatix.Proofs.RedisFrame
import Gostatix.Proofs.RedisKeys
namespace Gostatix.Redis

theorem CMSHandle.rowKey_mem (h : CMSHandle) {r : Nat} (hr : r < h.rows) :
    cmsRowKey h.key r ∈ h.keysOf := by
  unfold CMSHandle.keysOf CMSHandle.descr
  refine List.mem_map.mpr ⟨KeyD.row h.key r, ?_, rfl⟩
  exact List.mem_cons_of_mem _ (List.mem_map.mpr ⟨r, List.mem_range.mpr hr, rfl⟩)

theorem CMSHandle.metadataKey_mem (h : CMSHandle) : h.metadataKey ∈ h.keysOf := by
  unfold CMSHandle.keysOf CMSHandle.descr
  exact List.mem_map.mpr ⟨KeyD.base h.metadataKey, List.mem_cons_self, rfl⟩

theorem HLLHandle.key_mem (h : HLLHandle) : h.key ∈ h.keysOf := by
  simp [HLLHandle.keysOf, HLLHandle.descr, KeyD.render]

theorem HLLHandle.metadataKey_mem (h : HLLHandle) : h.metadataKey ∈ h.keysOf := by
  simp [HLLHandle.keysOf, HLLHandle.descr, KeyD.render]

theorem BloomHandle.bitsetKey_mem (h : BloomHandle) : h.bitsetKey ∈ h.keysOf := by
  simp [BloomHandle.keysOf, BloomHandle.descr, KeyD.render]

theorem BloomHandle.metadataKey_mem (h : BloomHandle) : h.metadataKey ∈ h.keysOf := by
  simp [BloomHandle.keysOf, BloomHandle.descr, KeyD.render]

theorem CuckooHandle.metadataKey_mem (h : CuckooHandle) : h.metadataKey ∈ h.keysOf := by
  unfold CuckooHandle.keysOf CuckooHandle.descr
  exact List.mem_map.mpr
    ⟨KeyD.base h.metadataKey, List.mem_cons_of_mem _ List.mem_cons_self, rfl⟩

theorem CuckooHandle.bucketKey_mem (h : CuckooHandle) {i : Nat} (hi : i < h.n) :
    cuckooBucketKey h.key i ∈ h.keysOf := by
  unfold CuckooHandle.keysOf CuckooHandle.descr
  refine List.mem_map.mpr ⟨KeyD.bucket h.key i, ?_, rfl⟩
  exact List.mem_append_right _ (List.mem_append_left _ (List.mem_map.mpr ⟨i, List.mem_range.mpr hi, rfl⟩))

theorem CuckooHandle.lenKey_mem (h : CuckooHandle) {i : Nat} (hi : i < h.n) :
    cuckooBucketKey h.key i ++ "_len" ∈ h.keysOf := by
  unfold CuckooHandle.keysOf CuckooHandle.descr
  refine List.mem_map.mpr ⟨KeyD.blen h.key i, ?_, rfl⟩
  exact List.mem_append_right _ (List.mem_append_right _ (List.mem_map.mpr ⟨i, List.mem_range.mpr hi, rfl⟩))

theorem supported_cmsInitLoop (K : List String) (key : String) (cols : Nat) (r n : Nat)
    (hK : ∀ j, r ≤ j → j < r + n → cmsRowKey key j ∈ K) :
    SupportedOn K (cmsInitLoop key cols r n) := by
  induction n generalizing r with
  | zero => exact supported_pure K ()
  | succ n ih =>
    have hk : cmsRowKey key r ∈ K := hK r (Nat.le_refl _) (by omega)
    unfold cmsInitLoop
    refine supported_bind (supported_DEL hk) fun _ => ?_
    refine supported_bind (supported_LPUSH hk _) fun _ => ?_
    exact ih (r + 1) (fun j h1 h2 => hK j (by omega) (by omega))

theorem supported_cmsUpdateLoop (K : List String) (key : String) (count : Nat) (r : Nat)
    (cs : List Nat) (hK : ∀ j, r ≤ j → j < r + cs.length → cmsRowKey key j ∈ K) :
    SupportedOn K (cmsUpdateLoop key count r cs) := by
  induction cs generalizing r with
  | nil => exact supported_pure K ()
  | cons c cs ih =>
    have hk : cmsRowKey key r ∈ K := hK r (Nat.le_refl _) (by simp)
    unfold cmsUpdateLoop
    refine supported_bind (supported_LINDEX hk c) fun v => ?_
    refine supported_bind (supported_luaNumber K v) fun n => ?_
    refine supported_bind (supported_try (supported_LSET hk c _)) fun _ => ?_
    exact ih (r + 1) (fun j h1 h2 => hK j (by omega) (by simp at h2 ⊢; omega))

theorem supported_cmsCountLoop (K : List String) (key : String) (r : Nat) (cs : List Nat) (mn : Nat)
    (hK : ∀ j, r ≤ j → j < r + cs.length → cmsRowKey key j ∈ K) :
    SupportedOn K (cmsCountLoop key r cs mn) := by
  induction cs generalizing r mn with
  | nil => exact supported_pure K mn
  | cons c cs ih =>
    have hk : cmsRowKey key r ∈ K := hK r (Nat.le_refl _) (by simp)
    unfold cmsCountLoop
    refine supported_bind (supported_LINDEX hk c) fun v => ?_
    refine supported_bind (supported_luaNumber K v) fun n => ?_
    exact ih (r + 1) _ (fun j h1 h2 => hK j (by omega) (by simp at h2 ⊢; omega))

theorem supported_cmsAddVals (K : List String) (n : Nat) (l1 l2 : List String) :
    SupportedOn K (cmsAddVals n l1 l2) := by
  induction n generalizing l1 l2 with
  | zero => exact supported_pure K []
  | succ n ih =>
    unfold cmsAddVals
    refine supported_bind (supported_luaNumber K _) fun x => ?_
    refine supported_bind (supported_luaNumber K _) fun y => ?_
    refine supported_bind (ih _ _) fun rest => ?_
    exact supported_pure K _

theorem supported_cmsMergeLoop (K : List String) (key1 key2 : String) (cols : Nat) (r n : Nat)
    (hK1 : ∀ j, r ≤ j → j < r + n → cmsRowKey key1 j ∈ K)
    (hK2 : ∀ j, r ≤ j → j < r + n → cmsRowKey key2 j ∈ K) :
    SupportedOn K (cmsMergeLoop key1 key2 cols r n) := by
  induction n generalizing r with
  | zero => exact supported_pure K ()
  | succ n ih =>
    have hk1 : cmsRowKey key1 r ∈ K := hK1 r (Nat.le_refl _) (by omega)
    have hk2 : cmsRowKey key2 r ∈ K := hK2 r (Nat.le_refl _) (by omega)
    unfold cmsMergeLoop
    refine supported_bind (supported_LRANGE hk1) fun v1 => ?_
    refine supported_bind (supported_LRANGE hk2) fun v2 => ?_
    refine supported_bind (supported_cmsAddVals K _ _ _) fun v3 => ?_
    refine supported_bind (supported_DEL hk1) fun _ => ?_
    refine supported_bind (supported_RPUSH hk1 _) fun _ => ?_
    exact ih (r + 1) (fun j h1 h2 => hK1 j (by omega) (by omega))
      (fun j h1 h2 => hK2 j (by omega) (by omega))

theorem supported_cmsInit_on (K : List String) (h : CMSHandle)
    (hK : ∀ r, r < h.rows → cmsRowKey h.key r ∈ K) : SupportedOn K (cmsInit h) :=
  supported_cmsInitLoop _ _ _ _ _ (fun j _ hj => hK j (by omega))

theorem supported_cmsUpdate_on (K : List String) (h : CMSHandle) (pos : List Nat) (count : Nat)
    (hlen : pos.length ≤ h.rows) (hK : ∀ r, r < h.rows → cmsRowKey h.key r ∈ K) :
    SupportedOn K (cmsUpdate h pos count) :=
  supported_cmsUpdateLoop _ _ _ _ _ (fun j _ hj => hK j (by omega))

theorem supported_cmsCount_on (K : List String) (h : CMSHandle) (pos : List Nat)
    (hlen : pos.length ≤ h.rows) (hK : ∀ r, r < h.rows → cmsRowKey h.key r ∈ K) :
    SupportedOn K (cmsCount h pos) :=
  supported_cmsCountLoop _ _ _ _ _ (fun j _ hj => hK j (by omega))

/-- a merge touches the rows of both sketches (it reads the second, writes the first). -/
theorem supported_cmsMerge_on (K : List String) (h1 h2 : CMSHandle)
    (hK1 : ∀ r, r < h1.rows → cmsRowKey h1.key r ∈ K)
    (hK2 : ∀ r, r < h2.rows → cmsRowKey h2.key r ∈ K) : SupportedOn K (cmsMerge h1 h2) := by
  unfold cmsMerge
  split
  · exact supported_fail _
  · rename_i hr
    split
    · exact supported_fail _
    · apply supported_cmsMergeLoop
      · intro j _ hj; exact hK1 j (by omega)
      · intro j _ hj
        have : h1.rows = h2.rows := Decidable.not_not.mp hr
        exact hK2 j (by omega)

theorem supported_hllInit_on (K : List String) (h : HLLHandle) (hk : h.key ∈ K) :
    SupportedOn K (hllInit h) :=
  supported_bind (supported_LPUSH hk _) fun _ => supported_LPUSH hk _

theorem supported_hllUpdate_on (K : List String) (h : HLLHandle) (idx val : Nat) (hk : h.key ∈ K) :
    SupportedOn K (hllUpdate h idx val) :=
  supported_bind (supported_LINDEX hk _) fun _ =>
    supported_bind (supported_luaNumber _ _) fun _ => supported_LSET hk _ _

theorem supported_hllMergeVals (K : List String) (n : Nat) (l1 l2 : List String) :
    SupportedOn K (hllMergeVals n l1 l2) := by
  induction n generalizing l1 l2 with
  | zero => exact supported_pure K _
  | succ n ih =>
    unfold hllMergeVals
    refine supported_bind (supported_luaNumber K _) fun x => ?_
    refine supported_bind (supported_luaNumber K _) fun y => ?_
    refine supported_bind (ih _ _) fun rest => ?_
    exact supported_pure K _

theorem supported_hllMerge_on (K : List String) (h g : HLLHandle) (hk : h.key ∈ K) (gk : g.key ∈ K) :
    SupportedOn K (hllMerge h g) := by
  unfold hllMerge
  split
  · exact supported_fail _
  · unfold hllMergeScript
    refine supported_bind (supported_try (supported_LRANGE hk)) fun _ => ?_
    refine supported_bind (supported_try (supported_LRANGE gk)) fun _ => ?_
    refine supported_bind (supported_hllMergeVals _ _ _ _) fun _ => ?_
    refine supported_bind (supported_try (supported_DEL hk)) fun _ => ?_
    refine supported_bind (supported_try (supported_RPUSH hk _)) fun _ => ?_
    exact supported_pure _ _

theorem supported_hllEquals_on (K : List String) (h g : HLLHandle) (hk : h.key ∈ K) (gk : g.key ∈ K) :
    SupportedOn K (hllEquals h g) := by
  unfold hllEquals
  split
  · exact supported_pure _ _
  · refine supported_bind (supported_try (supported_LRANGE hk)) fun _ => ?_
    refine supported_bind (supported_try (supported_LRANGE gk)) fun _ => ?_
    exact supported_pure _ _

theorem supported_bloomInsertLoop (K : List String) (key : String) (hk : key ∈ K) (ps : List Nat) :
    SupportedOn K (bloomInsertLoop key ps) := by
  induction ps with
  | nil => exact supported_pure K ()
  | cons p ps ih =>
    unfold bloomInsertLoop
    exact supported_bind (supported_SETBIT hk p) fun _ => ih

theorem supported_bloomLookupLoop (K : List String) (key : String) (hk : key ∈ K) (ps : List Nat) :
    SupportedOn K (bloomLookupLoop key ps) := by
  induction ps with
  | nil => exact supported_pure K true
  | cons p ps ih =>
    unfold bloomLookupLoop
    refine supported_bind (supported_try (supported_GETBIT hk p)) fun b => ?_
    split
    · exact ih
    · exact supported_pure K false

theorem supported_hllCreate (h : HLLHandle) : SupportedOn h.keysOf (hllCreate h) :=
  supported_HSET h.metadataKey_mem _

theorem supported_bloomCreate (h : BloomHandle) : SupportedOn h.keysOf (bloomCreate h) :=
  supported_HSET h.metadataKey_mem _

end Gostatix.Redis
