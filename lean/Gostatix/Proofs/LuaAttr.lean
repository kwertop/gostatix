/-
  Gostatix.Proofs.LuaAttr — the two simp attributes under which Proofs/LuaCore.lean collects the equations that
  evaluate straight-line code of the interpreter of Model/Lua.lean.  What each set holds and which ties use which:
  header of Proofs/LuaCore.lean.
-/
import Lean.Meta.Tactic.Simp.RegisterCommand

/-- used through `luab_simp` / `lua_simp_hll`. -/
register_simp_attr lua_eval

/-- used through `lua_run`. -/
register_simp_attr lua_res
