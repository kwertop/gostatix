/-
  Gostatix.Proofs.LuaCMS — the Count-Min scripts of count_min_sketch_redis.go, as extracted into
  Generated/LuaScripts.lean, evaluated with the interpreter of Model/Lua.lean.  Per script: one lemma per loop body
  (evaluation with `lua_run` up to the results of the Redis commands, which are those of the store-level commands of
  Model/Redis.lean, so one case analysis serves script and hand model), then the loop, with the hand model's recursion as the invariant
  ("the model from the start = the model from round `j` on the current store").  Props/LuaCMS.lean puts the scripts
  together from these.
  An inner body appears in the evaluated outer body as a literal list, so the equation of an inner loop is applied with
  `erw` (it matches up to unfolding `initInner` etc.).
  Fuel: the interpreter spends one unit per level of syntax, so a body lemma asks for `f + K` with `K` any bound on the
  depth of its statements (20 for the flat bodies, `cols + 30`/`cols + 40` where an inner loop of `cols` rounds and an
  `unpack` follow); the loop rules turn that into `rounds + K + 1`, and the scripts' bounds add the statements around the loop.
-/
import Gostatix.Proofs.LuaCore
import Gostatix.Proofs.RedisCMSMerge
import Gostatix.Model.Equals
import Gostatix.Model.Json
namespace Gostatix.LuaCMS
open Gostatix.Lua Gostatix.Redis Gostatix.Generated.LuaScripts

variable {R : List Value → State → Prop}

/-! ## row keys -/

theorem checkNum_pred {r : Nat} (hr : r < numLimit) (s : State) :
    checkNum (((r + 1 : Nat) : Int) - 1) s = .ok (.num r) s := by
  rw [show ((r + 1 : Nat) : Int) - 1 = (r : Int) by omega]
  exact checkNum_ok (by omega) s

theorem append_decimal (key : String) (r : Nat) : key ++ decimal r = cmsRowKey key r := rfl

attribute [lua_res] append_decimal

/-! ## what the scripts read -/

def lindexO (st : Store) (k : String) (c : Nat) : Option (Option String) :=
  match st k with
  | none => some none
  | some (.list l) => some l[c]?
  | some _ => none

theorem cmdLINDEX_eq (k : String) (c : Nat) (st : Store) : cmdLINDEX k c st = (st, lindexO st k c) := by
  unfold cmdLINDEX lindexO
  cases st k with
  | none => rfl
  | some v => cases v <;> rfl

theorem lindexO_some {st : Store} {k : String} {c : Nat} {v : String} (h : lindexO st k c = some (some v)) :
    ∃ l, st k = some (.list l) ∧ l[c]? = some v := by
  unfold lindexO at h
  cases hk : st k with
  | none => rw [hk] at h; exact nomatch h
  | some val =>
    rw [hk] at h
    cases val with
    | list l => exact ⟨l, rfl, Option.some.inj h⟩
    | _ => exact nomatch h

theorem luaNumber_eq (a : Option String) (st : Store) : luaNumber a st = (st, a.bind parseDecimal) := by
  unfold luaNumber
  cases a with
  | none => rfl
  | some x => simp only [Option.bind_some]; cases parseDecimal x <;> rfl

/-- either script and hand model both read the number `n` and `n + count` stays exact in a float64, or both reject the
    entry (`tonumber` gives `nil`, so the script raises where the model fails).  What is excluded are the spellings
    only `tonumber` accepts (blanks, `0x…`, a sign). -/
def EntryAgrees (count : Nat) (v : String) : Prop :=
  (∃ n, parseDecimal v = some n ∧ n + count ≤ numLimit) ∨ (parseDecimal v = none ∧ luaToNumber v = .nil)

theorem EntryAgrees.bound {count : Nat} {v : String} (h : EntryAgrees count v) {n : Nat}
    (hp : parseDecimal v = some n) : n + count ≤ numLimit := by
  rcases h with ⟨n', hp', hn⟩ | ⟨hp', _⟩
  · rw [hp] at hp'; cases hp'; exact hn
  · rw [hp] at hp'; exact nomatch hp'

def optNum : Option Nat → Value
  | some x => .num (x : Int)
  | none => .nil

theorem tonumber_str {count : Nat} {v : String} (hag : EntryAgrees count v) (s : State)
    (h : envGet s.env "tonumber" = none) :
    callFn (.global "tonumber") [.str v] s = .ok [optNum (parseDecimal v)] s := by
  rw [callFn_tonumber_str v s h]
  rcases hag with ⟨n, hp, hn⟩ | ⟨hp, hl⟩
  · rw [luaToNumber_of_parseDecimal hp (by omega), hp]; rfl
  · rw [hl, hp]; rfl

theorem tonumber_bulk {count : Nat} (a : Option String) (hag : ∀ v, a = some v → EntryAgrees count v) (s : State)
    (h : envGet s.env "tonumber" = none) :
    callFn (.global "tonumber") [bulkValue a] s = .ok [optNum (a.bind parseDecimal)] s := by
  cases a with
  | none => exact callFn_tonumber_bool false s h
  | some v => exact tonumber_str (hag v rfl) s h

/-! ## KEYS of `Update` / `Count` -/

/-- `for r, c := range cms.getPositions(data) { keys = append(keys, FormatInt(r), FormatUint(c)) }` -/
def cmsPosKeysFrom : Nat → List Nat → List String
  | _, [] => []
  | r, c :: cs => decimal r :: decimal c :: cmsPosKeysFrom (r + 1) cs

def cmsPosKeys (pos : List Nat) : List String := cmsPosKeysFrom 0 pos

theorem cmsPosKeysFrom_length (r : Nat) (pos : List Nat) : (cmsPosKeysFrom r pos).length = 2 * pos.length := by
  induction pos generalizing r with
  | nil => rfl
  | cons c cs ih => simp only [cmsPosKeysFrom, List.length_cons, ih]; omega

theorem cmsPosKeysFrom_getD (pos : List Nat) : ∀ (r0 j c : Nat), pos[j]? = some c →
    ((cmsPosKeysFrom r0 pos).map Value.str).getD (2 * j) .nil = .str (decimal (r0 + j)) ∧
    ((cmsPosKeysFrom r0 pos).map Value.str).getD (2 * j + 1) .nil = .str (decimal c) := by
  induction pos with
  | nil => intro r0 j c h; simp at h
  | cons a cs ih =>
    intro r0 j c h
    cases j with
    | zero =>
      simp only [List.getElem?_cons_zero, Option.some.injEq] at h
      subst h
      exact ⟨rfl, rfl⟩
    | succ j =>
      simp only [List.getElem?_cons_succ] at h
      have := ih (r0 + 1) j c h
      have e : 2 * (j + 1) = 2 * j + 1 + 1 := by omega
      simp only [cmsPosKeysFrom, List.map_cons, e, List.getD_cons_succ]
      rw [show r0 + (j + 1) = r0 + 1 + j by omega]
      exact this

/-- round `j` of the loops of `Update` and `Count` (`for i=1, size-1, 2`, so `i = 1 + j * 2`).
    `next` is `i + 1` as the interpreter computes it (`checkNum`), in the form `lua_run` rewrites with. -/
structure KeysAt (KT : Table) (j c : Nat) : Prop where
  row : KT.get (.num (1 + (j : Int) * 2)) = .str (decimal j)
  next (s : State) : checkNum (1 + (j : Int) * 2 + 1) s = .ok (.num ((2 * j + 2 : Nat) : Int)) s
  col : KT.get (.num ((2 * j + 2 : Nat) : Int)) = .str (decimal c)
  le : c ≤ numLimit
  row_le : j ≤ numLimit

theorem keysAt (pos : List Nat) (j : Nat) (hj : j < pos.length) (hlen : 2 * pos.length < maxArrayIndex)
    (hc : pos[j] ≤ numLimit) : KeysAt { arr := (cmsPosKeys pos).map .str } j pos[j] := by
  have := cmsPosKeysFrom_getD pos 0 j pos[j] (List.getElem?_eq_getElem hj)
  rw [Nat.zero_add] at this
  have e1 : (1 + (j : Int) * 2) = ((2 * j + 1 : Nat) : Int) := by omega
  have e2 : (1 + (j : Int) * 2 + 1) = ((2 * j + 2 : Nat) : Int) := by omega
  refine ⟨?_, fun s => ?_, ?_, hc, by unfold maxArrayIndex at hlen; unfold numLimit; omega⟩
  · rw [e1, Table.get_num _ _ (by omega) (by omega)]
    exact this.1
  · rw [e2]
    exact checkNum_ok (by unfold maxArrayIndex at hlen; unfold numLimit; omega) s
  · rw [Table.get_num _ _ (by omega) (by omega)]
    exact this.2

/-! ## `Update` -/

/-- ```
    local row = cmsKey .. KEYS[i]
    local column = tonumber(KEYS[i+1])
    local val = redis.call('LINDEX', row, column)
    val = tonumber(val) + count
    redis.pcall('LSET', row, column, val)
    ``` -/
def updBody : Block := loopBody count_min_sketch_redis_updateLists 3

def updEnv (count : Nat) (key sz : String) : List (String × Value) :=
  [("count", .num count), ("cmsKey", .str key), ("size", .str sz)]

theorem cmdLSET_cases (k : String) (c : Nat) (v : String) (st : Store) :
    cmdLSET k c v st = (st, none) ∨
      ∃ st', cmdLSET k c v st = (st', some ()) ∧ ∀ k', k' ≠ k → st' k' = st k' := by
  unfold cmdLSET
  split
  · split
    · exact Or.inr ⟨_, rfl, fun k' hne => by simp only [Store.set, hne, if_false]⟩
    · exact Or.inl rfl
  · exact Or.inl rfl

theorem upd_body (key sz : String) (count : Nat) (KT AT : Table) (rest : List Table) (lg : List String)
    (j c : Nat) (st : Store) (hk : KeysAt KT j c)
    (hag : ∀ v, lindexO st (cmsRowKey key j) c = some (some v) → EntryAgrees count v)
    (f : Nat) (cs : List Nat) :
    Post (fun s' => ∃ rest' lg' st', s' = ⟨st', KT :: AT :: rest', updEnv count key sz, lg'⟩ ∧
          cmsUpdateLoop key count j (c :: cs) st = cmsUpdateLoop key count (j + 1) cs st' ∧
          ∀ k, k ≠ cmsRowKey key j → st' k = st k)
      R (fun s' => cmsUpdateLoop key count j (c :: cs) st = (s'.store, none))
      (inScope (do declare "i" (.num (1 + (j : Int) * 2)); execBlock (f + 20) updBody)
        ⟨st, KT :: AT :: rest, updEnv count key sz, lg⟩) := by
  have hmodel : cmsUpdateLoop key count j (c :: cs) st =
      (cmdLINDEX (cmsRowKey key j) c >>=ₛ fun v => luaNumber v >>=ₛ fun n =>
        Script.try_ (cmdLSET (cmsRowKey key j) c (decimal (n + count))) >>=ₛ fun _ =>
        cmsUpdateLoop key count (j + 1) cs) st := rfl
  rw [hmodel]
  simp only [Script.bind, cmdLINDEX_eq, luaNumber_eq, Script.try_]
  lua_run [updBody, count_min_sketch_redis_updateLists, updEnv, hk.row, hk.next, hk.col, luaToNumber_decimal hk.le,
    redisCall_LINDEX (hc := hk.le), cmdLINDEX_eq]
  -- script and model now branch on the same three things: what `LINDEX` gives (a wrong type raises in both), what the
  -- entry parses to (`nil + count` raises where `luaNumber` fails), and whether `LSET` succeeds (`pcall`: both go on)
  cases ho : lindexO st (cmsRowKey key j) c with
  | none => lua_run []
  | some a =>
    lua_run [tonumber_bulk a (fun v hv => hag v (hv ▸ ho))]
    cases hx : a.bind parseDecimal with
    | none => lua_run [optNum]
    | some n =>
      obtain ⟨v, rfl⟩ : ∃ v, a = some v := by cases a with | none => exact nomatch hx | some v => exact ⟨v, rfl⟩
      have hn : n + count ≤ numLimit := (hag v ho).bound hx
      have hsum : ((n + count : Nat) : Int).natAbs ≤ numLimit := by omega
      have esum : (n : Int) + (count : Int) = ((n + count : Nat) : Int) := by omega
      lua_run [optNum, checkNum_ok hsum, esum, redisCall_LSET (hc := hk.le)]
      rcases cmdLSET_cases (cmsRowKey key j) c (decimal (n + count)) st with hm | ⟨st', hm, hfr⟩
      · lua_run [hm]
        exact ⟨_, _, _, rfl, rfl, fun _ _ => rfl⟩
      · lua_run [hm, List.cons_append]
        exact ⟨_, _, _, rfl, rfl, hfr⟩

def UpdReadsAgree (key : String) (count : Nat) (pos : List Nat) (st : Store) : Prop :=
  ∀ r c l v, pos[r]? = some c → st (cmsRowKey key r) = some (.list l) → l[c]? = some v → EntryAgrees count v

theorem upd_loop (key sz : String) (count : Nat) (pos : List Nat) (AT : Table) (rest : List Table)
    (lg : List String) (st0 : Store) (hlen : 2 * pos.length < maxArrayIndex) (hpos : ∀ c ∈ pos, c ≤ numLimit)
    (hag : UpdReadsAgree key count pos st0) (F : Nat) (hF : pos.length + 20 + 1 ≤ F) :
    Post (fun s' => cmsUpdateLoop key count 0 pos st0 = (s'.store, some ()))
      R (fun s' => cmsUpdateLoop key count 0 pos st0 = (s'.store, none))
      (numForLoop F "i" 1 ((2 * pos.length : Nat) - 1 : Int) 2 updBody
        ⟨st0, { arr := (cmsPosKeys pos).map .str } :: AT :: rest, updEnv count key sz, lg⟩) := by
  refine numForLoop_post (x := "i") (body := updBody) (step := 2) (i0 := 1) (by decide) 20 pos.length
    (fun j s => ∃ st rest' lg', s = ⟨st, { arr := (cmsPosKeys pos).map .str } :: AT :: rest', updEnv count key sz, lg'⟩ ∧
      cmsUpdateLoop key count 0 pos st0 = cmsUpdateLoop key count j (pos.drop j) st ∧
      ∀ r, j ≤ r → st (cmsRowKey key r) = st0 (cmsRowKey key r))
    (by intro j hj; omega) (by omega) ?_ ?_ F _ hF ⟨st0, rest, lg, rfl, rfl, fun _ _ => rfl⟩
  · intro j hj s f ⟨st, rest', lg', hs, hM, hsame⟩
    subst hs
    have hc : pos[j]? = some pos[j] := List.getElem?_eq_getElem hj
    rw [List.drop_eq_getElem_cons hj] at hM
    refine (upd_body key sz count _ AT rest' lg' j pos[j] st (keysAt pos j hj hlen (hpos _ (List.getElem_mem hj)))
      (fun v hv => ?_) f (pos.drop (j + 1))).mono ?_ (fun _ _ h => h) (fun _ h => hM.trans h)
    · obtain ⟨l, hl, hv⟩ := lindexO_some hv
      exact hag j pos[j] l v hc (hsame j (Nat.le_refl j) ▸ hl) hv
    · intro s' ⟨rest'', lg'', st', hs, hM', hother⟩
      refine ⟨st', rest'', lg'', hs, hM.trans hM', fun r hr => ?_⟩
      rw [hother _ (fun e => by have := cmsRowKey_inj e; omega)]
      exact hsame r (by omega)
  · intro s ⟨st, rest', lg', hs, hM, _⟩
    rw [hM, hs, List.drop_length]
    rfl

/-! ## `Count` -/

/-- ```
    local row = cmsKey .. KEYS[i]
    local column = tonumber(KEYS[i+1])
    local val = redis.call('LINDEX', row, column)
    local count = tonumber(val)
    if count < min or tonumber(KEYS[i]) == 0 then min = count end
    ``` -/
def cntBody : Block := loopBody count_min_sketch_redis_countLists 3

def cntEnv (mn : Nat) (key sz : String) : List (String × Value) :=
  [("min", .num mn), ("cmsKey", .str key), ("size", .str sz)]

theorem cnt_body (key sz : String) (mn : Nat) (KT AT : Table) (rest : List Table) (lg : List String)
    (j c : Nat) (st : Store) (hk : KeysAt KT j c)
    (hag : ∀ v, lindexO st (cmsRowKey key j) c = some (some v) → EntryAgrees 0 v)
    (f : Nat) (cs : List Nat) :
    Post (fun s' => ∃ lg' mn', s' = ⟨st, KT :: AT :: rest, cntEnv mn' key sz, lg'⟩ ∧
          cmsCountLoop key j (c :: cs) mn st = cmsCountLoop key (j + 1) cs mn' st)
      R (fun s' => s'.store = st ∧ cmsCountLoop key j (c :: cs) mn st = (st, none))
      (inScope (do declare "i" (.num (1 + (j : Int) * 2)); execBlock (f + 20) cntBody)
        ⟨st, KT :: AT :: rest, cntEnv mn key sz, lg⟩) := by
  have hmodel : cmsCountLoop key j (c :: cs) mn st =
      (cmdLINDEX (cmsRowKey key j) c >>=ₛ fun v => luaNumber v >>=ₛ fun n =>
        cmsCountLoop key (j + 1) cs (if n < mn ∨ j = 0 then n else mn)) st := rfl
  rw [hmodel]
  simp only [Script.bind, cmdLINDEX_eq, luaNumber_eq]
  lua_run [cntBody, count_min_sketch_redis_countLists, cntEnv, hk.row, hk.next, hk.col, luaToNumber_decimal hk.le,
    redisCall_LINDEX (hc := hk.le), cmdLINDEX_eq]
  cases ho : lindexO st (cmsRowKey key j) c with
  | none => lua_run [and_self]
  | some a =>
    lua_run [tonumber_bulk a (fun v hv => hag v (hv ▸ ho))]
    cases hx : a.bind parseDecimal with
    | none => lua_run [optNum, and_self]
    | some n =>
      by_cases hlt : n < mn
      · have hlt' : (n : Int) < (mn : Int) := by omega
        lua_run [optNum, hlt', hlt, true_or]
        exact ⟨_, n, rfl, rfl⟩
      · have hlt' : ¬ (n : Int) < (mn : Int) := by omega
        lua_run [optNum, hlt', hlt, false_or, hk.row, luaToNumber_decimal hk.row_le, Value.num.injEq, Int.natCast_eq_zero]
        by_cases hj0 : j = 0
        · lua_run [hj0]
          exact ⟨_, n, rfl, rfl⟩
        · lua_run [hj0]
          exact ⟨_, mn, rfl, rfl⟩

def CntReadsAgree (key : String) (pos : List Nat) (st : Store) : Prop :=
  ∀ r c l v, pos[r]? = some c → st (cmsRowKey key r) = some (.list l) → l[c]? = some v → EntryAgrees 0 v

theorem cnt_loop (key sz : String) (pos : List Nat) (AT : Table) (rest : List Table)
    (lg : List String) (st0 : Store) (hlen : 2 * pos.length < maxArrayIndex) (hpos : ∀ c ∈ pos, c ≤ numLimit)
    (hag : CntReadsAgree key pos st0) (F : Nat) (hF : pos.length + 20 + 1 ≤ F) :
    Post (fun s' => ∃ mn lg', s' = ⟨st0, { arr := (cmsPosKeys pos).map .str } :: AT :: rest, cntEnv mn key sz, lg'⟩ ∧
          cmsCountLoop key 0 pos 0 st0 = (st0, some mn))
      R (fun s' => s'.store = st0 ∧ cmsCountLoop key 0 pos 0 st0 = (st0, none))
      (numForLoop F "i" 1 ((2 * pos.length : Nat) - 1 : Int) 2 cntBody
        ⟨st0, { arr := (cmsPosKeys pos).map .str } :: AT :: rest, cntEnv 0 key sz, lg⟩) := by
  refine numForLoop_post (x := "i") (body := cntBody) (step := 2) (i0 := 1) (by decide) 20 pos.length
    (fun j s => ∃ mn lg', s = ⟨st0, { arr := (cmsPosKeys pos).map .str } :: AT :: rest, cntEnv mn key sz, lg'⟩ ∧
      cmsCountLoop key 0 pos 0 st0 = cmsCountLoop key j (pos.drop j) mn st0)
    (by intro j hj; omega) (by omega) ?_ ?_ F _ hF ⟨0, lg, rfl, rfl⟩
  · intro j hj s f ⟨mn, lg', hs, hM⟩
    subst hs
    have hc : pos[j]? = some pos[j] := List.getElem?_eq_getElem hj
    rw [List.drop_eq_getElem_cons hj] at hM
    refine (cnt_body key sz mn _ AT rest lg' j pos[j] st0 (keysAt pos j hj hlen (hpos _ (List.getElem_mem hj)))
      (fun v hv => ?_) f (pos.drop (j + 1))).mono ?_ (fun _ _ h => h) (fun _ h => ⟨h.1, hM.trans h.2⟩)
    · obtain ⟨l, hl, hv⟩ := lindexO_some hv
      exact hag j pos[j] l v hc hl hv
    · intro s' ⟨lg'', mn', hs, hM'⟩
      exact ⟨mn', lg'', hs, hM.trans hM'⟩
  · intro s ⟨mn, lg', hs, hM⟩
    rw [List.drop_length] at hM
    exact ⟨mn, lg', hs, hM⟩

/-! ## `initMatrix` -/

/-- ```
    local rowKey = key .. tostring(i - 1)
    redis.call('DEL', rowKey)
    local list = {}
    for j=1, tonumber(columns) do list[j] = 0 end
    redis.call('LPUSH', rowKey, unpack(list))
    ``` -/
def initBody : Block := loopBody count_min_sketch_redis_initMatrixRedis 3

def initInner : Block := loopBody initBody 3

def initEnv (key rows cols : String) : List (String × Value) :=
  [("columns", .str cols), ("rows", .str rows), ("key", .str key)]

def initEnvIn (id : Nat) (rk : String) (i : Int) (key rows cols : String) : List (String × Value) :=
  ("list", .table id) :: ("rowKey", .str rk) :: ("i", .num i) :: initEnv key rows cols

theorem init_inner (st : Store) (H : List Table) (rk : String) (i : Int) (key rows cols : String) (lg : List String)
    (n : Nat) (hn : n + 1 < maxArrayIndex) (F : Nat) (hF : n + 6 ≤ F) :
    numForLoop F "j" 1 (n : Int) 1 initInner ⟨st, H ++ [{ arr := [] }], initEnvIn H.length rk i key rows cols, lg⟩ =
      .ok none ⟨st, H ++ [{ arr := List.replicate n (.num 0) }], initEnvIn H.length rk i key rows cols, lg⟩ := by
  refine Post.eq (numForLoop_count (x := "j") (body := initInner) 4 n
    (fun k s => s = ⟨st, H ++ [{ arr := List.replicate k (.num 0) }], initEnvIn H.length rk i key rows cols, lg⟩)
    ?_ (fun _ h => h) F _ (by omega) rfl)
  intro k hk s f hP
  subst hP
  rw [show ((k + 1 : Nat) : Int) = (((List.replicate k (Value.num 0)).length + 1 : Nat) : Int) by
    rw [List.length_replicate]]
  lua_run [initInner, initBody, count_min_sketch_redis_initMatrixRedis, initEnvIn, initEnv, getD_append_length, set_append_length]
  rw [Table.set_push _ _ _ (by rw [List.length_replicate]; omega), ← List.replicate_succ']

theorem cmdArgs_replicate_zero (n : Nat) :
    cmdArgs (List.replicate n (Value.num 0)) = some (List.replicate n (decimal 0)) := by
  induction n with
  | zero => rfl
  | succ n ih => rw [List.replicate_succ, cmdArgs_num, ih]; rfl

theorem unpack_replicate (n : Nat) (v : Value) :
    (List.range n).map (fun i => (List.replicate n v).getD i .nil) = List.replicate n v := by
  have := unpack_eq (List.replicate n v)
  rwa [List.length_replicate] at this

theorem len_replicate_zero (n : Nat) : (⟨List.replicate n (.num 0), []⟩ : Table).len = n := by
  rw [Table.len_of_no_nil, List.length_replicate]
  intro v hv
  rw [List.eq_of_mem_replicate hv]
  exact fun h => nomatch h

theorem cmdLPUSH_fail {k : String} {vs : List String} {st st' : Store} (h : cmdLPUSH k vs st = (st', none)) :
    st' = st := by
  unfold cmdLPUSH at h
  split at h
  · exact (congrArg Prod.fst h).symm
  · split at h
    · exact nomatch (congrArg Prod.snd h)
    · exact nomatch (congrArg Prod.snd h)
    · exact (congrArg Prod.fst h).symm

theorem cmdRPUSH_fail {k : String} {vs : List String} {st st' : Store} (h : cmdRPUSH k vs st = (st', none)) :
    st' = st := by
  unfold cmdRPUSH at h
  split at h
  · exact (congrArg Prod.fst h).symm
  · split at h
    · exact nomatch (congrArg Prod.snd h)
    · exact nomatch (congrArg Prod.snd h)
    · exact (congrArg Prod.fst h).symm

theorem init_body (key : String) (rows cols : Nat) (H : List Table) (lg : List String) (r : Nat) (st : Store)
    (hcols : cols ≤ unpackSafe) (hr : r < numLimit) (f n : Nat) :
    Post (fun s' => ∃ H' lg' st', s' = ⟨st', H', initEnv key (decimal rows) (decimal cols), lg'⟩ ∧
          cmsInitLoop key cols r (n + 1) st = cmsInitLoop key cols (r + 1) n st')
      R (fun s' => cmsInitLoop key cols r (n + 1) st = (s'.store, none))
      (inScope (do declare "i" (.num ((r + 1 : Nat) : Int)); execBlock (f + (cols + 30)) initBody)
        ⟨st, H, initEnv key (decimal rows) (decimal cols), lg⟩) := by
  have e0 : f + (cols + 30) = f + cols + 30 := by omega
  have hcl : cols ≤ numLimit := by unfold unpackSafe at hcols; unfold numLimit; omega
  have hmodel : cmsInitLoop key cols r (n + 1) st =
      (cmdDEL (cmsRowKey key r) >>=ₛ fun _ =>
        cmdLPUSH (cmsRowKey key r) (List.replicate cols (decimal 0)) >>=ₛ fun _ =>
        cmsInitLoop key cols (r + 1) n) st := rfl
  rw [hmodel, e0]
  simp only [Script.bind, cmdDEL]
  lua_run [initBody, count_min_sketch_redis_initMatrixRedis, initEnv, checkNum_pred hr, cmdDEL, luaToNumber_decimal hcl]
  have hin := init_inner (st.del (cmsRowKey key r)) H (cmsRowKey key r) ((r + 1 : Nat) : Int)
    key (decimal rows) (decimal cols) (cmsRowKey key r :: lg) cols
    (by unfold unpackSafe at hcols; unfold maxArrayIndex; omega) (f + cols + 25) (by omega)
  simp only [initEnvIn, initEnv] at hin
  erw [hin]
  lua_run [getD_append_length, len_replicate_zero, hcols, unpack_replicate,
    redisCall_LPUSH (h := cmdArgs_replicate_zero cols)]
  cases hm : cmdLPUSH (cmsRowKey key r) (List.replicate cols (decimal 0)) (st.del (cmsRowKey key r)) with
  | mk st' o =>
    cases o with
    | none => lua_run []; rw [cmdLPUSH_fail hm]
    | some u => lua_run []; exact ⟨_, _, _, rfl, rfl⟩

theorem init_loop (key : String) (rows cols : Nat) (H : List Table) (lg : List String) (st0 : Store)
    (hcols : cols ≤ unpackSafe) (hrows : rows ≤ numLimit) (F : Nat) (hF : rows + (cols + 30) + 1 ≤ F) :
    Post (fun s' => cmsInitLoop key cols 0 rows st0 = (s'.store, some ()))
      R (fun s' => cmsInitLoop key cols 0 rows st0 = (s'.store, none))
      (numForLoop F "i" 1 (rows : Int) 1 initBody ⟨st0, H, initEnv key (decimal rows) (decimal cols), lg⟩) := by
  refine numForLoop_count (x := "i") (body := initBody) (cols + 30) rows
    (fun j s => ∃ st H' lg', s = ⟨st, H', initEnv key (decimal rows) (decimal cols), lg'⟩ ∧
      cmsInitLoop key cols 0 rows st0 = cmsInitLoop key cols j (rows - j) st)
    ?_ ?_ F _ hF ⟨st0, H, lg, rfl, rfl⟩
  · intro j hj s f ⟨st, H', lg', hs, hM⟩
    subst hs
    rw [show rows - j = rows - (j + 1) + 1 by omega] at hM
    exact (init_body key rows cols H' lg' j st hcols (by omega) f (rows - (j + 1))).mono
      (fun s' ⟨H'', lg'', st', hs, hM'⟩ => ⟨st', H'', lg'', hs, hM.trans hM'⟩) (fun _ _ h => h)
      (fun _ h => hM.trans h)
  · intro s ⟨st, H', lg', hs, hM⟩
    rw [hM, hs, Nat.sub_self]
    rfl

theorem init_body_overflow (key : String) (rows cols : Nat) (H : List Table) (lg : List String) (st : Store)
    (hcols : unpackOverflow ≤ cols) (hcols' : cols + 1 < maxArrayIndex) (f : Nat) :
    ∃ s', inScope (do declare "i" (.num 1); execBlock (f + cols + 30) initBody)
        ⟨st, H, initEnv key (decimal rows) (decimal cols), lg⟩ = .error "registry overflow" s' ∧
      s'.store = st.del (cmsRowKey key 0) := by
  have hcl : cols ≤ numLimit := by unfold maxArrayIndex at hcols'; unfold numLimit; omega
  have hns : ¬ cols ≤ unpackSafe := by unfold unpackSafe; unfold unpackOverflow at hcols; omega
  have h0 : ((1 : Int) - 1).natAbs ≤ numLimit := by decide
  have hrow : key ++ renderInt ((1 : Int) - 1) = cmsRowKey key 0 := rfl
  lua_run [initBody, count_min_sketch_redis_initMatrixRedis, initEnv, checkNum_ok h0, hrow, cmdDEL, luaToNumber_decimal hcl]
  have hin := init_inner (st.del (cmsRowKey key 0)) H (cmsRowKey key 0) 1
    key (decimal rows) (decimal cols) (cmsRowKey key 0 :: lg) cols hcols' (f + cols + 25) (by omega)
  simp only [initEnvIn, initEnv] at hin
  erw [hin]
  lua_run [getD_append_length, len_replicate_zero, hns, ge_iff_le, hcols]
  exact ⟨_, rfl, rfl⟩

/-! ## `mergeMatrix` -/

theorem tonumber_entry (l : List String) (k : Nat) (s : State)
    (hag : ∀ v, l[k]? = some v → EntryAgrees 0 v) (h : envGet s.env "tonumber" = none) :
    callFn (.global "tonumber") [(l.map Value.str).getD k .nil] s = .ok [optNum (l[k]?.bind parseDecimal)] s := by
  rw [getD_map_str]
  cases hv : l[k]? with
  | none => exact callFn_tonumber_nil s h
  | some v => exact tonumber_str (hag v hv) s h

/-- the sums `cmsAddVals` computes, by position: entries `k … k + m - 1` of the two rows. -/
def addNumsFrom (l1 l2 : List String) : Nat → Nat → Option (List Nat)
  | _, 0 => some []
  | k, m + 1 =>
    match l1[k]?.bind parseDecimal, l2[k]?.bind parseDecimal with
    | some x, some y => (addNumsFrom l1 l2 (k + 1) m).map ((x + y) :: ·)
    | _, _ => none

theorem cmsAddVals_drop (l1 l2 : List String) (s : Store) : ∀ (m k : Nat),
    cmsAddVals m (l1.drop k) (l2.drop k) s = (s, (addNumsFrom l1 l2 k m).map (·.map decimal)) := by
  intro m
  induction m with
  | zero => intro k; rfl
  | succ m ih =>
    intro k
    unfold cmsAddVals addNumsFrom
    simp only [List.head?_drop, List.tail_drop, Script.bind, luaNumber_eq]
    cases l1[k]?.bind parseDecimal with
    | none => rfl
    | some x =>
      cases l2[k]?.bind parseDecimal with
      | none => rfl
      | some y =>
        simp only [ih (k + 1)]
        cases addNumsFrom l1 l2 (k + 1) m <;> rfl

theorem cmsAddVals_eq (l1 l2 : List String) (s : Store) (m : Nat) :
    cmsAddVals m l1 l2 s = (s, (addNumsFrom l1 l2 0 m).map (·.map decimal)) :=
  cmsAddVals_drop l1 l2 s m 0

def MergeRowAgree (cols : Nat) (l1 l2 : List String) : Prop :=
  ∀ k, k < cols → (∀ v, l1[k]? = some v → EntryAgrees 0 v) ∧ (∀ v, l2[k]? = some v → EntryAgrees 0 v) ∧
    (∀ x y, l1[k]?.bind parseDecimal = some x → l2[k]?.bind parseDecimal = some y → x + y ≤ numLimit)

/-- ```
    local rowKey1 = key1 .. tostring(i - 1)
    local vals1 = redis.call('LRANGE', rowKey1, 0, -1)
    local rowKey2 = key2 .. tostring(i - 1)
    local vals2 = redis.call('LRANGE', rowKey2, 0, -1)
    local vals3 = {}
    for j=1, tonumber(columns) do vals3[j] = tonumber(vals1[j]) + tonumber(vals2[j]) end
    redis.call('DEL', rowKey1)
    redis.call('RPUSH', rowKey1, unpack(vals3))
    ``` -/
def mergeBody : Block := loopBody count_min_sketch_redis_mergeMatrixScript 4

def mergeInner : Block := loopBody mergeBody 5

def mergeEnv (key1 key2 : String) (rows cols : Nat) : List (String × Value) :=
  [("columns", .num cols), ("rows", .num rows), ("key2", .str key2), ("key1", .str key1)]

def mergeEnvIn (id : Nat) (rk1 rk2 : String) (i : Int) (key1 key2 : String) (rows cols : Nat) :
    List (String × Value) :=
  ("vals3", .table (id + 2)) :: ("vals2", .table (id + 1)) :: ("rowKey2", .str rk2) :: ("vals1", .table id) ::
    ("rowKey1", .str rk1) :: ("i", .num i) :: mergeEnv key1 key2 rows cols

def numTable (nums : List Nat) : Table := { arr := nums.map fun n : Nat => Value.num (n : Int) }

theorem merge_inner (st : Store) (H : List Table) (rk1 rk2 : String) (i : Int) (key1 key2 : String)
    (rows cols : Nat) (lg : List String) (l1 l2 : List String) (hag : MergeRowAgree cols l1 l2)
    (hn : cols + 1 < maxArrayIndex) (F : Nat) (hF : cols + 12 ≤ F) :
    Post (fun s' => ∃ nums, addNumsFrom l1 l2 0 cols = some nums ∧ nums.length = cols ∧
          s' = ⟨st, H ++ [{ arr := l1.map .str }, { arr := l2.map .str }, numTable nums],
            mergeEnvIn H.length rk1 rk2 i key1 key2 rows cols, lg⟩)
      R (fun s' => s'.store = st ∧ addNumsFrom l1 l2 0 cols = none)
      (numForLoop F "j" 1 (cols : Int) 1 mergeInner
        ⟨st, H ++ [{ arr := l1.map .str }, { arr := l2.map .str }, { arr := [] }],
          mergeEnvIn H.length rk1 rk2 i key1 key2 rows cols, lg⟩) := by
  refine numForLoop_count (x := "j") (body := mergeInner) 10 cols
    (fun k s => ∃ nums, nums.length = k ∧
      s = ⟨st, H ++ [{ arr := l1.map .str }, { arr := l2.map .str }, numTable nums],
          mergeEnvIn H.length rk1 rk2 i key1 key2 rows cols, lg⟩ ∧
      addNumsFrom l1 l2 0 cols = (addNumsFrom l1 l2 k (cols - k)).map (nums ++ ·))
    ?_ ?_ F _ (by omega) ⟨[], rfl, rfl, ?_⟩
  · intro k hk s f ⟨nums, hlen, hs, hM⟩
    subst hs
    obtain ⟨ha1, ha2, hsum⟩ := hag k hk
    have hk1 : k + 1 < maxArrayIndex := by omega
    rw [show cols - k = cols - (k + 1) + 1 by omega, addNumsFrom] at hM
    lua_run [mergeInner, mergeBody, count_min_sketch_redis_mergeMatrixScript, mergeEnvIn, mergeEnv, numTable, getD_append_length, getD_append_length1,
      Table.get_num _ _ (Nat.le_add_left 1 k) hk1, tonumber_entry l1 k _ ha1, tonumber_entry l2 k _ ha2]
    cases hx : l1[k]?.bind parseDecimal with
    | none =>
      rw [hx] at hM
      cases l2[k]?.bind parseDecimal <;> lua_run [optNum] <;> exact ⟨trivial, hM⟩
    | some x =>
      cases hy : l2[k]?.bind parseDecimal with
      | none =>
        rw [hx, hy] at hM
        lua_run [optNum]
        exact ⟨trivial, hM⟩
      | some y =>
        rw [hx, hy] at hM
        have hs := hsum x y hx hy
        have hsum' : ((x + y : Nat) : Int).natAbs ≤ numLimit := by omega
        have esum : (x : Int) + (y : Int) = ((x + y : Nat) : Int) := by omega
        have hpush := Table.set_push (nums.map fun n : Nat => Value.num (n : Int)) [] (.num ((x + y : Nat) : Int))
          (by rw [List.length_map, hlen]; omega)
        rw [List.length_map, hlen] at hpush
        lua_run [optNum, esum, checkNum_ok hsum', getD_append_length2, set_append_length2, hpush]
        refine ⟨nums ++ [x + y], by rw [List.length_append, hlen]; rfl, ?_, ?_⟩
        · simp only [List.map_append, List.map_cons, List.map_nil]
        · rw [hM, Option.map_map]
          congr 1
          funext rest
          simp
  · intro s ⟨nums, hlen, hs, hM⟩
    rw [Nat.sub_self] at hM
    refine ⟨nums, ?_, hlen, hs⟩
    rw [hM]; simp [addNumsFrom]
  · simp

def lrangeO (st : Store) (k : String) : Option (List String) :=
  match st k with
  | none => some []
  | some (.list l) => some l
  | some _ => none

/-- the list at a key (`[]` when there is none, or no list): `lrangeO` without the `Option`, so that `MergeRowAgree` can
    speak of the two rows of a round whether or not `LRANGE` succeeds on them. -/
def rowList (st : Store) (k : String) : List String :=
  match st k with
  | some (.list l) => l
  | _ => []

theorem rowList_of_list {st : Store} {k : String} {l : List String} (h : st k = some (.list l)) :
    rowList st k = l := by
  unfold rowList; rw [h]

theorem cmdLRANGE_eq (k : String) (st : Store) : cmdLRANGE k st = (st, lrangeO st k) := by
  unfold cmdLRANGE lrangeO
  cases st k with
  | none => rfl
  | some v => cases v <;> rfl

theorem rowList_of_lrangeO {st : Store} {k : String} {l : List String} (h : lrangeO st k = some l) :
    rowList st k = l := by
  unfold lrangeO at h
  unfold rowList
  cases hk : st k with
  | none => rw [hk] at h; exact Option.some.inj h
  | some v =>
    rw [hk] at h
    cases v with
    | list l' => exact Option.some.inj h
    | _ => exact nomatch h

def cmsMergeStep (key1 key2 : String) (cols r : Nat) : Script Unit :=
  cmdLRANGE (cmsRowKey key1 r) >>=ₛ fun vals1 =>
  cmdLRANGE (cmsRowKey key2 r) >>=ₛ fun vals2 =>
  cmsAddVals cols vals1 vals2 >>=ₛ fun vals3 =>
  cmdDEL (cmsRowKey key1 r) >>=ₛ fun _ =>
  cmdRPUSH (cmsRowKey key1 r) vals3

theorem cmsMergeStep_eq (key1 key2 : String) (cols r : Nat) (st : Store) :
    cmsMergeStep key1 key2 cols r st =
      (match lrangeO st (cmsRowKey key1 r) with
       | none => (st, none)
       | some l1 =>
         match lrangeO st (cmsRowKey key2 r) with
         | none => (st, none)
         | some l2 =>
           match addNumsFrom l1 l2 0 cols with
           | some nums => cmdRPUSH (cmsRowKey key1 r) (nums.map decimal) (st.del (cmsRowKey key1 r))
           | none => (st, none)) := by
  cases h1 : lrangeO st (cmsRowKey key1 r) with
  | none => simp only [cmsMergeStep, Script.bind, cmdLRANGE_eq, h1]
  | some l1 =>
    cases h2 : lrangeO st (cmsRowKey key2 r) with
    | none => simp only [cmsMergeStep, Script.bind, cmdLRANGE_eq, h1, h2]
    | some l2 =>
      simp only [cmsMergeStep, Script.bind, cmdLRANGE_eq, h1, h2, cmsAddVals_eq]
      cases addNumsFrom l1 l2 0 cols <;> rfl

theorem len_numTable (nums : List Nat) : (numTable nums).len = nums.length := by
  unfold numTable
  rw [Table.len_of_no_nil, List.length_map]
  intro v hv
  obtain ⟨n, _, rfl⟩ := List.mem_map.mp hv
  exact fun h => nomatch h

theorem merge_body (key1 key2 : String) (rows cols : Nat) (H : List Table) (lg : List String) (r : Nat)
    (st : Store) (hcols : cols ≤ unpackSafe) (hr : r < numLimit)
    (hag : MergeRowAgree cols (rowList st (cmsRowKey key1 r)) (rowList st (cmsRowKey key2 r))) (f : Nat) :
    Post (fun s' => ∃ H' lg', s' = ⟨(cmsMergeStep key1 key2 cols r st).1, H', mergeEnv key1 key2 rows cols, lg'⟩ ∧
          (cmsMergeStep key1 key2 cols r st).2 = some ())
      R (fun s' => s'.store = (cmsMergeStep key1 key2 cols r st).1 ∧ (cmsMergeStep key1 key2 cols r st).2 = none)
      (inScope (do declare "i" (.num ((r + 1 : Nat) : Int)); execBlock (f + (cols + 40)) mergeBody)
        ⟨st, H, mergeEnv key1 key2 rows cols, lg⟩) := by
  have e0 : f + (cols + 40) = f + cols + 40 := by omega
  rw [e0]
  lua_run [mergeBody, count_min_sketch_redis_mergeMatrixScript, mergeEnv, checkNum_pred hr, cmdLRANGE_eq]
  cases hl1 : lrangeO st (cmsRowKey key1 r) with
  | none => lua_run [cmsMergeStep_eq, hl1, and_self]
  | some l1 =>
    lua_run [checkNum_pred hr, cmdLRANGE_eq]
    cases hl2 : lrangeO st (cmsRowKey key2 r) with
    | none => lua_run [cmsMergeStep_eq, hl1, hl2, and_self]
    | some l2 =>
      lua_run [List.append_assoc, List.cons_append, List.nil_append, List.length_append]
      rw [rowList_of_lrangeO hl1, rowList_of_lrangeO hl2] at hag
      refine Post.leave (Post.next ((merge_inner st H (cmsRowKey key1 r) (cmsRowKey key2 r) ((r + 1 : Nat) : Int)
        key1 key2 rows cols (cmsRowKey key2 r :: cmsRowKey key1 r :: lg) l1 l2 hag
        (by unfold unpackSafe at hcols; unfold maxArrayIndex; omega) (f + cols + 33) (by omega)).mono
        ?_ (fun _ _ h => h) ?_))
      · intro s' ⟨nums, hadd, hlen, hs⟩
        subst hs
        have hun : (List.range cols).map (fun i => (numTable nums).arr.getD i .nil) =
            nums.map (fun n : Nat => Value.num (n : Int)) := by
          have := unpack_eq (numTable nums).arr
          rwa [numTable, List.length_map, hlen] at this
        lua_run [mergeEnvIn, mergeEnv, cmdDEL, getD_append_length2, len_numTable, hlen, hcols, hun,
          redisCall_RPUSH (h := cmdArgs_map_num nums)]
        cases hm : cmdRPUSH (cmsRowKey key1 r) (nums.map decimal) (st.del (cmsRowKey key1 r)) with
        | mk st' o =>
          cases o with
          | none => lua_run [cmsMergeStep_eq, hl1, hl2, hadd, hm]; exact ⟨(cmdRPUSH_fail hm).symm, trivial⟩
          | some u => lua_run [cmsMergeStep_eq, hl1, hl2, hadd, hm]; exact ⟨_, _, rfl, trivial⟩
      · intro s' ⟨hs, hadd⟩
        simp only [cmsMergeStep_eq, hl1, hl2, hadd]
        exact ⟨hs, trivial⟩

theorem _root_.Gostatix.Redis.Script.bind_assoc {α β γ} (m : Script α) (f : α → Script β) (g : β → Script γ) :
    (m >>=ₛ f) >>=ₛ g = m >>=ₛ fun a => f a >>=ₛ g := by
  funext s
  simp only [Script.bind]
  cases m s with
  | mk s' o => cases o <;> rfl

theorem cmsMergeLoop_succ (key1 key2 : String) (cols r n : Nat) :
    cmsMergeLoop key1 key2 cols r (n + 1) =
      cmsMergeStep key1 key2 cols r >>=ₛ fun _ => cmsMergeLoop key1 key2 cols (r + 1) n := by
  simp only [cmsMergeStep, Script.bind_assoc]
  rfl

/-- It follows the store from round to round, since a round rewrites the row of `key1` that a later round with the same
    key would read. -/
def MergeReadsAgree (key1 key2 : String) (cols : Nat) : Nat → Nat → Store → Prop
  | _, 0, _ => True
  | r, n + 1, st =>
    MergeRowAgree cols (rowList st (cmsRowKey key1 r)) (rowList st (cmsRowKey key2 r)) ∧
    ((cmsMergeStep key1 key2 cols r st).2 = some () →
      MergeReadsAgree key1 key2 cols (r + 1) n (cmsMergeStep key1 key2 cols r st).1)

theorem merge_loop (key1 key2 : String) (rows cols : Nat) (H : List Table) (lg : List String) (st0 : Store)
    (hcols : cols ≤ unpackSafe) (hrows : rows ≤ numLimit)
    (hag : MergeReadsAgree key1 key2 cols 0 rows st0) (F : Nat) (hF : rows + (cols + 40) + 1 ≤ F) :
    Post (fun s' => cmsMergeLoop key1 key2 cols 0 rows st0 = (s'.store, some ()))
      R (fun s' => cmsMergeLoop key1 key2 cols 0 rows st0 = (s'.store, none))
      (numForLoop F "i" 1 (rows : Int) 1 mergeBody ⟨st0, H, mergeEnv key1 key2 rows cols, lg⟩) := by
  refine numForLoop_count (x := "i") (body := mergeBody) (cols + 40) rows
    (fun j s => ∃ st H' lg', s = ⟨st, H', mergeEnv key1 key2 rows cols, lg'⟩ ∧
      cmsMergeLoop key1 key2 cols 0 rows st0 = cmsMergeLoop key1 key2 cols j (rows - j) st ∧
      MergeReadsAgree key1 key2 cols j (rows - j) st)
    ?_ ?_ F _ hF ⟨st0, H, lg, rfl, rfl, hag⟩
  · intro j hj s f ⟨st, H', lg', hs, hM, hA⟩
    subst hs
    rw [show rows - j = rows - (j + 1) + 1 by omega] at hM hA
    rw [cmsMergeLoop_succ] at hM
    simp only [Script.bind] at hM
    refine (merge_body key1 key2 rows cols H' lg' j st hcols (by omega) hA.1 f).mono ?_ (fun _ _ h => h) ?_
    · intro s' ⟨H'', lg'', hs, ho⟩
      refine ⟨_, H'', lg'', hs, ?_, hA.2 ho⟩
      rw [hM]
      generalize cmsMergeStep key1 key2 cols j st = m at ho
      obtain ⟨st1, o1⟩ := m
      cases ho
      rfl
    · intro s' ⟨hs, ho⟩
      rw [hM, hs]
      generalize cmsMergeStep key1 key2 cols j st = m at ho
      obtain ⟨st1, o1⟩ := m
      cases ho
      rfl
  · intro s ⟨st, H', lg', hs, hM, _⟩
    rw [hM, hs, Nat.sub_self]
    rfl

/-! ## from `absCMS` to the preconditions -/

theorem RowsAre.get {s : Store} {key : String} {cols : Nat} : ∀ {m : List (List Nat)} {r0 : Nat},
    RowsAre s key cols r0 m → ∀ (r : Nat) (hr : r < m.length), RowIs s (cmsRowKey key (r0 + r)) cols m[r]
  | [], _, _, r, hr => absurd hr (Nat.not_lt_zero _)
  | row :: m, r0, h, 0, _ => h.1
  | row :: m, r0, h, r + 1, hr => by
    have := RowsAre.get h.2 r (Nat.lt_of_succ_lt_succ hr)
    rw [show r0 + 1 + r = r0 + (r + 1) by omega] at this
    exact this

theorem RowIs.entry {s : Store} {k : String} {cols : Nat} {row : List Nat} (h : RowIs s k cols row)
    {l : List String} (hl : s k = some (.list l)) {c : Nat} {v : String} (hv : l[c]? = some v) :
    ∃ x, row[c]? = some x ∧ parseDecimal v = some x := by
  obtain ⟨l', hl', _, hm⟩ := h
  rw [hl] at hl'
  have e : l = l' := by injection hl' with e; injection e
  subst e
  have h1 : (l.map parseDecimal)[c]? = some (parseDecimal v) := by rw [List.getElem?_map, hv]; rfl
  rw [hm, List.getElem?_map] at h1
  cases hx : row[c]? with
  | none => rw [hx] at h1; exact absurd h1 (by simp)
  | some x =>
    rw [hx] at h1
    exact ⟨x, rfl, (Option.some.inj h1).symm⟩

theorem updReadsAgree_of_abs {st : Store} {h : CMSHandle} {c : CMS} (habs : absCMS st h = some c)
    (pos : List Nat) (count : Nat) (hlen : pos.length ≤ h.rows)
    (hb : ∀ row ∈ c.m, ∀ x ∈ row, x + count ≤ numLimit) : UpdReadsAgree h.key count pos st := by
  obtain ⟨_, _, hml, hrows⟩ := (absCMS_eq_some_iff st h c).mp habs
  intro r cc l v hp hst hv
  have hr : r < c.m.length := by
    have := (List.getElem?_eq_some_iff.mp hp).1
    omega
  have hrow := RowsAre.get hrows r hr
  rw [Nat.zero_add] at hrow
  obtain ⟨x, hx, hpx⟩ := RowIs.entry hrow hst hv
  exact Or.inl ⟨x, hpx, hb _ (List.getElem_mem hr) x (List.mem_of_getElem? hx)⟩

theorem cntReadsAgree_of_abs {st : Store} {h : CMSHandle} {c : CMS} (habs : absCMS st h = some c)
    (pos : List Nat) (hlen : pos.length ≤ h.rows)
    (hb : ∀ row ∈ c.m, ∀ x ∈ row, x ≤ numLimit) : CntReadsAgree h.key pos st :=
  updReadsAgree_of_abs habs pos 0 hlen hb

theorem cmsMergeStep_other (key1 key2 : String) (cols r : Nat) (st : Store) (k : String)
    (hk : k ≠ cmsRowKey key1 r) : (cmsMergeStep key1 key2 cols r st).1 k = st k := by
  rw [cmsMergeStep_eq]
  cases h1 : lrangeO st (cmsRowKey key1 r) with
  | none => rfl
  | some l1 =>
    cases h2 : lrangeO st (cmsRowKey key2 r) with
    | none => rfl
    | some l2 =>
      cases h3 : addNumsFrom l1 l2 0 cols with
      | none => simp only [h3]
      | some nums =>
        have hdel : (st.del (cmsRowKey key1 r)) (cmsRowKey key1 r) = none := by simp only [Store.del, if_true]
        simp only [h3, cmdRPUSH, hdel]
        split
        · simp only [Store.del, hk, if_false]
        · simp only [Store.set, Store.del, hk, if_false]

theorem mergeReadsAgree_of_rows (key1 key2 : String) (cols rows : Nat)
    (hd : ∀ i j, i < rows → j < rows → cmsRowKey key1 i ≠ cmsRowKey key2 j) :
    ∀ (n r : Nat) (st : Store) (m1 m2 : List (List Nat)),
      r + n ≤ rows → m1.length = n → m2.length = n →
      RowsAre st key1 cols r m1 → RowsAre st key2 cols r m2 →
      (∀ p ∈ List.zip m1 m2, ∀ q ∈ List.zip p.1 p.2, q.1 + q.2 ≤ numLimit) →
      MergeReadsAgree key1 key2 cols r n st := by
  intro n
  induction n with
  | zero => intro r st m1 m2 _ _ _ _ _ _; trivial
  | succ n ih =>
    intro r st m1 m2 hR h1 h2 hm1 hm2 hsum
    cases m1 with
    | nil => simp at h1
    | cons row1 m1 =>
      cases m2 with
      | nil => simp at h2
      | cons row2 m2 =>
        simp only [List.length_cons, Nat.add_right_cancel_iff] at h1 h2
        have hr1 := hm1.1
        have hr2 := hm2.1
        obtain ⟨l1, hl1, hll1, hlm1⟩ := hm1.1
        obtain ⟨l2, hl2, hll2, hlm2⟩ := hm2.1
        have hrowsum : ∀ q ∈ List.zip row1 row2, q.1 + q.2 ≤ numLimit :=
          hsum (row1, row2) (by simp)
        have hlen1 := hr1.length
        have hlen2 := hr2.length
        refine ⟨?_, ?_⟩
        · rw [rowList_of_list hl1, rowList_of_list hl2]
          intro k hk
          have hx : ∃ x, row1[k]? = some x := ⟨row1[k]'(by omega), List.getElem?_eq_getElem _⟩
          have hy : ∃ y, row2[k]? = some y := ⟨row2[k]'(by omega), List.getElem?_eq_getElem _⟩
          obtain ⟨x, hx⟩ := hx
          obtain ⟨y, hy⟩ := hy
          have hxy : x + y ≤ numLimit :=
            hrowsum (x, y) (List.mem_of_getElem? (by rw [List.getElem?_zip_eq_some]; exact ⟨hx, hy⟩))
          refine ⟨?_, ?_, ?_⟩
          · intro v hv
            obtain ⟨x', hx', hp⟩ := RowIs.entry hr1 hl1 hv
            rw [hx] at hx'; cases hx'
            exact Or.inl ⟨x, hp, by omega⟩
          · intro v hv
            obtain ⟨y', hy', hp⟩ := RowIs.entry hr2 hl2 hv
            rw [hy] at hy'; cases hy'
            exact Or.inl ⟨y, hp, by omega⟩
          · intro x' y' hx' hy'
            cases hv1 : l1[k]? with
            | none => rw [hv1] at hx'; exact absurd hx' (by simp)
            | some v1 =>
              cases hv2 : l2[k]? with
              | none => rw [hv2] at hy'; exact absurd hy' (by simp)
              | some v2 =>
                obtain ⟨x'', hx'', hp1⟩ := RowIs.entry hr1 hl1 hv1
                obtain ⟨y'', hy'', hp2⟩ := RowIs.entry hr2 hl2 hv2
                rw [hv1, Option.bind_some, hp1] at hx'
                rw [hv2, Option.bind_some, hp2] at hy'
                rw [hx] at hx''; rw [hy] at hy''
                cases hx''; cases hy''; cases hx'; cases hy'
                exact hxy
        · intro _
          have hs1 : ∀ k, k ≠ cmsRowKey key1 r → (cmsMergeStep key1 key2 cols r st).1 k = st k :=
            fun k hk => cmsMergeStep_other key1 key2 cols r st k hk
          refine ih (r + 1) _ m1 m2 (by omega) h1 h2 ?_ ?_ ?_
          · exact hm1.2.congr (fun j hj => hs1 _ (fun e => by have := cmsRowKey_inj e; omega))
          · exact hm2.2.congr' (fun j hj hj' => hs1 _ (fun e => hd r j (by omega) (by omega) e.symm))
          · intro p hp
            exact hsum p (by simp only [List.zip_cons_cons, List.mem_cons]; exact Or.inr hp)

section compare
open Gostatix.Equals

/-! ## `compareMatrix` (Equals) -/

theorem entry_eq_iff (n1 n2 : List Nat) (k : Nat) :
    (((n1.map decimal).map Value.str).getD k .nil = ((n2.map decimal).map Value.str).getD k .nil) ↔
      n1[k]? = n2[k]? := by
  rw [getD_map_str, getD_map_str, List.getElem?_map, List.getElem?_map]
  cases n1[k]? <;> cases n2[k]? <;> simp
  constructor
  · intro h; exact decimal_inj h
  · intro h; rw [h]

/-- ```
    local rowKey1 = key1 .. tostring(i - 1)
    local vals1 = redis.pcall('LRANGE', rowKey1, 0, -1)
    local rowKey2 = key2 .. tostring(i - 1)
    local vals2 = redis.pcall('LRANGE', rowKey2, 0, -1)
    for j=1, tonumber(columns) do if vals1[j] ~= vals2[j] then return false end end
    ``` -/
def cmpBody : Block := loopBody count_min_sketch_redis_compareMatrixScript 4

def cmpInner : Block := loopBody cmpBody 4

def cmpEnvIn (id : Nat) (rk1 rk2 : String) (i : Int) (key1 key2 : String) (rows cols : Nat) :
    List (String × Value) :=
  ("vals2", .table (id + 1)) :: ("rowKey2", .str rk2) :: ("vals1", .table id) ::
    ("rowKey1", .str rk1) :: ("i", .num i) :: mergeEnv key1 key2 rows cols

theorem forFrom_succ (body : Nat → Option Bool) (i n : Nat) :
    forFrom body i (n + 1) = (match body i with
      | none => none
      | some false => some false
      | some true => forFrom body (i + 1) n) := rfl

theorem cmp_inner (st : Store) (H : List Table) (rk1 rk2 : String) (i : Int) (key1 key2 : String)
    (rows cols : Nat) (lg : List String) (n1 n2 : List Nat)
    (hn : cols + 1 < maxArrayIndex) (F : Nat) (hF : cols + 12 ≤ F) :
    Post (fun s' => s' = ⟨st, H ++ [{ arr := (n1.map decimal).map .str }, { arr := (n2.map decimal).map .str }],
            cmpEnvIn H.length rk1 rk2 i key1 key2 rows cols, lg⟩ ∧ forN cols (luaIdxEq n1 n2) = some true)
      (fun vs s' => vs = [.bool false] ∧ s'.store = st ∧ forN cols (luaIdxEq n1 n2) = some false)
      (fun _ => False)
      (numForLoop F "j" 1 (cols : Int) 1 cmpInner
        ⟨st, H ++ [{ arr := (n1.map decimal).map .str }, { arr := (n2.map decimal).map .str }],
          cmpEnvIn H.length rk1 rk2 i key1 key2 rows cols, lg⟩) := by
  refine numForLoop_count (x := "j") (body := cmpInner) 10 cols
    (fun k s => s = ⟨st, H ++ [{ arr := (n1.map decimal).map .str }, { arr := (n2.map decimal).map .str }],
          cmpEnvIn H.length rk1 rk2 i key1 key2 rows cols, lg⟩ ∧
      forN cols (luaIdxEq n1 n2) = forFrom (luaIdxEq n1 n2) k (cols - k))
    ?_ ?_ F _ (by omega) ⟨rfl, rfl⟩
  · intro k hk s f ⟨hs, hM⟩
    subst hs
    have hk1 : k + 1 < maxArrayIndex := by omega
    rw [show cols - k = cols - (k + 1) + 1 by omega, forFrom_succ] at hM
    lua_run [cmpInner, cmpBody, count_min_sketch_redis_compareMatrixScript, cmpEnvIn, mergeEnv, getD_append_length, getD_append_length1,
      Table.get_num _ _ (Nat.le_add_left 1 k) hk1, entry_eq_iff]
    by_cases heq : n1[k]? = n2[k]?
    · simp only [luaIdxEq, heq, decide_true] at hM
      lua_run [heq]
      exact ⟨trivial, hM⟩
    · simp only [luaIdxEq, heq, decide_false] at hM
      lua_run [heq]
      exact ⟨trivial, trivial, hM⟩
  · intro s ⟨hs, hM⟩
    rw [Nat.sub_self] at hM
    exact ⟨hs, hM⟩

theorem cmp_body (key1 key2 : String) (rows cols : Nat) (H : List Table) (lg : List String) (r : Nat)
    (st : Store) (n1 n2 : List Nat) (hcols : cols + 1 < maxArrayIndex) (hr : r < numLimit)
    (h1 : lrangeO st (cmsRowKey key1 r) = some (n1.map decimal))
    (h2 : lrangeO st (cmsRowKey key2 r) = some (n2.map decimal)) (f : Nat) :
    Post (fun s' => (∃ H' lg', s' = ⟨st, H', mergeEnv key1 key2 rows cols, lg'⟩) ∧
          forN cols (luaIdxEq n1 n2) = some true)
      (fun vs s' => vs = [.bool false] ∧ s'.store = st ∧ forN cols (luaIdxEq n1 n2) = some false)
      (fun _ => False)
      (inScope (do declare "i" (.num ((r + 1 : Nat) : Int)); execBlock (f + (cols + 40)) cmpBody)
        ⟨st, H, mergeEnv key1 key2 rows cols, lg⟩) := by
  have e0 : f + (cols + 40) = f + cols + 40 := by omega
  rw [e0]
  lua_run [cmpBody, count_min_sketch_redis_compareMatrixScript, mergeEnv, checkNum_pred hr, cmdLRANGE_eq, h1, h2,
    List.append_assoc, List.cons_append, List.nil_append, List.length_append]
  refine Post.leave (Post.next ((cmp_inner st H (cmsRowKey key1 r) (cmsRowKey key2 r) ((r + 1 : Nat) : Int)
    key1 key2 rows cols (cmsRowKey key2 r :: cmsRowKey key1 r :: lg) n1 n2 hcols (f + cols + 34) (by omega)).mono
    ?_ (fun _ _ h => h) (fun _ h => h)))
  intro s' ⟨hs, hf⟩
  subst hs
  lua_run [cmpEnvIn, mergeEnv]
  exact ⟨⟨_, _, rfl⟩, hf⟩

theorem cmp_loop (key1 key2 : String) (rows cols : Nat) (H : List Table) (lg : List String) (st : Store)
    (m1 m2 : List (List Nat)) (hcols : cols + 1 < maxArrayIndex) (hrows : rows ≤ numLimit)
    (h1 : ∀ i, i < rows → lrangeO st (cmsRowKey key1 i) = some ((m1[i]?.getD []).map decimal))
    (h2 : ∀ i, i < rows → lrangeO st (cmsRowKey key2 i) = some ((m2[i]?.getD []).map decimal))
    (F : Nat) (hF : rows + (cols + 40) + 1 ≤ F) :
    Post (fun s' => s'.store = st ∧
          forN rows (fun i => forN cols (luaIdxEq (m1[i]?.getD []) (m2[i]?.getD []))) = some true)
      (fun vs s' => vs = [.bool false] ∧ s'.store = st ∧
          forN rows (fun i => forN cols (luaIdxEq (m1[i]?.getD []) (m2[i]?.getD []))) = some false)
      (fun _ => False)
      (numForLoop F "i" 1 (rows : Int) 1 cmpBody ⟨st, H, mergeEnv key1 key2 rows cols, lg⟩) := by
  refine numForLoop_count (x := "i") (body := cmpBody) (cols + 40) rows
    (fun j s => (∃ H' lg', s = ⟨st, H', mergeEnv key1 key2 rows cols, lg'⟩) ∧
      forN rows (fun i => forN cols (luaIdxEq (m1[i]?.getD []) (m2[i]?.getD []))) =
        forFrom (fun i => forN cols (luaIdxEq (m1[i]?.getD []) (m2[i]?.getD []))) j (rows - j))
    ?_ ?_ F _ hF ⟨⟨H, lg, rfl⟩, rfl⟩
  · intro j hj s f ⟨⟨H', lg', hs⟩, hM⟩
    subst hs
    rw [show rows - j = rows - (j + 1) + 1 by omega, forFrom_succ] at hM
    refine (cmp_body key1 key2 rows cols H' lg' j st _ _ hcols (by omega) (h1 j hj) (h2 j hj) f).mono
      ?_ ?_ (fun _ h => h)
    · intro s' ⟨hs, hf⟩
      rw [hf] at hM
      exact ⟨hs, hM⟩
    · intro vs s' ⟨hv, hs, hf⟩
      rw [hf] at hM
      exact ⟨hv, hs, hM⟩
  · intro s ⟨⟨H', lg', hs⟩, hM⟩
    rw [Nat.sub_self] at hM
    exact ⟨hs ▸ rfl, hM⟩

end compare

/-! ## `setMatrix` -/

/-- ```
    local row = {}
    local rowKey = key .. tostring(i - 1)
    for j=1, columns do row[j] = ARGV[index]; index = index + 1 end
    redis.call('DEL', rowKey)
    redis.call('RPUSH', rowKey, unpack(row))
    ``` -/
def setBody : Block := loopBody count_min_sketch_redis_setMatrixScript 4

def setInner : Block := loopBody setBody 2

def setEnv (key : String) (cols idx iters : Nat) : List (String × Value) :=
  [("rows", .num iters), ("index", .num idx), ("columns", .num cols), ("key", .str key)]

def setEnvIn (id : Nat) (rk : String) (i : Int) (key : String) (cols idx iters : Nat) : List (String × Value) :=
  ("rowKey", .str rk) :: ("row", .table id) :: ("i", .num i) :: setEnv key cols idx iters

@[reducible] def strTable (l : List String) : Table := { arr := l.map .str }

theorem set_inner (st : Store) (KT : Table) (args : List String) (rest : List Table) (rk : String) (i : Int)
    (key : String) (cols idx iters : Nat) (lg : List String)
    (hidx : 1 ≤ idx) (hin : idx - 1 + cols ≤ args.length) (hn : idx + cols < maxArrayIndex)
    (F : Nat) (hF : cols + 12 ≤ F) :
    numForLoop F "j" 1 (cols : Int) 1 setInner
        ⟨st, KT :: strTable args :: (rest ++ [{ arr := [] }]),
          setEnvIn (rest.length + 2) rk i key cols idx iters, lg⟩ =
      .ok none ⟨st, KT :: strTable args :: (rest ++ [strTable ((args.drop (idx - 1)).take cols)]),
          setEnvIn (rest.length + 2) rk i key cols (idx + cols) iters, lg⟩ := by
  refine Post.eq (numForLoop_count (x := "j") (body := setInner) 10 cols
    (fun k s => s = ⟨st, KT :: strTable args :: (rest ++ [strTable ((args.drop (idx - 1)).take k)]),
          setEnvIn (rest.length + 2) rk i key cols (idx + k) iters, lg⟩)
    ?_ (fun _ h => h) F _ (by omega) (by simp [strTable]))
  intro k hk s f hP
  subst hP
  have hlenk : ((args.drop (idx - 1)).take k).length = k := by
    rw [List.length_take, List.length_drop]; omega
  have e : ((k + 1 : Nat) : Int) = (((((args.drop (idx - 1)).take k).map Value.str).length + 1 : Nat) : Int) := by
    rw [List.length_map, hlenk]
  have hget : (strTable args).get (.num ((idx + k : Nat) : Int)) = .str (args[idx - 1 + k]'(by omega)) := by
    rw [Table.get_num _ _ (by omega) (by omega)]
    simp only [List.getD_eq_getElem?_getD, List.getElem?_map]
    rw [show idx + k - 1 = idx - 1 + k by omega, List.getElem?_eq_getElem (by omega)]
    rfl
  have hsum : ((idx + (k + 1) : Nat) : Int).natAbs ≤ numLimit := by
    unfold maxArrayIndex at hn; unfold numLimit; omega
  have esum : ((idx + k : Nat) : Int) + 1 = ((idx + (k + 1) : Nat) : Int) := by omega
  rw [e]
  lua_run [setInner, setBody, count_min_sketch_redis_setMatrixScript, setEnvIn, setEnv, getD_append_length, set_append_length, hget,
    esum, checkNum_ok hsum, List.set_cons_succ]
  rw [strTable, Table.set_push _ _ _ (by rw [List.length_map, hlenk]; omega)]
  have htake : (args.drop (idx - 1)).take (k + 1) = (args.drop (idx - 1)).take k ++ [args[idx - 1 + k]'(by omega)] := by
    rw [List.take_add_one, List.getElem?_drop, List.getElem?_eq_getElem (by omega)]
    rfl
  simp only [strTable, htake, List.map_append, List.map_cons, List.map_nil]

theorem len_strTable (l : List String) : (strTable l).len = l.length := by
  rw [Table.len_of_no_nil, List.length_map]
  intro v hv
  obtain ⟨n, _, rfl⟩ := List.mem_map.mp hv
  exact fun h => nomatch h

theorem cmdRPUSH_del (k : String) (vs : List String) (st : Store) (h : vs ≠ []) :
    cmdRPUSH k vs (st.del k) = ((st.del k).set k (.list vs), some ()) := by
  have hdel : (st.del k) k = none := by simp only [Store.del, if_true]
  simp only [cmdRPUSH, h, if_false, hdel]

theorem set_body (key : String) (cols iters : Nat) (KT : Table) (args : List String) (rest : List Table)
    (lg : List String) (r : Nat) (st : Store) (hcols : 1 ≤ cols) (hcols' : cols ≤ unpackSafe) (hr : r < numLimit)
    (idx : Nat) (hidx : 1 ≤ idx) (hin : idx - 1 + cols ≤ args.length) (hn : idx + cols < maxArrayIndex) (f : Nat) :
    ∃ rest' lg', inScope (do declare "i" (.num ((r + 1 : Nat) : Int)); execBlock (f + (cols + 40)) setBody)
        ⟨st, KT :: strTable args :: rest, setEnv key cols idx iters, lg⟩ =
      .ok none ⟨(st.del (cmsRowKey key r)).set (cmsRowKey key r) (.list ((args.drop (idx - 1)).take cols)),
        KT :: strTable args :: rest', setEnv key cols (idx + cols) iters, lg'⟩ := by
  have e0 : f + (cols + 40) = f + cols + 40 := by omega
  rw [e0]
  lua_run [setBody, count_min_sketch_redis_setMatrixScript, setEnv, checkNum_pred hr, List.cons_append]
  have hin' := set_inner st KT args rest (cmsRowKey key r) ((r + 1 : Nat) : Int) key cols idx iters lg
    hidx hin hn (f + cols + 36) (by omega)
  simp only [setEnvIn, setEnv] at hin'
  rw [show rest.length + 1 + 1 = rest.length + 2 from rfl]
  erw [hin']
  have hrowlen : ((args.drop (idx - 1)).take cols).length = cols := by
    rw [List.length_take, List.length_drop]; omega
  have hun : (List.range cols).map (fun i => (strTable ((args.drop (idx - 1)).take cols)).arr.getD i .nil) =
      ((args.drop (idx - 1)).take cols).map Value.str := by
    have := unpack_eq (((args.drop (idx - 1)).take cols).map Value.str)
    rwa [List.length_map, hrowlen] at this
  have hne : (args.drop (idx - 1)).take cols ≠ [] := by
    intro e; rw [e] at hrowlen; exact absurd hrowlen (by simp; omega)
  lua_run [cmdDEL, getD_append_length, len_strTable, hrowlen, hcols', hun,
    redisCall_RPUSH (h := cmdArgs_map_str ((args.drop (idx - 1)).take cols)), cmdRPUSH_del _ _ _ hne]
  exact ⟨_, _, rfl⟩

/-- `args` is ARGV, its first entry being the column count, so the group of row `r` starts at `1 + r * cols`. -/
def setRowsLoop (key : String) (cols : Nat) (args : List String) : Nat → Nat → Store → Store
  | _, 0, st => st
  | r, n + 1, st =>
    setRowsLoop key cols args (r + 1) n
      ((st.del (cmsRowKey key r)).set (cmsRowKey key r) (.list ((args.drop (1 + r * cols)).take cols)))

theorem set_loop (key : String) (cols iters : Nat) (KT : Table) (args : List String) (rest : List Table)
    (lg : List String) (st0 : Store) (hcols : 1 ≤ cols) (hcols' : cols ≤ unpackSafe) (hiters : iters ≤ numLimit)
    (hin : 1 + iters * cols ≤ args.length) (hn : 2 + iters * cols < maxArrayIndex)
    (F : Nat) (hF : iters + (cols + 40) + 1 ≤ F) :
    Post (fun s' => s'.store = setRowsLoop key cols args 0 iters st0) (fun _ _ => False) (fun _ => False)
      (numForLoop F "i" 1 (iters : Int) 1 setBody
        ⟨st0, KT :: strTable args :: rest, setEnv key cols 2 iters, lg⟩) := by
  refine numForLoop_count (x := "i") (body := setBody) (cols + 40) iters
    (fun j s => ∃ st rest' lg', s = ⟨st, KT :: strTable args :: rest', setEnv key cols (2 + j * cols) iters, lg'⟩ ∧
      setRowsLoop key cols args 0 iters st0 = setRowsLoop key cols args j (iters - j) st)
    ?_ ?_ F _ hF ⟨st0, rest, lg, by simp, rfl⟩
  · intro j hj s f ⟨st, rest', lg', hs, hM⟩
    subst hs
    have hmul : (j + 1) * cols ≤ iters * cols := Nat.mul_le_mul_right _ hj
    have hexp : (j + 1) * cols = j * cols + cols := by rw [Nat.add_mul, Nat.one_mul]
    obtain ⟨rest'', lg'', hb⟩ := set_body key cols iters KT args rest' lg' j st hcols hcols' (by omega)
      (2 + j * cols) (by omega) (by omega) (by omega) f
    rw [show 2 + j * cols + cols = 2 + (j + 1) * cols by omega,
      show 2 + j * cols - 1 = 1 + j * cols by omega] at hb
    rw [hb]
    refine ⟨_, _, _, rfl, ?_⟩
    rw [hM, show iters - j = iters - (j + 1) + 1 by omega, setRowsLoop]
  · intro s ⟨st, rest', lg', hs, hM⟩
    rw [hM, hs, Nat.sub_self]
    rfl

/-! ### `setMatrix` against the model of Model/Json.lean -/

def RelVal : Json.Val → Option Redis.Val → Prop
  | .absent, none => True
  | .nums l, some (.list l') => l' = l.map decimal
  | _, _ => False

def CmsRel (key : String) (id : Nat) (js : Json.Store) (st : Redis.Store) : Prop :=
  ∀ r, RelVal (js (.cmsRow id r)) (st (cmsRowKey key r))

theorem set_rel_step (key : String) (id : Nat) (js : Json.Store) (st : Redis.Store) (i : Nat) (row : List Nat)
    (h : CmsRel key id js st) :
    CmsRel key id ((js.del (.cmsRow id i)).rpushNums (.cmsRow id i) row)
      ((st.del (cmsRowKey key i)).set (cmsRowKey key i) (.list (row.map decimal))) := by
  intro r
  by_cases hr : r = i
  · subst hr
    simp only [Json.Store.rpushNums, Json.Store.set, Json.Store.del, Json.Store.getNums, if_true, Json.Val.toNums,
      List.nil_append, Redis.Store.set, RelVal]
  · have h1 : (Json.Key.cmsRow id r) ≠ (Json.Key.cmsRow id i) := by
      intro e; injection e with _ e; exact hr e
    have h2 : cmsRowKey key r ≠ cmsRowKey key i := fun e => hr (cmsRowKey_inj e)
    simp only [Json.Store.rpushNums, Json.Store.set, Json.Store.del, h1, if_false, Redis.Store.set, Redis.Store.del, h2]
    exact h r

theorem set_rel_loop (key : String) (id cols : Nat) (flat : List Nat) (hcols : 1 ≤ cols) :
    ∀ (n r : Nat) (js : Json.Store) (st : Redis.Store), CmsRel key id js st → (r + n) * cols ≤ flat.length →
      ∃ js', (List.range' r n).foldl (Json.CMSRedis.setMatrixStep id cols flat) (js, true) = (js', true) ∧
        CmsRel key id js' (setRowsLoop key cols (decimal cols :: flat.map decimal) r n st) := by
  intro n
  induction n with
  | zero => intro r js st h _; exact ⟨js, rfl, h⟩
  | succ n ih =>
    intro r js st h hlen
    have hmul : (r + 1) * cols ≤ (r + (n + 1)) * cols := Nat.mul_le_mul_right _ (by omega)
    have hexp : (r + 1) * cols = r * cols + cols := by rw [Nat.add_mul, Nat.one_mul]
    have hrow : ((flat.drop (r * cols)).take cols) ≠ [] := by
      intro e
      have := congrArg List.length e
      rw [List.length_take, List.length_drop, List.length_nil] at this
      omega
    have hargs : ((decimal cols :: flat.map decimal).drop (1 + r * cols)).take cols =
        ((flat.drop (r * cols)).take cols).map decimal := by
      rw [Nat.add_comm 1, List.drop_succ_cons, List.map_take, List.map_drop]
    rw [List.range'_succ, List.foldl_cons, setRowsLoop, hargs]
    have hstep : Json.CMSRedis.setMatrixStep id cols flat (js, true) r =
        ((js.del (.cmsRow id r)).rpushNums (.cmsRow id r) ((flat.drop (r * cols)).take cols), true) := by
      simp only [Json.CMSRedis.setMatrixStep, if_true, hrow, if_false]
    rw [hstep]
    exact ih (r + 1) _ _ (set_rel_step key id js st r _ h) (by rw [show r + 1 + n = r + (n + 1) by omega]; exact hlen)

theorem lrangeO_of_rel {key : String} {id : Nat} {js : Json.Store} {st : Redis.Store} (h : CmsRel key id js st)
    (r : Nat) : lrangeO st (cmsRowKey key r) = some ((js.getNums (.cmsRow id r)).map decimal) := by
  have := h r
  unfold lrangeO Json.Store.getNums
  cases hj : js (.cmsRow id r) <;> cases hs : st (cmsRowKey key r) <;> rw [hj, hs] at this <;>
    first
    | exact this.elim
    | rfl
    | skip
  rename_i l v
  cases v <;> first | exact this.elim | (simp only [RelVal] at this; subst this; rfl)

/-! ## `getMatrix` (Export) -/

/-- ```
    matrix[i] = {}
    local rowKey = key .. tostring(i - 1)
    local values = redis.call('LRANGE', rowKey, 0, -1)
    for j, v in ipairs(values) do matrix[i][j] = v end
    ``` -/
def fetchBody : Block := loopBody count_min_sketch_redis_fetchMatrixAsTable 3

def fetchInner : Block := loopBody fetchBody 3

def fetchEnv (key sz : String) : List (String × Value) :=
  [("matrix", .table 2), ("size", .str sz), ("key", .str key)]

def fetchEnvIn (vid : Nat) (rk : String) (i : Int) (key sz : String) : List (String × Value) :=
  ("values", .table vid) :: ("rowKey", .str rk) :: ("i", .num i) :: fetchEnv key sz

theorem fetch_inner (st : Store) (KT AT : Table) (marr : List Value) (pre : List Table) (rk : String)
    (key sz : String) (lg : List String) (row : List String)
    (hm : marr.length + 1 < maxArrayIndex) (hn : row.length + 1 < maxArrayIndex)
    (F : Nat) (hF : row.length + 12 ≤ F) :
    ipairsLoop F ["j", "v"] (pre.length + 4) 1 fetchInner
        ⟨st, KT :: AT :: ⟨marr ++ [.table (pre.length + 3)], []⟩ :: (pre ++ [strTable [], strTable row]),
          fetchEnvIn (pre.length + 4) rk ((marr.length + 1 : Nat) : Int) key sz, lg⟩ =
      .ok none ⟨st, KT :: AT :: ⟨marr ++ [.table (pre.length + 3)], []⟩ :: (pre ++ [strTable row, strTable row]),
          fetchEnvIn (pre.length + 4) rk ((marr.length + 1 : Nat) : Int) key sz, lg⟩ := by
  refine Post.eq (ipairsLoop_post (names := ["j", "v"]) (body := fetchInner) (id := pre.length + 4) 10 row.length
    (fun j => (row.map Value.str).getD j .nil)
    (fun k s => s = ⟨st, KT :: AT :: ⟨marr ++ [.table (pre.length + 3)], []⟩ ::
          (pre ++ [strTable (row.take k), strTable row]),
          fetchEnvIn (pre.length + 4) rk ((marr.length + 1 : Nat) : Int) key sz, lg⟩)
    ?_ ?_ ?_ ?_ ?_ F _ (by omega) rfl)
  · intro j hj s hP
    subst hP
    simp only [List.getD_cons_succ, getD_append_length1]
    rw [Table.get_num _ _ (by omega) (by omega)]
    rfl
  · intro j hj
    rw [getD_map_str, List.getElem?_eq_getElem hj]
    exact fun h => nomatch h
  · intro s hP
    subst hP
    simp only [List.getD_cons_succ, getD_append_length1]
    rw [Table.get_num _ _ (by omega) (by omega)]
    simp [List.getD_eq_getElem?_getD]
  · intro k hk s f hP
    subst hP
    have hv : (row.map Value.str).getD k .nil = .str row[k] := by
      rw [getD_map_str, List.getElem?_eq_getElem hk]
    have hlenk : ((row.take k).map Value.str).length = k := by
      rw [List.length_map, List.length_take]; omega
    have hpush := Table.set_push ((row.take k).map Value.str) [] (.str row[k]) (by rw [hlenk]; omega)
    rw [hlenk] at hpush
    have htake : row.take (k + 1) = row.take k ++ [row[k]] := by
      rw [List.take_add_one, List.getElem?_eq_getElem hk]; rfl
    rw [hv]
    lua_run [fetchInner, fetchBody, count_min_sketch_redis_fetchMatrixAsTable, fetchEnvIn, fetchEnv, Table.get_push _ _ _ hm, getD_append_length,
      List.set_cons_succ, set_append_length, hpush]
    simp only [htake, strTable, List.map_append, List.map_cons, List.map_nil]
  · intro s hP
    rw [hP, List.take_length]

theorem fetch_body (key sz : String) (KT AT : Table) (marr : List Value) (pre : List Table) (lg : List String)
    (st : Store) (row : List String) (hm : marr.length + 1 < maxArrayIndex) (hn : row.length + 1 < maxArrayIndex)
    (hrow : lrangeO st (cmsRowKey key marr.length) = some row) (f : Nat) :
    ∃ lg', inScope (do declare "i" (.num ((marr.length + 1 : Nat) : Int)); execBlock (f + (row.length + 40)) fetchBody)
        ⟨st, KT :: AT :: ⟨marr, []⟩ :: pre, fetchEnv key sz, lg⟩ =
      .ok none ⟨st, KT :: AT :: ⟨marr ++ [.table (pre.length + 3)], []⟩ :: (pre ++ [strTable row, strTable row]),
        fetchEnv key sz, lg'⟩ := by
  have e0 : f + (row.length + 40) = f + row.length + 40 := by omega
  have hrl : marr.length < numLimit := by unfold maxArrayIndex at hm; unfold numLimit; omega
  have hl4 : (pre ++ [({ arr := [] } : Table)]).length + 1 + 1 + 1 = pre.length + 4 := by simp
  rw [e0]
  lua_run [fetchBody, count_min_sketch_redis_fetchMatrixAsTable, fetchEnv, Table.set_push _ _ _ hm, List.set_cons_succ, List.set_cons_zero,
    List.cons_append, checkNum_pred hrl, cmdLRANGE_eq, hrow, show pre.length + 1 + 1 + 1 = pre.length + 3 from rfl,
    execStmt_ipairsFor, isLocal_apply, hl4, List.append_assoc, List.nil_append]
  have hin := fetch_inner st KT AT marr pre (cmsRowKey key marr.length) key sz (cmsRowKey key marr.length :: lg) row
    hm hn (f + row.length + 35) (by omega)
  simp only [fetchEnvIn, fetchEnv, strTable, List.map_nil] at hin
  erw [hin]
  lua_run []
  exact ⟨_, rfl⟩

/-! ### replies made of tables -/

theorem mapM_ok {α β} (f : α → Except String β) (g : α → β) :
    ∀ (l : List α), (∀ x ∈ l, f x = .ok (g x)) → l.mapM f = .ok (l.map g)
  | [], _ => rfl
  | a :: l, h => by
    rw [List.mapM_cons, h a (List.mem_cons_self ..), mapM_ok f g l (fun x hx => h x (List.mem_cons_of_mem _ hx))]
    rfl

theorem takeWhile_all {α} (p : α → Bool) : ∀ (l : List α), (∀ x ∈ l, p x = true) → l.takeWhile p = l
  | [], _ => rfl
  | a :: l, h => by
    rw [List.takeWhile_cons, h a (List.mem_cons_self ..)]
    simp only [if_true]
    rw [takeWhile_all p l (fun x hx => h x (List.mem_cons_of_mem _ hx))]

theorem toReply_strTable (heap : List Table) (d id : Nat) (l : List String)
    (h : heap.getD id {} = strTable l) :
    toReply heap (d + 2) (.table id) = .ok (.array (l.map .bulk)) := by
  have hm : (l.map Value.str).mapM (toReply heap (d + 1)) = .ok ((l.map Value.str).map fun v =>
      match v with | .str s => Reply.bulk s | _ => Reply.nil) := by
    apply mapM_ok
    intro x hx
    obtain ⟨s, _, rfl⟩ := List.mem_map.mp hx
    rfl
  have htw : (l.map Value.str).takeWhile (fun v => decide (v ≠ Value.nil)) = l.map Value.str := by
    apply takeWhile_all
    intro x hx
    obtain ⟨s, _, rfl⟩ := List.mem_map.mp hx
    rfl
  rw [toReply]
  rw [h]
  have e1 : (strTable l).get (.str "err") = .nil := rfl
  have e2 : (strTable l).get (.str "ok") = .nil := rfl
  simp only [e1, e2]
  rw [htw, hm, List.map_map]
  rfl

/-! ## `getMatrix`: the loop and the reply -/

/-- the array part of `matrix` after `j` rounds: the row tables sit at heap positions 3, 5, 7, … -/
def fetchArr : Nat → List Value
  | 0 => []
  | j + 1 => fetchArr j ++ [.table (2 * j + 3)]

/-- the heap behind `KEYS, ARGV, matrix` after `j` rounds: per round the row table and the `LRANGE` reply. -/
def fetchHeap (rows : Nat → List String) : Nat → List Table
  | 0 => []
  | j + 1 => fetchHeap rows j ++ [strTable (rows j), strTable (rows j)]

theorem fetchArr_length (j : Nat) : (fetchArr j).length = j := by
  induction j with
  | zero => rfl
  | succ j ih => simp only [fetchArr, List.length_append, ih, List.length_cons, List.length_nil]

theorem fetchHeap_length (rows : Nat → List String) (j : Nat) : (fetchHeap rows j).length = 2 * j := by
  induction j with
  | zero => rfl
  | succ j ih => simp only [fetchHeap, List.length_append, ih, List.length_cons, List.length_nil]; omega

theorem fetchHeap_getD (rows : Nat → List String) : ∀ (n r : Nat), r < n →
    (fetchHeap rows n).getD (2 * r) {} = strTable (rows r)
  | n + 1, r, h => by
    by_cases hr : r = n
    · subst hr
      have := getD_append_length (fetchHeap rows r) (strTable (rows r)) ({} : Table) [strTable (rows r)]
      rw [fetchHeap_length] at this
      exact this
    · have ih := fetchHeap_getD rows n r (by omega)
      rw [fetchHeap, List.getD_eq_getElem?_getD, List.getElem?_append_left (by rw [fetchHeap_length]; omega),
        ← List.getD_eq_getElem?_getD]
      exact ih

theorem fetchArr_eq (n : Nat) : fetchArr n = (List.range n).map fun r => Value.table (2 * r + 3) := by
  induction n with
  | zero => rfl
  | succ n ih => rw [fetchArr, ih, List.range_succ, List.map_append]; rfl

theorem toReply_fetch (KT AT : Table) (rows : Nat → List String) (n : Nat) :
    toReply (KT :: AT :: ⟨fetchArr n, []⟩ :: fetchHeap rows n) 64 (.table 2) =
      .ok (.array ((List.range n).map fun r => .array ((rows r).map .bulk))) := by
  have htw : (fetchArr n).takeWhile (fun v => decide (v ≠ Value.nil)) = fetchArr n := by
    apply takeWhile_all
    intro x hx
    rw [fetchArr_eq] at hx
    obtain ⟨s, _, rfl⟩ := List.mem_map.mp hx
    rfl
  have hm : (fetchArr n).mapM (toReply (KT :: AT :: ⟨fetchArr n, []⟩ :: fetchHeap rows n) 63) =
      .ok ((List.range n).map fun r => Reply.array ((rows r).map .bulk)) := by
    rw [fetchArr_eq]
    have := mapM_ok (toReply (KT :: AT :: ⟨fetchArr n, []⟩ :: fetchHeap rows n) 63)
      (fun v => match v with | .table id => Reply.array ((rows ((id - 3) / 2)).map .bulk) | _ => Reply.nil)
      ((List.range n).map fun r => Value.table (2 * r + 3)) ?_
    · rw [fetchArr_eq] at this
      rw [this, List.map_map]
      congr 1
      apply List.map_congr_left
      intro r _
      simp only [Function.comp]
      rw [show (2 * r + 3 - 3) / 2 = r by omega]
    · intro x hx
      obtain ⟨r, hr, rfl⟩ := List.mem_map.mp hx
      have hrn : r < n := List.mem_range.mp hr
      simp only
      rw [show (2 * r + 3 - 3) / 2 = r by omega]
      apply toReply_strTable _ 61
      rw [show 2 * r + 3 = 2 * r + 1 + 1 + 1 from rfl, List.getD_cons_succ, List.getD_cons_succ, List.getD_cons_succ]
      exact fetchHeap_getD rows n r hrn
  rw [toReply]
  have e1 : (⟨fetchArr n, []⟩ : Table).get (.str "err") = .nil := rfl
  have e2 : (⟨fetchArr n, []⟩ : Table).get (.str "ok") = .nil := rfl
  simp only [List.getD_cons_succ, List.getD_cons_zero, e1, e2]
  rw [htw, hm]
  rfl

theorem fetch_loop (key sz : String) (KT AT : Table) (lg : List String) (st : Store) (n L : Nat)
    (rows : Nat → List String) (hn : n + 1 < maxArrayIndex) (hL : L + 1 < maxArrayIndex)
    (hrows : ∀ r, r < n → lrangeO st (cmsRowKey key r) = some (rows r)) (hlen : ∀ r, r < n → (rows r).length ≤ L)
    (F : Nat) (hF : n + (L + 40) + 1 ≤ F) :
    Post (fun s' => ∃ lg', s' = ⟨st, KT :: AT :: ⟨fetchArr n, []⟩ :: fetchHeap rows n, fetchEnv key sz, lg'⟩)
      (fun _ _ => False) (fun _ => False)
      (numForLoop F "i" 1 (n : Int) 1 fetchBody
        ⟨st, KT :: AT :: ⟨fetchArr 0, []⟩ :: fetchHeap rows 0, fetchEnv key sz, lg⟩) := by
  refine numForLoop_count (x := "i") (body := fetchBody) (L + 40) n
    (fun j s => ∃ lg', s = ⟨st, KT :: AT :: ⟨fetchArr j, []⟩ :: fetchHeap rows j, fetchEnv key sz, lg'⟩)
    ?_ (fun _ h => h) F _ hF ⟨lg, rfl⟩
  intro j hj s f ⟨lg', hs⟩
  subst hs
  have hl := hlen j hj
  obtain ⟨lg'', hb⟩ := fetch_body key sz KT AT (fetchArr j) (fetchHeap rows j) lg' st (rows j)
    (by rw [fetchArr_length]; omega) (by omega) (by rw [fetchArr_length]; exact hrows j hj)
    (f + (L - (rows j).length))
  rw [fetchArr_length, fetchHeap_length,
    show f + (L - (rows j).length) + ((rows j).length + 40) = f + (L + 40) by omega] at hb
  rw [hb]
  exact ⟨lg'', rfl⟩

end Gostatix.LuaCMS
