/-
  The three list recursions of the Count-Min models, once, for any cell type.  `Model/CMS.lean` (`Nat` cells), `Model/CMSM.lean` (`UInt64` cells) and the kernels of
  `Props/ArithTieCMSCells.lean` each spell them out for their own cell type and cell operation:

      updWith f m pos     `f` at column `pos[r]` of every row `r`       (`updRows`, `updRowsM`, `updRowsG`)
      zipRows f a b       cell-wise `f` of two matrices                 (`addRows`, `addRowsM`, `addRowsG`)
      probe d m pos       the cell at column `pos[r]` of every row `r`  (`cells`, `cellsM`)

  Rows without a position (and extra rows of `a`) are left alone; a position outside its row
  changes nothing (`modAt`) and reads the default `d`.  Here: each as `mapIdx` / `zipWith`, how a
  cell map `g` (`toNat`, `· % 2^64`) passes through them, when two of them commute, and, at the
  end, the six equations every user starts from: `CMS.updRows_eq`, `CMS.addRows_eq`,
  `CMS.cells_eq`, `CMSM.updRowsM_eq`, `CMSM.addRowsM_eq`, `CMSM.cellsM_eq`.
-/
import Gostatix.Model.CMSM
namespace Gostatix.Rows

variable {α β : Type}

def updWith (f : α → α) : List (List α) → List Nat → List (List α)
  | row :: m, p :: pos => modAt row p f :: updWith f m pos
  | m, _ => m

def zipRows (f : α → α → α) : List (List α) → List (List α) → List (List α)
  | r1 :: m1, r2 :: m2 => List.zipWith f r1 r2 :: zipRows f m1 m2
  | m1, _ => m1

def probe (d : α) : List (List α) → List Nat → List α
  | row :: m, p :: pos => row.getD p d :: probe d m pos
  | _, _ => []

/-- what `updWith` does to row `j` -/
def stepAt (pos : List Nat) (f : α → α) (j : Nat) (row : List α) : List α :=
  match pos[j]? with
  | some p => modAt row p f
  | none => row

/-- what `zipRows` does to row `j` -/
def zipAt (f : α → α → α) (b : List (List α)) (j : Nat) (row : List α) : List α :=
  match b[j]? with
  | some r2 => List.zipWith f row r2
  | none => row

theorem mapIdx_id (F : Nat → β → β) (l : List β) (h : ∀ j x, F j x = x) : l.mapIdx F = l := by
  apply List.ext_getElem?
  intro j
  rw [List.getElem?_mapIdx]
  cases l[j]? with
  | none => rfl
  | some x => exact congrArg some (h j x)

theorem updWith_eq_mapIdx (f : α → α) (m : List (List α)) (pos : List Nat) :
    updWith f m pos = m.mapIdx (stepAt pos f) := by
  induction m generalizing pos with
  | nil => cases pos <;> rfl
  | cons row m ih =>
    cases pos with
    | nil => exact (mapIdx_id _ _ fun _ _ => rfl).symm
    | cons p pos => rw [updWith, ih, List.mapIdx_cons]; rfl

theorem zipRows_eq_mapIdx (f : α → α → α) (a b : List (List α)) :
    zipRows f a b = a.mapIdx (zipAt f b) := by
  induction a generalizing b with
  | nil => cases b <;> rfl
  | cons r1 a ih =>
    cases b with
    | nil => exact (mapIdx_id _ _ fun _ _ => rfl).symm
    | cons r2 b => rw [zipRows, ih, List.mapIdx_cons]; rfl

theorem probe_eq_zipWith (d : α) (m : List (List α)) (pos : List Nat) :
    probe d m pos = List.zipWith (fun row p => row.getD p d) m pos := by
  induction m generalizing pos with
  | nil => cases pos <;> rfl
  | cons row m ih =>
    cases pos with
    | nil => rfl
    | cons p pos => rw [probe, ih, List.zipWith_cons_cons]

theorem length_updWith (f : α → α) (m : List (List α)) (pos : List Nat) :
    (updWith f m pos).length = m.length := by
  rw [updWith_eq_mapIdx, List.length_mapIdx]

theorem length_zipRows (f : α → α → α) (a b : List (List α)) :
    (zipRows f a b).length = a.length := by
  rw [zipRows_eq_mapIdx, List.length_mapIdx]

theorem row_length_updWith (f : α → α) (m : List (List α)) (pos : List Nat) (n : Nat)
    (h : ∀ row ∈ m, row.length = n) : ∀ row ∈ updWith f m pos, row.length = n := by
  intro row hrow
  rw [updWith_eq_mapIdx, List.mem_mapIdx] at hrow
  obtain ⟨j, hj, rfl⟩ := hrow
  unfold stepAt
  split
  · rw [modAt_length]; exact h _ (List.getElem_mem hj)
  · exact h _ (List.getElem_mem hj)

theorem row_length_zipRows (f : α → α → α) (a b : List (List α)) (n : Nat)
    (ha : ∀ row ∈ a, row.length = n) (hb : ∀ row ∈ b, row.length = n) :
    ∀ row ∈ zipRows f a b, row.length = n := by
  intro row hrow
  rw [zipRows_eq_mapIdx, List.mem_mapIdx] at hrow
  obtain ⟨j, hj, rfl⟩ := hrow
  unfold zipAt
  split
  · next r2 h2 =>
    rw [List.length_zipWith, ha _ (List.getElem_mem hj), hb _ (List.mem_of_getElem? h2),
      Nat.min_self]
  · exact ha _ (List.getElem_mem hj)

theorem getD_mapIdx_nil (F : Nat → List α → List α) (hF : ∀ j, F j [] = []) (m : List (List α))
    (r : Nat) : (m.mapIdx F).getD r [] = F r (m.getD r []) := by
  rw [List.getD_eq_getElem?_getD, List.getD_eq_getElem?_getD, List.getElem?_mapIdx]
  cases m[r]? with
  | none => exact (hF r).symm
  | some row => rfl

theorem getD_updWith (f : α → α) (m : List (List α)) (pos : List Nat) (r : Nat) :
    (updWith f m pos).getD r [] = stepAt pos f r (m.getD r []) := by
  rw [updWith_eq_mapIdx]
  exact getD_mapIdx_nil _ (fun j => by unfold stepAt; split <;> rfl) m r

theorem getD_zipRows (f : α → α → α) (a b : List (List α)) (r : Nat) :
    (zipRows f a b).getD r [] = zipAt f b r (a.getD r []) := by
  rw [zipRows_eq_mapIdx]
  exact getD_mapIdx_nil _ (fun j => by unfold zipAt; split <;> rfl) a r

theorem mem_probe (d : α) (m : List (List α)) (pos : List Nat) (v : α) :
    v ∈ probe d m pos
      ↔ ∃ r, r < m.length ∧ r < pos.length ∧ v = (m.getD r []).getD (pos.getD r 0) d := by
  rw [probe_eq_zipWith, List.mem_iff_getElem]
  constructor
  · rintro ⟨r, hr, rfl⟩
    rw [List.length_zipWith] at hr
    have h1 : r < m.length := Nat.lt_of_lt_of_le hr (Nat.min_le_left ..)
    have h2 : r < pos.length := Nat.lt_of_lt_of_le hr (Nat.min_le_right ..)
    refine ⟨r, h1, h2, ?_⟩
    rw [List.getElem_zipWith, List.getD_eq_getElem?_getD (l := m), List.getD_eq_getElem?_getD
      (l := pos), List.getElem?_eq_getElem h1, List.getElem?_eq_getElem h2]
    rfl
  · rintro ⟨r, h1, h2, rfl⟩
    refine ⟨r, by rw [List.length_zipWith]; exact Nat.lt_min.2 ⟨h1, h2⟩, ?_⟩
    rw [List.getElem_zipWith, List.getD_eq_getElem?_getD (l := m), List.getD_eq_getElem?_getD
      (l := pos), List.getElem?_eq_getElem h1, List.getElem?_eq_getElem h2]
    rfl

theorem getD_map (g : α → β) (l : List α) (i : Nat) (d : α) :
    (l.map g).getD i (g d) = g (l.getD i d) := by
  rw [List.getD_eq_getElem?_getD, List.getElem?_map, Option.getD_map, ← List.getD_eq_getElem?_getD]

theorem getD_getD_map (g : α → β) (m : List (List α)) (r c : Nat) (d : α) :
    ((m.map (List.map g)).getD r []).getD c (g d) = g ((m.getD r []).getD c d) := by
  rw [← getD_map g, ← getD_map (List.map g) m r []]
  rfl

theorem map_modAt (g : α → β) (f : α → α) (f' : β → β) (d : α) (l : List α) (i : Nat)
    (h : i < l.length → g (f (l.getD i d)) = f' (g (l.getD i d))) :
    (modAt l i f).map g = modAt (l.map g) i f' := by
  induction l generalizing i with
  | nil => rfl
  | cons a as ih =>
    cases i with
    | zero => exact congrArg (· :: as.map g) (h (Nat.succ_pos _))
    | succ i => exact congrArg (g a :: ·) (ih i fun hi => h (Nat.succ_lt_succ hi))

theorem map_updWith (g : α → β) (f : α → α) (f' : β → β) (d : α) (m : List (List α))
    (pos : List Nat) (h : ∀ x ∈ probe d m pos, g (f x) = f' (g x)) :
    (updWith f m pos).map (List.map g) = updWith f' (m.map (List.map g)) pos := by
  induction m generalizing pos with
  | nil => cases pos <;> rfl
  | cons row m ih =>
    cases pos with
    | nil => rfl
    | cons p pos =>
      show (modAt row p f).map g :: (updWith f m pos).map (List.map g) = _
      rw [ih pos fun x hx => h x (List.mem_cons_of_mem _ hx),
        map_modAt g f f' d row p fun _ => h _ List.mem_cons_self]
      rfl

theorem map_zipWith_of (g : α → β) (f : α → α → α) (f' : β → β → β) (r1 r2 : List α)
    (h : ∀ p ∈ List.zip r1 r2, g (f p.1 p.2) = f' (g p.1) (g p.2)) :
    (List.zipWith f r1 r2).map g = List.zipWith f' (r1.map g) (r2.map g) := by
  induction r1 generalizing r2 with
  | nil => rfl
  | cons a r1 ih =>
    cases r2 with
    | nil => rfl
    | cons b r2 =>
      show g (f a b) :: (List.zipWith f r1 r2).map g = _
      rw [h (a, b) List.mem_cons_self, ih r2 fun p hp => h p (List.mem_cons_of_mem _ hp)]
      rfl

theorem map_zipRows (g : α → β) (f : α → α → α) (f' : β → β → β) (a b : List (List α))
    (h : ∀ rr ∈ List.zip a b, ∀ p ∈ List.zip rr.1 rr.2, g (f p.1 p.2) = f' (g p.1) (g p.2)) :
    (zipRows f a b).map (List.map g)
      = zipRows f' (a.map (List.map g)) (b.map (List.map g)) := by
  induction a generalizing b with
  | nil => cases b <;> rfl
  | cons r1 a ih =>
    cases b with
    | nil => rfl
    | cons r2 b =>
      show (List.zipWith f r1 r2).map g :: (zipRows f a b).map (List.map g) = _
      rw [ih b fun rr hrr => h rr (List.mem_cons_of_mem _ hrr),
        map_zipWith_of g f f' r1 r2 (h (r1, r2) List.mem_cons_self)]
      rfl

theorem map_probe (g : α → β) (d : α) (m : List (List α)) (pos : List Nat) :
    (probe d m pos).map g = probe (g d) (m.map (List.map g)) pos := by
  induction m generalizing pos with
  | nil => cases pos <;> rfl
  | cons row m ih =>
    cases pos with
    | nil => rfl
    | cons p pos =>
      show g (row.getD p d) :: (probe d m pos).map g = _
      rw [ih pos, List.getD_eq_getElem?_getD, ← Option.getD_map g d, ← List.getElem?_map,
        ← List.getD_eq_getElem?_getD]
      rfl

end Gostatix.Rows

namespace Gostatix

theorem modAt_comm {α : Type} (l : List α) (i j : Nat) (f g : α → α)
    (h : i ≠ j ∨ ∀ x, f (g x) = g (f x)) :
    modAt (modAt l i f) j g = modAt (modAt l j g) i f := by
  induction l generalizing i j with
  | nil => rfl
  | cons a as ih =>
    cases i <;> cases j <;> try rfl
    · rcases h with h | h
      · exact absurd rfl h
      · exact congrArg (· :: as) (h a).symm
    · exact congrArg (a :: ·) (ih _ _ (h.imp (fun h e => h (congrArg (· + 1) e)) id))

theorem mapIdx_comm {α : Type} (F G : Nat → α → α) (l : List α)
    (h : ∀ j x, G j (F j x) = F j (G j x)) : (l.mapIdx F).mapIdx G = (l.mapIdx G).mapIdx F := by
  rw [List.mapIdx_mapIdx, List.mapIdx_mapIdx]
  congr 1
  funext j x
  exact h j x

/-- for ALL lengths and positions: when `p` is beyond the shorter of the two rows the update is
    lost in both orders (truncated away by `zipWith` on the left, out of range for `modAt` on the
    right). -/
theorem zipWith_modAt {α : Type} (f : α → α → α) (g : α → α) (h : ∀ x y, f (g x) y = g (f x y))
    (row src : List α) (p : Nat) :
    List.zipWith f (modAt row p g) src = modAt (List.zipWith f row src) p g := by
  induction row generalizing src p with
  | nil => rfl
  | cons a as ih =>
    cases src with
    | nil => cases p <;> rfl
    | cons b bs =>
      cases p with
      | zero => simp only [modAt, List.zipWith_cons_cons, h]
      | succ p => simp only [modAt, List.zipWith_cons_cons]; rw [ih]

/-- the result has the length of the shortest of the three rows either way. -/
theorem zipWith_right_comm {α : Type} (f : α → α → α) (h : ∀ x y z, f (f x y) z = f (f x z) y)
    (row a b : List α) :
    List.zipWith f (List.zipWith f row a) b = List.zipWith f (List.zipWith f row b) a := by
  induction row generalizing a b with
  | nil => rfl
  | cons x xs ih =>
    cases a with
    | nil => cases b <;> rfl
    | cons y ys =>
      cases b with
      | nil => rfl
      | cons z zs => simp only [List.zipWith_cons_cons, ih, h]

namespace Rows

theorem updWith_comm {α : Type} (f g : α → α) (h : ∀ x, f (g x) = g (f x)) (m : List (List α))
    (p q : List Nat) :
    updWith g (updWith f m p) q = updWith f (updWith g m q) p := by
  simp only [updWith_eq_mapIdx]
  refine mapIdx_comm _ _ m fun j row => ?_
  unfold stepAt
  cases p[j]? <;> cases q[j]? <;> try rfl
  exact modAt_comm row _ _ f g (.inr h)

theorem zipRows_updWith {α : Type} (f : α → α → α) (g : α → α) (h : ∀ x y, f (g x) y = g (f x y))
    (m src : List (List α)) (pos : List Nat) :
    zipRows f (updWith g m pos) src = updWith g (zipRows f m src) pos := by
  simp only [updWith_eq_mapIdx, zipRows_eq_mapIdx]
  refine mapIdx_comm _ _ m fun j row => ?_
  unfold stepAt zipAt
  cases pos[j]? <;> cases src[j]? <;> try rfl
  exact zipWith_modAt f g h row _ _

theorem zipRows_right_comm {α : Type} (f : α → α → α) (h : ∀ x y z, f (f x y) z = f (f x z) y)
    (m a b : List (List α)) : zipRows f (zipRows f m a) b = zipRows f (zipRows f m b) a := by
  simp only [zipRows_eq_mapIdx]
  refine mapIdx_comm _ _ m fun j row => ?_
  unfold zipAt
  cases a[j]? <;> cases b[j]? <;> try rfl
  exact zipWith_right_comm f h row _ _

end Rows

end Gostatix

namespace Gostatix.CMS
open Gostatix.Rows

theorem updRows_eq (m : List (List Nat)) (pos : List Nat) (c : Nat) :
    updRows m pos c = updWith (· + c) m pos := by
  induction m generalizing pos with
  | nil => cases pos <;> rfl
  | cons row m ih =>
    cases pos with
    | nil => rfl
    | cons p pos => exact congrArg (_ :: ·) (ih pos)

theorem addRows_eq (a b : List (List Nat)) : addRows a b = zipRows (· + ·) a b := by
  induction a generalizing b with
  | nil => cases b <;> rfl
  | cons r1 a ih =>
    cases b with
    | nil => rfl
    | cons r2 b => exact congrArg (_ :: ·) (ih b)

theorem cells_eq (m : List (List Nat)) (pos : List Nat) : cells m pos = probe 0 m pos := by
  induction m generalizing pos with
  | nil => cases pos <;> rfl
  | cons row m ih =>
    cases pos with
    | nil => rfl
    | cons p pos => exact congrArg (_ :: ·) (ih pos)

end Gostatix.CMS

namespace Gostatix.CMSM
open Gostatix.Rows

theorem updRowsM_eq (m : List (List UInt64)) (pos : List Nat) (c : UInt64) :
    updRowsM m pos c = updWith (fun cell => cellUpdate cell c) m pos := by
  induction m generalizing pos with
  | nil => cases pos <;> rfl
  | cons row m ih =>
    cases pos with
    | nil => rfl
    | cons p pos => exact congrArg (_ :: ·) (ih pos)

theorem addRowsM_eq (a b : List (List UInt64)) : addRowsM a b = zipRows cellMerge a b := by
  induction a generalizing b with
  | nil => cases b <;> rfl
  | cons r1 a ih =>
    cases b with
    | nil => rfl
    | cons r2 b => exact congrArg (_ :: ·) (ih b)

theorem cellsM_eq (m : List (List UInt64)) (pos : List Nat) : cellsM m pos = probe 0 m pos := by
  induction m generalizing pos with
  | nil => cases pos <;> rfl
  | cons row m ih =>
    cases pos with
    | nil => rfl
    | cons p pos => exact congrArg (_ :: ·) (ih pos)

end Gostatix.CMSM
